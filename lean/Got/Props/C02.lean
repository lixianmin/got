import Got.Lemmas.MSQueueGlobal
import Got.Lemmas.MSQueueAst
/-
C02 — loom.Queue is lock-free: an operation running alone always finishes.

Model: `Got.Model.MSQueue` (one `tau t` = one shared-memory access of loom/queue.go = one step of the
controlled scheduler on the real code).  `solo t k s` = `k` successive steps of thread `t` with every
other thread frozen wherever it happens to be; `busy s t` = thread `t` is inside a Push or Pop (`pc ≠ idle`: a crashed thread would be
busy for ever; no reachable state has one, `C01_no_crash`, which the proofs below have from `Inv`).
-/
open Got.Model.MSQueue

/-- **C02.** From every reachable state (any number of threads, any client programs, any
    interleaving; the other threads are frozen at arbitrary points inside their operations), a busy
    thread that keeps running alone returns within `K = 13` of its own steps. -/
theorem C02_solo_bound : ∀ (acts : List Act) (t : Nat), busy (run init acts) t →
    ∃ k, k ≤ K ∧ ¬ busy (solo t k (run init acts)) t :=
  fun acts t _ => solo_bound (inv_reachable acts) t

/-- the measure behind the bound: it is at most `K` and strictly decreases with every solo step of a
    busy thread (in every reachable state). -/
theorem C02_measure : ∀ (acts : List Act) (t : Nat),
    mu (run init acts) t ≤ K ∧
    (busy (run init acts) t → mu (tau (run init acts) t) t < mu (run init acts) t) :=
  fun acts t => ⟨mu_le_K _ t, fun hb => mu_dec (inv_reachable acts) hb⟩

/-- a step of a thread never makes *another* thread's operation return or start: freezing is
    faithful (the solo thread's steps change only its own pc). -/
theorem C02_solo_frame : ∀ (s : State) (t t' : Nat), t' ≠ t → (tau s t).pc t' = s.pc t' :=
  fun s t _ h => (step_spec s (.tau t)).pc_other h

/-- thread 0 has linked its node and is frozen before swinging the tail; thread 1 then invokes Push. -/
def lagPush : List Act :=
  [.invPush 0 1, .tau 0, .tau 0, .tau 0, .tau 0, .invPush 1 2]

/-- the solo Push goes through its helping branch: exactly 9 steps (4 helping + 5). -/
example : busy (run init lagPush) 1 ∧ busy (solo 1 8 (run init lagPush)) 1 ∧
    ¬ busy (solo 1 9 (run init lagPush)) 1 ∧ mu (run init lagPush) 1 = 9 := by decide

/-- same state, thread 2 invokes Pop: head = tail and the tail lags, 10 steps (5 helping + 5). -/
def lagPop : List Act :=
  [.invPush 0 1, .tau 0, .tau 0, .tau 0, .tau 0, .invPop 2]

example : busy (run init lagPop) 2 ∧ busy (solo 2 9 (run init lagPop)) 2 ∧
    ¬ busy (solo 2 10 (run init lagPop)) 2 ∧ mu (run init lagPop) 2 = 10 := by decide

/-- the bound `K = 13` is attained: thread 2 loaded the head (n0) and is frozen; thread 0 pushes 1
    completely, thread 1 pops it (head moves to n1), thread 3 links a node behind n1 and is frozen
    before swinging the tail.  Thread 2, alone: 3 steps to fail the re-check of its stale head,
    5 steps of a helping iteration, 5 steps of a successful iteration. -/
def worstPop : List Act :=
  [.invPop 2, .tau 2,
   .invPush 0 1, .tau 0, .tau 0, .tau 0, .tau 0, .tau 0,
   .invPop 1, .tau 1, .tau 1, .tau 1, .tau 1, .tau 1,
   .invPush 3 3, .tau 3, .tau 3, .tau 3, .tau 3]

example : busy (run init worstPop) 2 ∧ busy (solo 2 12 (run init worstPop)) 2 ∧
    ¬ busy (solo 2 13 (run init worstPop)) 2 ∧ mu (run init worstPop) 2 = 13 := by decide

/-
System-wide lock-freedom (stronger than the solo statement: nobody runs alone).
`completed s` = number of operations that have returned (`.ret` events of the log); `Sched n s as` = every `tau`
step of the action list `as` is taken by a thread with id `< n` that is busy at that moment, invocations by any
thread are interleaved freely; `nTau as` = number of `tau` steps; `F n = (K·n + 1)·(2n + 2)`.  The proof
(Got/Lemmas/MSQueueGlobal.lean) is by a potential: a failed CAS / re-check is paid for by the link or swing of another
operation, of which a window without completion contains at most `2n + 1`. -/

/-- **Lock-freedom under arbitrary interleaving** (mechanism "a failed CAS implies another operation made
    progress"): from every reachable state, in every window that contains at least `m · F n` steps — each by an
    arbitrary busy thread with id below `n`, interleaved with arbitrary invocations, no thread running alone — at
    least `m` operations complete. -/
theorem C02_lock_free_window : ∀ (acts : List Act) (n : Nat) (as : List Act),
    Sched n (run init acts) as → ∀ m, m * F n ≤ nTau as →
    completed (run init acts) + m ≤ completed (run (run init acts) as) :=
  fun acts _ _ hs m hlen => lock_free_window (inv_reachable acts) hs m hlen

/-- the `tau`-only form: under ANY interleaving of the steps of busy threads with ids below `n`, some operation
    returns within `F n` steps. -/
theorem C02_lock_free_global : ∀ (acts : List Act) (ts : List Nat) (n : Nat),
    (∀ t ∈ ts, t < n) → BusySched (run init acts) ts → F n ≤ ts.length →
    completed (run init acts) < completed (ts.foldl tau (run init acts)) :=
  fun acts _ _ hn hs hlen => lock_free_global (inv_reachable acts) hn hs hlen

/-- every busy step either completes an operation or strictly decreases the potential (the amortised core). -/
theorem C02_step_dichotomy : ∀ (acts : List Act) (t n : Nat), t < n → busy (run init acts) t →
    completed (run init acts) < completed (tau (run init acts) t) ∨
    phi n (tau (run init acts) t) < phi n (run init acts) :=
  fun acts _ _ ht hb => tau_dichotomy (inv_reachable acts) ht hb

/-- non-vacuity: all hypotheses of `C02_lock_free_window` hold together on a concrete window (two threads, one
    pushing and one popping for ever, round-robin: 166 ≥ F 2 = 162 `tau` steps), so the theorem applies. -/
example : completed (run init []) + 1 ≤ completed (run (run init []) (rr 100 init)) :=
  C02_lock_free_window [] 2 (rr 100 init) rr_hyps.1 1 rr_hyps.2

/-
`Got.Model.MSQueueGen.genRun acts` is the state of the LTS generated from the current source of loom/queue.go after
the client actions `acts` (see Got/Props/C01.lean); `genSolo t k` = `k` successive steps of thread `t` alone in that LTS. -/

/-- **C02 for the translated source.** From every reachable state of the LTS generated from the source, a thread that is
    inside a Push or Pop and keeps running alone (everybody else frozen) is back to idle within `K = 13` of its own
    steps. -/
theorem C02_translated_source_solo_bound : ∀ (acts : List Act) (t : Nat),
    Got.Model.AtomicIR.isIdle ((Got.Model.MSQueueGen.genRun acts).conf t) = false →
    ∃ k, k ≤ 13 ∧ Got.Model.AtomicIR.isIdle
      ((Got.Model.MSQueueGen.genSolo t k (Got.Model.MSQueueGen.genRun acts)).conf t) = true := by
  intro acts t hb
  obtain ⟨aux, he⟩ := Got.Lemmas.MSQueueAst.genRun_eq acts
  rw [he] at hb ⊢
  have hbusy : busy (run init acts) t := fun hi => by
    rw [(Got.Lemmas.MSQueueAst.concState_idle_iff _ _ t).2 hi] at hb; cases hb
  obtain ⟨k, hk, hd⟩ := C02_solo_bound acts t hbusy
  obtain ⟨aux', ha⟩ := Got.Lemmas.MSQueueAst.solo_sim t k (run init acts) aux
  refine ⟨k, hk, ?_⟩
  unfold Got.Model.MSQueueGen.genSolo
  rw [ha]
  exact (Got.Lemmas.MSQueueAst.concState_idle_iff _ _ t).2 (Classical.not_not.1 hd)

/-- non-vacuity, on the generated LTS itself: in the state reached by `lagPush` (a linked but unswung node) thread 1's
    Push is busy, still busy after 8 solo steps and idle after 9; in `worstPop` the bound 13 is attained. -/
example :
    Got.Model.AtomicIR.isIdle ((Got.Model.MSQueueGen.genRun lagPush).conf 1) = false ∧
    Got.Model.AtomicIR.isIdle ((Got.Model.MSQueueGen.genSolo 1 8 (Got.Model.MSQueueGen.genRun lagPush)).conf 1) = false ∧
    Got.Model.AtomicIR.isIdle ((Got.Model.MSQueueGen.genSolo 1 9 (Got.Model.MSQueueGen.genRun lagPush)).conf 1) = true ∧
    Got.Model.AtomicIR.isIdle ((Got.Model.MSQueueGen.genSolo 2 12 (Got.Model.MSQueueGen.genRun worstPop)).conf 2) = false ∧
    Got.Model.AtomicIR.isIdle ((Got.Model.MSQueueGen.genSolo 2 13 (Got.Model.MSQueueGen.genRun worstPop)).conf 2) = true := by
  decide
