import Got.Lemmas.DiscMSQueue
import Got.Lemmas.DiscWheel
import Got.Lemmas.DiscWaitClose
import Got.Lemmas.DiscCache
import Got.Lemmas.DiscTaskQ
import Got.Lemmas.DiscAnts
/-
C18 — goroutine-safe APIs are free of data races (publication discipline).

What is proved here (for all thread counts, all interleavings, all lengths):
  * `C18_discipline_sound`: a trace of plain accesses / releases / acquires that the discipline monitor
    accepts is race free in the sense of the Go memory model's happens-before (declarative `HB`).
  * the three synchronisation skeletons the repository uses for its plain shared fields only produce
    accepted traces: publish-once (A), ants attempt arbitration (B), mutex-guarded (C).
  * per component, the trace of each plain shared field is race free (`…_race_free`).  The trace is defined by recursion
    over the action list of the component's own LTS (the models of C01, C03, C16, C04–C06, C09, C07/C08), so these
    theorems quantify over every execution of those models: any number of goroutines, any interleaving.  Negative
    controls on the same models.
  * the pre-fix code shapes are rejected, and for the cachex status check the rejected trace really
    contains a race (¬ HB between the conflicting accesses).
What is NOT proved (trusted, see DESIGN.md C18): that the compiled code performs exactly these events
(tie: srcfacts access-site table matched by drv_discipline against `Got.Model.Discipline.sites`), that the
listed primitives synchronise as the Go memory model documents, and that an acquire synchronises with
every earlier release on the same object for the objects used (WaitGroup, closed channel, mutex, CAS/Swap
chains, atomic words with ordered writers).
-/
open Got.Model.Discipline Got.Lemmas.Discipline

/-- Soundness of the discipline: accepted ⇒ no two conflicting accesses are unordered by happens-before. -/
theorem C18_discipline_sound (tr : List Ev) (h : accepts tr = true) : RaceFree tr :=
  accepts_raceFree tr h

/-- Protocol A (publish once): any creator, any number of other threads releasing/acquiring any objects in
    any order; readers read only after an acquire that observed the publication. -/
theorem C18_publish_once_accepted (c : Nat) (acts : List PubAct) (s : PubState) (evs : List Ev)
    (h : (PubState.init c).run acts = some (s, evs)) : accepts evs = true := by
  obtain ⟨m, hm⟩ := pub_run acts (pub_init c) h
  exact accepts_of_run hm

theorem C18_publish_once_race_free (c : Nat) (acts : List PubAct) (s : PubState) (evs : List Ev)
    (h : (PubState.init c).run acts = some (s, evs)) : RaceFree evs :=
  C18_discipline_sound evs (C18_publish_once_accepted c acts s evs h)

/-- Protocol C (mutex guarded): any number of threads, accesses only while holding the mutex. -/
theorem C18_mutex_accepted (acts : List MuAct) (s : MuState) (evs : List Ev)
    (h : MuState.init.run acts = some (s, evs)) : accepts evs = true := by
  obtain ⟨m, hm⟩ := mu_run acts mu_init h
  exact accepts_of_run hm

theorem C18_mutex_race_free (acts : List MuAct) (s : MuState) (evs : List Ev)
    (h : MuState.init.run acts = some (s, evs)) : RaceFree evs :=
  C18_discipline_sound evs (C18_mutex_accepted acts s evs h)

/-- Protocol B (ants): any number of attempts, either side winning each per-attempt CAS, the inner worker that lost
    still taking the closure and closing doneChan until the next attempt starts, any number of clients calling
    Get/Err after Done. -/
theorem C18_ants_accepted (acts : List AntsAct) (s : AntsState) (evs : List Ev)
    (h : AntsState.init.run acts = some (s, evs)) : accepts evs = true := by
  obtain ⟨m, hm⟩ := ants_run acts ants_init h
  exact accepts_of_run hm

theorem C18_ants_race_free (acts : List AntsAct) (s : AntsState) (evs : List Ev)
    (h : AntsState.init.run acts = some (s, evs)) : RaceFree evs :=
  C18_discipline_sound evs (C18_ants_accepted acts s evs h)

/-- loom.Queue: `node.value` of every node — written by the pusher at allocation, published by the linking CAS,
    read by Pop after the atomic load of the predecessor's `next` (events from the C01 model). -/
theorem C18_msqueue_value_race_free (acts : List Got.Model.MSQueue.Act) (n : Nat) :
    RaceFree (Got.Model.MSQueue.valueEvents n acts) :=
  accepts_raceFree _ (Got.Lemmas.DiscMSQueue.value_accepted acts n)

/-- loom.Wheel: `wheelData.c` of every channel object, incl. the initial ones written by NewWheel's caller —
    written before the slot swap/publication, read by requesters after the slot load and by the ticker at close
    (events from the C03 model; any number of requesters, NewTimer/AfterFunc/Reset). -/
theorem C18_wheel_chan_race_free (n step : Nat) (hn : 0 < n) (acts : List Got.Model.Wheel.Act) (c : Nat) :
    RaceFree (Got.Model.WheelEvents.chanEvents n step c acts) :=
  accepts_raceFree _ (Got.Lemmas.DiscWheel.chan_accepted n step hn acts c)

/-- loom.WaitClose: `closeChan` — written once under the mutex by whichever goroutine initialises or closes first,
    read after an atomic load of a non-new state or under the mutex (events from the C16 model). -/
theorem C18_waitclose_closeChan_race_free (acts : List Got.Model.WaitClose.Act) :
    RaceFree (Got.Model.WaitCloseEvents.closeChanEvents Got.Model.WaitClose.init acts) :=
  accepts_raceFree _ (Got.Lemmas.DiscWaitClose.closeChan_accepted acts)

/-- loom.WaitClose: the plain reads of `state` inside the mutex against its (atomic) writes, all inside the mutex. -/
theorem C18_waitclose_state_race_free (acts : List Got.Model.WaitClose.Act) :
    RaceFree (Got.Model.WaitCloseEvents.stateEvents Got.Model.WaitClose.init acts) :=
  accepts_raceFree _ (Got.Lemmas.DiscWaitClose.state_accepted acts)

/-- negative controls on the WaitClose model: dropping the atomic load before the `closeChan` read, or reading
    `state` plainly on the fast path, yields a rejected trace. -/
theorem C18_waitclose_controls :
    accepts (Got.Model.WaitCloseEvents.closeChanEventsG false Got.Model.WaitClose.init Got.Lemmas.DiscWaitClose.ctlActs) = false ∧
    accepts (Got.Model.WaitCloseEvents.stateEventsG true Got.Model.WaitClose.init Got.Lemmas.DiscWaitClose.ctlActs) = false :=
  ⟨by decide, by decide⟩

/-- cachex: `Future.value/err` of every future (one location: the two are written and read together) — written by
    the resolving worker (or Set) before the atomic `updateTime` store, the predecessor store and `wg.Done`; read by
    `Future.Get1/Get2` after `Wait` and by the status check only after an `updateTime` load that returned non-zero
    (events from the C04–C06 model; every configuration, every execution, every future). -/
theorem C18_cache_future_race_free (cfg : Got.Model.Cache.Cfg) (acts : List Got.Model.Cache.Act)
    (f : Got.Model.Cache.FutId) :
    RaceFree (Got.Model.CacheEvents.errEvents cfg false f Got.Model.Cache.init acts) :=
  accepts_raceFree _ (Got.Lemmas.DiscCache.err_accepted cfg acts f)

/-- negative control on the cachex model: with the OLD status check (err read before the IsZero test) a concrete
    run of the model yields a rejected trace. -/
theorem C18_cache_old_status_rejected :
    accepts (Got.Model.CacheEvents.errEvents Got.Model.CacheEvents.ctlCfg true 0 Got.Model.Cache.init
      Got.Model.CacheEvents.oldStatusRun) = false :=
  by decide

/-- taskx: `taskCallback.result/err` of every task — written by the single consumer in `Do` before `wg.Done`, read
    by clients' `Get1/Get2` after `Wait` (events from the C09 model extended by client Get actions), in the scope
    C18 states: each task is executed once (`execCount ≤ 1`). -/
theorem C18_taskq_result_race_free (cap : Nat) (acts : List Got.Model.TaskQEvents.XAct) (k : Nat)
    (honce : Got.Model.TaskQEvents.execCount k (Got.Model.TaskQEvents.xrun (Got.Model.TaskQ.init cap) acts) ≤ 1) :
    RaceFree (Got.Model.TaskQEvents.resultEvents k (Got.Model.TaskQ.init cap) acts) :=
  accepts_raceFree _ (Got.Lemmas.DiscTaskQ.result_accepted cap acts k honce)

/-- the scope is necessary: a second `Do` of a task after a client's Get2 (documented limitation in
    task_callback.go), directly or by re-sending the task, yields a rejected trace. -/
theorem C18_taskq_second_do_rejected :
    accepts (Got.Model.TaskQEvents.resultEvents 0 (Got.Model.TaskQ.init 1) Got.Lemmas.DiscTaskQ.redoActs) = false ∧
    accepts (Got.Model.TaskQEvents.resultEvents 0 (Got.Model.TaskQ.init 1) Got.Lemmas.DiscTaskQ.resendActs) = false :=
  ⟨by decide, by decide⟩

/-- ants: `taskCallback.result/err` of every task — one write per attempt by whichever side wins the per-attempt
    CAS, `close(doneChan)` → dispatcher's receive when the inner worker won, the dispatcher's reads between
    attempts, `Done` → clients' `Wait` (events from the C07/C08 model of the CURRENT code extended by client Get
    actions; every execution, every task).  `hraw` excludes `rawRead`, the one extended action that is not in the code: a
    client read without `Wait`, rejected by `C18_ants_controls`. -/
theorem C18_ants_result_race_free (c : Got.Model.Ants.Cfg) (hc : c.old = false)
    (acts : List Got.Model.AntsEvents.XAct) (hraw : ∀ x, x ∈ acts → x.isRaw = false) (k : Nat) :
    RaceFree (Got.Model.AntsEvents.resultEvents k c Got.Model.Ants.init acts) :=
  accepts_raceFree _ (Got.Lemmas.DiscAnts.result_accepted c hc acts hraw k)

/-- negative controls on the ants model: a client read without `Wait` (the old `Err()`), the old torn schedule and
    the old unordered double write are rejected. (The old *empty* result is a lost outcome, not a race.)  The three
    schedules are enabled runs of the model: `raw_run_ok`, `old_torn_run_ok`, `old_write_write_run_ok` (Lemmas/DiscAnts). -/
theorem C18_ants_controls :
    accepts (Got.Model.AntsEvents.resultEvents 0 { N := 1 } Got.Model.Ants.init Got.Lemmas.DiscAnts.rawActs) = false ∧
    accepts (Got.Model.AntsEvents.resultEvents 0 { N := 1, old := true } Got.Model.Ants.init Got.Lemmas.DiscAnts.oldTornActs) = false ∧
    accepts (Got.Model.AntsEvents.resultEvents 0 { N := 1, old := true } Got.Model.Ants.init Got.Lemmas.DiscAnts.oldWriteWriteActs) = false :=
  ⟨by decide, by decide, by decide⟩

theorem C18_old_ants_torn_rejected : accepts oldAntsTornTrace = false := by decide
theorem C18_old_ants_err_rejected : accepts oldAntsErrTrace = false := by decide
theorem C18_old_cache_err_rejected : accepts oldCacheErrTrace = false := by decide

theorem C18_hb_lt {tr : List Ev} {i j : Nat} (h : HB tr i j) : i < j := by
  induction h with
  | po _ _ _ _ h _ _ _ => exact h
  | sw _ _ _ _ _ h _ _ => exact h
  | trans _ _ _ _ _ ih1 ih2 => omega

/-- …and the rejected cachex trace really is a data race: the worker's write of `err` and the status
    check's read are conflicting and not ordered by happens-before. -/
theorem C18_old_cache_err_race : ¬ RaceFree oldCacheErrTrace := by
  intro h
  cases h 0 1 (.wr 0) (.rd 1) (by omega) (by decide) (by decide) (by decide) with
  | po _ _ e f _ hi hj ht => simp [oldCacheErrTrace] at hi hj; subst hi; subst hj; simp [Ev.thr] at ht
  | sw _ _ t u a _ hi _ => simp [oldCacheErrTrace] at hi
  | trans _ k _ h1 h2 => have := C18_hb_lt h1; have := C18_hb_lt h2; omega

/-! Non-vacuity: each protocol has executions that exercise every kind of step. -/
example : ((PubState.init 0).run [.write, .creatorRead, .release 0 5, .acquire 1 5, .read 1, .release 1 6,
    .acquire 2 6, .read 2]).isSome = true := by decide
example : (MuState.init.run [.lock 1, .write 1, .unlock 1, .lock 2, .read 2, .write 2, .unlock 2]).isSome = true := by
  decide
example : (AntsState.init.run [.dispatch, .take, .dispWin, .innerClose, .dispRead, .dispatch, .take, .innerWin,
    .innerClose, .dispWait, .dispRead, .finish, .clientGet 7, .clientGet 8]).isSome = true := by decide
/-- a reader that acquired BEFORE the publication does not know, so its read is not an execution -/
example : ((PubState.init 0).run [.write, .acquire 1 5, .release 0 5, .read 1]).isSome = false := by decide
