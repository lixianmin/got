import Got.Lemmas.WheelAst
/-
C03 — Wheel timers fire exactly once, never late and less than one step early.

Model: Got/Model/Wheel.lean (transition system of loom/wheel.go + wheel_timer.go, one transition per atomic
access; `run fixed (init n step) acts` for an arbitrary action list `acts` covers every number of requester
threads, every program of NewTimer/AfterFunc/Reset calls and every interleaving with the ticker).

Vocabulary: tick j = the j-th call of onTicker; `adv` = ticks started (position stores done), `cls` = ticks
completed (closes done); `due c` = the tick that is to close channel c; a completed request is recorded as
`Req` (bucket offset k, cls/adv at the call, adv at the return, returned channel; its `retCls`, cls at the return, is printed
and compared by the driver, Got/Drv/Wheel.lean, and read by no theorem).
On the wheel's own tick clock tick j happens at time j·step.
-/
open Got.Model.Wheel Got.Lemmas.Wheel

/-- The hook sites in onTicker / fetchWheelData (the wheel-site literals of the function bodies, in program
    order) appear in the order the model's program counters assume:
    ticker = loadPos(3) storePos(6) swapSlot(5) close(7);  request = loadPos(3) loadSlot(4) reloadPos(3). -/
theorem C03_sites : tickerSites = [3, 6, 5, 7] ∧ requestSites = [3, 4, 3] := by decide

/-- The request panics iff `d < 0 ∨ d ≥ step·n`; otherwise the bucket offset satisfies `k+1 = max ⌊d/step⌋ 1`
    and `k+1 ≤ n-1` (for n ≥ 2; `k = 0` on a one-bucket wheel). -/
theorem C03_range (step n : Nat) (d : Int) :
    (rangePanics step n d = true ↔ (d < 0 ∨ (step : Int) * n ≤ d)) ∧
    (rangePanics step n d = false →
      bucketIndex step d + 1 = max (d.toNat / step) 1 ∧
      (bucketIndex step d + 1 < n ∨ (n = 1 ∧ bucketIndex step d = 0))) := by
  exact ⟨rangePanics_iff step n d,
    fun h => ⟨bucketIndex_succ step d (rangePanics_false h).1, bucketIndex_range step n d h⟩⟩

example : rangePanics 10 3 29 = false ∧ rangePanics 10 3 30 = true ∧ rangePanics 10 3 (-1) = true ∧
    bucketIndex 10 29 = 1 ∧ bucketIndex 10 9 = 0 ∧ bucketIndex 10 10 = 0 ∧ bucketIndex 10 20 = 1 := by decide

/-- Reset re-arms the timer exactly like a fresh request for the selected interval (the argument if it is
    at least one step, the timer's own interval otherwise); hence every theorem below, being stated for all
    action lists, covers Reset with the guarantee counted from the Reset call. -/
theorem C03_reset (s : State) (t : Nat) (base : Int) (arg : Option Int) :
    step fixed s (.reset t base arg) = step fixed s (.invoke t (resetInterval s.step base arg)) ∧
    resetInterval s.step base none = base ∧
    (∀ x, resetInterval s.step base (some x) = if (s.step : Int) ≤ x then x else base) := by
  refine ⟨rfl, rfl, fun x => rfl⟩

example : resetInterval 10 25 (some 9) = 25 ∧ resetInterval 10 25 (some 10) = 10 ∧ resetInterval 10 25 none = 25 := by
  decide

/-- In every reachable state no channel has been closed twice (`dblClose = false`: the Go `close` never panics),
    and a channel is closed iff its due tick is complete, and then it was closed by exactly that tick.
    (`due c = c+1` and slot contents only ever move to later due ticks, see `TInv`.) -/
theorem C03_closed_once (n step : Nat) (hn : 0 < n) (acts : List Act) :
    let s := run fixed (init n step) acts
    s.dblClose = false ∧ ∀ c, s.closedBy c = if s.due c ≤ s.cls then some (s.due c) else none := by
  intro s
  have h := (inv_reachable n step hn acts).t
  refine ⟨h.nodbl, fun c => ?_⟩
  rw [h.due_eq c]
  exact h.closed_eq c

/-- A closed channel is never re-opened and its closing tick never changes: once ready, a timer stays ready. -/
theorem C03_closed_stable (n step : Nat) (hn : 0 < n) (acts more : List Act) (c j : Nat)
    (h : (run fixed (init n step) acts).closedBy c = some j) :
    (run fixed (init n step) (acts ++ more)).closedBy c = some j := by
  have hm := (run_frame (run fixed (init n step) acts) more).cls
  rw [← run_append] at hm
  exact (inv_reachable n step hn acts).t.closed_stable (inv_reachable n step hn (acts ++ more)).t hm h

/-- For EVERY execution and every completed request r (NewTimer, AfterFunc or Reset) the returned
    channel is due at tick `L + k + 1` for some `L` between the number of ticks COMPLETE when the request was
    invoked and the number of ticks STARTED when it returned — whatever the number of concurrent requesters,
    however the request overlaps ticks, and however many whole revolutions pass during the request.  For
    n ≥ 2 even `ticks started at the invocation ≤ L`. -/
theorem C03_fire_tick (n step : Nat) (hn : 0 < n) (acts : List Act) (r : Req)
    (hr : r ∈ (run fixed (init n step) acts).done) :
    ∃ L, r.invCls ≤ L ∧ L ≤ r.retAdv ∧ (run fixed (init n step) acts).due r.chan = L + r.k + 1 ∧
      (2 ≤ n → r.invAdv ≤ L) := by
  have h := inv_reachable n step hn acts
  obtain ⟨L, h1, h2, h3, h4⟩ := (run_frame _ acts).n ▸ h.d r hr
  exact ⟨L, h1, h2, (h.t.due_eq _).trans h3, h4⟩

/-- A request that does not overlap any tick (as many ticks complete at the call as started at the return) is
    released by exactly tick `ticks + k + 1` — the closed form used by the virtual-time correspondence (Got/Drv/Wheel.lean). -/
theorem C03_fire_tick_sequential (n step : Nat) (hn : 0 < n) (acts : List Act) (r : Req)
    (hr : r ∈ (run fixed (init n step) acts).done) (hseq : r.invCls = r.retAdv) :
    (run fixed (init n step) acts).due r.chan = r.invCls + r.k + 1 := by
  obtain ⟨L, h1, h2, h3, _⟩ := C03_fire_tick n step hn acts r hr
  rw [h3, Nat.le_antisymm (hseq ▸ h2) h1]

/-- The timer of a completed request is ready exactly from tick `L + k + 1` on — not before
    (never early by a whole tick), and as soon as that tick is complete (never late), for the `L` of
    `C03_fire_tick`. -/
theorem C03_ready_iff (n step : Nat) (hn : 0 < n) (acts more : List Act) (r : Req)
    (hr : r ∈ (run fixed (init n step) acts).done) :
    ∃ L, r.invCls ≤ L ∧ L ≤ r.retAdv ∧
      (run fixed (init n step) (acts ++ more)).closedBy r.chan =
        if L + r.k + 1 ≤ (run fixed (init n step) (acts ++ more)).cls then some (L + r.k + 1) else none := by
  obtain ⟨L, h1, h2, h3, _⟩ := (inv_reachable n step hn acts).d r hr
  exact ⟨L, h1, h2, by rw [(inv_reachable n step hn (acts ++ more)).t.closed_eq, h3]⟩

/-- non-vacuity: a request (interval 0, so k = 0) that overlaps tick 1 of a 3-bucket wheel, is forced to retry by
    the re-check and is released by tick 2 (L = 1): invoke · loadPos · [tick: loadPos storePos swapSlot] · loadSlot
    (fresh channel 3!) · reloadPos (changed → retry) · loadPos · loadSlot · reloadPos. -/
example :
    let s := run fixed (init 3 10) [.invoke 7 0, .req 7, .tick, .tick, .tick, .req 7, .req 7, .req 7, .req 7, .req 7]
    s.done = [{ tid := 7, k := 0, invCls := 0, invAdv := 0, retAdv := 1, retCls := 0, chan := 1 }] ∧ s.due 1 = 2 := by
  decide

/-- non-vacuity of the readiness statement: after the `close` step of tick 1 and one more whole tick the channel is closed, by tick 2 -/
example :
    (run fixed (init 3 10) ([.invoke 7 0, .req 7, .tick, .tick, .tick, .req 7, .req 7, .req 7, .req 7, .req 7] ++
      [.tick] ++ fullTick)).closedBy 1 = some 2 := by
  decide

/-- Erasure: `adv`, `cls`, `due`, the closing tick inside `closedBy`, the per-request counters and the `done`
    log are never read by the real part — two states with the same real part (`real`: position, slots, closed
    bits, allocator, program counters and locals) have successors with the same real part.  So the ghost
    bookkeeping cannot mask or alter the behaviour of the modelled code. -/
theorem C03_ghost_erasure (v : Variant) (s s' : State) (a : Act) (h : real s = real s') :
    real (Got.Model.Wheel.step v s a) = real (Got.Model.Wheel.step v s' a) :=
  erasure v s s' a h

example : real (init 3 10) = real { init 3 10 with adv := 5, cls := 4, due := fun _ => 0, done := [] } := rfl

/-- If the request falls into tick period `L` (`L·s ≤ τ < (L+1)·s`), the timer
    released by tick `L+k+1` (time `(L+k+1)·s`) is ready after `t = fire − τ` with `D − s < t ≤ D`,
    `D = max (s·⌊d/s⌋) s`.  (Stated additively: `fire ≤ τ + D` and `τ + D < fire + s`; also `τ < fire`.) -/
theorem C03_timing (s d L τ : Nat) (_hs : 0 < s) (hL : L * s ≤ τ) (hτ : τ < (L + 1) * s) :
    let fire := fireTime s L (bucketIndex s d)
    let D := nominal s d
    τ < fire ∧ fire ≤ τ + D ∧ τ + D < fire + s := by
  intro fire D
  have hf : fire = L * s + D := fireTime_nominal s d L
  have hD : s ≤ D := Nat.le_max_right _ _
  rw [Nat.add_mul, Nat.one_mul] at hτ
  omega

example : fireTime 10 2 (bucketIndex 10 25) = 40 ∧ nominal 10 25 = 20 ∧ nominal 10 3 = 10 := by decide

/-- The closed lower bound `t = D − s` is reached only by a request issued exactly at a tick instant and
    ordered before that tick (it sees `L = τ/s − 1`). -/
theorem C03_timing_tie (s d L : Nat) :
    fireTime s L (bucketIndex s d) + s = (L + 1) * s + nominal s d := by
  rw [fireTime_nominal, Nat.add_mul, Nat.one_mul]
  omega

/-- The `L` of `C03_fire_tick` is the tick period of an instant inside the request: if tick j happens at time
    j·s, `cI` ticks were complete at the invocation instant `τi` (so `cI·s ≤ τi ≤ (cI+1)·s`) and `aR` ticks had
    started at the return instant `τr` (so `aR·s ≤ τr`), then every `L` with `cI ≤ L ≤ aR` is the tick period of
    some instant τ ∈ [τi, τr] — except in the tie case, where the request was issued at the very instant of
    tick `cI+1` and ordered before it. -/
theorem C03_window (s cI aR L τi τr : Nat) (hs : 0 < s) (h1 : cI * s ≤ τi) (h1' : τi ≤ (cI + 1) * s)
    (h2 : aR * s ≤ τr) (hir : τi ≤ τr) (hL1 : cI ≤ L) (hL2 : L ≤ aR) :
    ∃ τ, τi ≤ τ ∧ τ ≤ τr ∧ L * s ≤ τ ∧ (τ < (L + 1) * s ∨ (L = cI ∧ τi = (cI + 1) * s)) := by
  by_cases hc : L = cI
  · subst hc
    by_cases ht : τi < (L + 1) * s
    · exact ⟨τi, Nat.le_refl _, hir, h1, Or.inl ht⟩
    · exact ⟨τi, Nat.le_refl _, hir, h1, Or.inr ⟨rfl, Nat.le_antisymm h1' (Nat.le_of_not_lt ht)⟩⟩
  · have h3 : (cI + 1) * s ≤ L * s := Nat.mul_le_mul_right s (Nat.lt_of_le_of_ne hL1 (Ne.symm hc))
    exact ⟨L * s, Nat.le_trans h1' h3, Nat.le_trans (Nat.mul_le_mul_right s hL2) h2, Nat.le_refl _,
      Or.inl (Nat.mul_lt_mul_of_pos_right (Nat.lt_succ_self L) hs)⟩

/-- End to end on the wheel's tick clock (tick j at time j·step).  Let a request for an interval `d` be
    invoked at instant `τi` and return at instant `τr`, where — because tick j happens at j·step — the ticks complete at
    the invocation satisfy `invCls·step ≤ τi ≤ (invCls+1)·step` and the ticks started at the return satisfy
    `retAdv·step ≤ τr`.  Then the timer becomes ready at `fire = due·step`, and there is an instant τ inside the
    request with `D − step < fire − τ ≤ D` (additively: `fire ≤ τ + D < fire + step`, and `τ < fire`), or else the request
    was issued exactly at a tick instant and ordered before that tick, in which case `fire − τi = D − step`. -/
theorem C03_end_to_end (n step : Nat) (hn : 0 < n) (hs : 0 < step) (acts : List Act) (r : Req)
    (hr : r ∈ (run fixed (init n step) acts).done) (d : Nat) (hk : r.k = bucketIndex step d)
    (τi τr : Nat) (h1 : r.invCls * step ≤ τi) (h1' : τi ≤ (r.invCls + 1) * step) (h2 : r.retAdv * step ≤ τr)
    (hir : τi ≤ τr) :
    let fire := (run fixed (init n step) acts).due r.chan * step
    let D := nominal step d
    (∃ τ, τi ≤ τ ∧ τ ≤ τr ∧ τ < fire ∧ fire ≤ τ + D ∧ τ + D < fire + step) ∨
    (τi = (r.invCls + 1) * step ∧ fire + step = τi + D) := by
  intro fire D
  obtain ⟨L, hL1, hL2, hdue, _⟩ := C03_fire_tick n step hn acts r hr
  have hfire : fire = fireTime step L (bucketIndex step d) := by
    show (run fixed (init n step) acts).due r.chan * step = _
    rw [hdue, hk]; rfl
  obtain ⟨τ, t1, t2, t3, t4⟩ := C03_window step r.invCls r.retAdv L τi τr hs h1 h1' h2 hir hL1 hL2
  rcases t4 with t4 | ⟨hLc, htie⟩
  · left
    rw [hfire]
    exact ⟨τ, t1, t2, C03_timing step d L τ hs t3 t4⟩
  · right
    refine ⟨htie, ?_⟩
    rw [hfire, C03_timing_tie step d L, htie, hLc]

/-- non-vacuity: the overlapping request of the example above (k = 0, interval 0), invoked at 5 ns and returning at
    12 ns on a 10 ns wheel, satisfies every hypothesis of `C03_end_to_end` -/
example :
    let acts : List Act := [.invoke 7 0, .req 7, .tick, .tick, .tick, .req 7, .req 7, .req 7, .req 7, .req 7]
    let r : Req := { tid := 7, k := 0, invCls := 0, invAdv := 0, retAdv := 1, retCls := 0, chan := 1 }
    r ∈ (run fixed (init 3 10) acts).done ∧ r.k = bucketIndex 10 (0 : Nat) ∧
    r.invCls * 10 ≤ 5 ∧ 5 ≤ (r.invCls + 1) * 10 ∧ r.retAdv * 10 ≤ 12 := by
  decide

/-- Old code (slot replaced BEFORE the position advance, no re-check), 3 buckets: `req.loadPos ; tick.loadPos ;
    tick.swapSlot ; req.loadSlot` returns the fresh channel, due at tick 4 = n+1, although k = 0 and no tick had
    even started when the request returned (C03_fire_tick would demand due = 1). -/
theorem C03_old_counterexample :
    let s := run old (init 3 10) [.invoke 0 0, .req 0, .tick, .tick, .req 0]
    s.done = [{ tid := 0, k := 0, invCls := 0, invAdv := 0, retAdv := 0, retCls := 0, chan := 3 }] ∧ s.due 3 = 4 := by
  decide

/-- The new order alone is not enough: without the re-check, `req.loadPos ; whole tick ; req.loadSlot` reads the
    slot that tick 1 has just refilled: due 4, while only ticks ≤ 2 are allowed (L ≤ retAdv = 1, k = 0). -/
theorem C03_norecheck_counterexample :
    let s := run noRecheck (init 3 10) [.invoke 0 0, .req 0, .tick, .tick, .tick, .tick, .req 0]
    s.done = [{ tid := 0, k := 0, invCls := 0, invAdv := 0, retAdv := 1, retCls := 1, chan := 3 }] ∧ s.due 3 = 4 := by
  decide

/-
The translated source.  `Got.Generated.AstLoomWheel.fetchWheelData` / `onTicker` are re-translated from /repo/loom/wheel.go on every run into the
atomic-instruction IR of Got/Model/AtomicIR.lean (Go `int`/`time.Duration` as unbounded integers; `&wheel.position`,
`&wheel.channels[i]` with bounds check, `atomic.StoreInt64`, `atomic.SwapPointer` with a fresh `wheelData`, `close`,
`panic`; the immutable fields `maxTimeout`, `step`, `bucketsSize` are leading parameters).  `Got.Model.WheelGen` is the
generated LTS (thread 0 = the ticker goroutine, requester `t` = thread `t+1`; `gstep`, `genRun`).  `RelW g s aux`
(Got/Lemmas/WheelAst.lean): same shared memory (position, slots, allocator, closed bits, double-close flag), the ticker and
every requester are in the IR configuration that corresponds to their hand-written pc and locals, and the channels the
generated requests have returned are exactly the `done` records.  Not translated: NewWheel (the initial state `genInit`),
goLoop, and `WheelTimer.Reset`'s choice of the interval (`resetInterval`). -/

/-- The translator accepted both functions, and reads the receiver's immutable fields in the order the mapping assumes. -/
theorem C03_translation_in_fragment :
    Got.Generated.AstLoomWheel.fetchWheelDataNote = "ok" ∧ Got.Generated.AstLoomWheel.onTickerNote = "ok" ∧
    Got.Generated.AstLoomWheel.fetchWheelDataCfg = ["maxTimeout", "step", "bucketsSize"] ∧
    Got.Generated.AstLoomWheel.onTickerCfg = ["bucketsSize"] := by decide

/-- Translator tie, one step: in every state with `0 < n`, `0 < step` and a valid ticker index (all reachable states),
    every action of the hand-written model — a ticker access, an invocation with its range check and index computation, a
    requester access — is the corresponding action of the LTS generated from the source: corresponding states stay
    corresponding. -/
theorem C03_translated_source_step : ∀ (g : Got.Model.AtomicIR.GState) (s : State) (aux : Nat → Int) (a : Act),
    Got.Lemmas.WheelAst.RelW g s aux → Got.Lemmas.WheelAst.Good s →
    Got.Lemmas.WheelAst.RelW (Got.Model.WheelGen.gstep s.n s.step g a) (step fixed s a)
      (Got.Lemmas.WheelAst.auxStep s aux a) :=
  Got.Lemmas.WheelAst.simW_step

/-- hence every run from NewWheel(step, n). -/
theorem C03_translated_source_run (n stepNs : Nat) (hn : 0 < n) (hs : 0 < stepNs) (acts : List Act) :
    ∃ aux, Got.Lemmas.WheelAst.RelW (Got.Model.WheelGen.genRun n stepNs acts) (run fixed (init n stepNs) acts) aux :=
  Got.Lemmas.WheelAst.genRun_rel n stepNs hn hs acts

/-- Channels are closed once, for the translated source: in every run of the generated LTS no channel is closed twice,
    and channel `c` is closed exactly when the tick that is due to close it (`c + 1`) is complete. -/
theorem C03_translated_source_closed_once (n stepNs : Nat) (hn : 0 < n) (hs : 0 < stepNs) (acts : List Act) :
    let g := Got.Model.WheelGen.genRun n stepNs acts
    let s := run fixed (init n stepNs) acts
    g.mem.dbl = false ∧ ∀ c, g.mem.closed c = decide (s.due c ≤ s.cls) := by
  intro g s
  obtain ⟨aux, hr⟩ := Got.Lemmas.WheelAst.genRun_rel n stepNs hn hs acts
  have h := C03_closed_once n stepNs hn acts
  refine ⟨?_, fun c => ?_⟩
  · show g.mem.dbl = false
    rw [hr.mem]; exact h.1
  · show g.mem.closed c = _
    rw [hr.mem]
    show ((run fixed (init n stepNs) acts).closedBy c).isSome = _
    rw [h.2 c]
    by_cases hd : s.due c ≤ s.cls <;> simp [s, hd]

/-- The tick that releases a timer, for the translated source: every channel `c` that a request of thread `t` returned
    in the generated LTS is the channel of a `done` record of the model, so it is closed by tick `L + k + 1` for an `L`
    between the ticks complete at the invocation and the ticks started at the return (`C03_fire_tick`). -/
theorem C03_translated_source_fire_tick (n stepNs : Nat) (hn : 0 < n) (hs : 0 < stepNs) (acts : List Act) (t c : Nat)
    (hret : (t, c) ∈ Got.Model.WheelGen.returned (Got.Model.WheelGen.genRun n stepNs acts)) :
    ∃ r ∈ (run fixed (init n stepNs) acts).done, r.tid = t ∧ r.chan = c ∧
      ∃ L, r.invCls ≤ L ∧ L ≤ r.retAdv ∧ (run fixed (init n stepNs) acts).due c = L + r.k + 1 := by
  obtain ⟨aux, hr⟩ := Got.Lemmas.WheelAst.genRun_rel n stepNs hn hs acts
  rw [hr.ret] at hret
  obtain ⟨r, hrm, hre⟩ := List.mem_map.1 hret
  have hrd : r ∈ (run fixed (init n stepNs) acts).done := List.mem_reverse.1 hrm
  obtain ⟨L, h1, h2, h3, _⟩ := C03_fire_tick n stepNs hn acts r hrd
  have e1 : r.tid = t := congrArg Prod.fst hre
  have e2 : r.chan = c := congrArg Prod.snd hre
  exact ⟨r, hrd, e1, e2, L, h1, h2, by rw [← e2]; exact h3⟩

/-- non-vacuity: the generated LTS really runs — the overlapping request of the `C03_fire_tick` example (retry forced by
    the re-check) returns channel 1 to requester 7 in the LTS generated from the source. -/
example :
    Got.Model.WheelGen.returned (Got.Model.WheelGen.genRun 3 10
      [.invoke 7 0, .req 7, .tick, .tick, .tick, .req 7, .req 7, .req 7, .req 7, .req 7]) = [(7, 1)] := by decide
