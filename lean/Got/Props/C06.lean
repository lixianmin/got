/- C06 (liveness): provided every loader returns, every Load/Get/Set returns and every Future resolves, for every
parallelism P ≥ 1 and job-queue size J ≥ 1 (every cache has these: option.go has defaults 1 and 128, `WithParallel`
ignores `num <= 0`, `WithJobChanSize` asserts `size > 0`).  In the LTS `Got.Model.Cache` "the loader returns" is the environment
action `wEnd`; it counts as a transition that is enabled while a worker is inside a loader.
  C06_bounded_work*   a measure μ strictly decreasing on every client / worker / loader transition and unchanged by the
                      clock (so between two clock / tick / invocation events only finitely many steps happen)
  C06_quiescent_done  every reachable state without an enabled client/worker/loader transition has all calls returned
                      and all futures resolved; the invariants behind it:
                      I1 (C06_lock_holder_enabled) a lock holder always has an enabled step,
                      I2 (C06_job_somewhere, C06_job_unique) the job of an unresolved load-future is in exactly one place
  C06_contract_panic_harmless  the panic of a call that violates the contract is the identity transition of the model
  C06_old_deadlock    the code before the fix (/repo commit 29c54c4; job sent under the shard lock): P = 1, J = 1 reaches
                      a state with no enabled transition in which a Load is blocked for ever
  C06_fixed_schedule_progresses  the same schedule on the fixed code
Not modelled: the `closeChan` branches of `sendJob` and of the worker's select (cache_impl.go:62, 178); only the finalizer
of a cache that has become unreachable closes that channel (cache.go:46-50).
-/
import Got.Lemmas.CacheLive
import Got.Lemmas.CacheQuiescent
open Got.Model.CacheCore Got.Model.Cache Got.Spec.Cache Got.Lemmas.Cache

/-- C06 measure: for every finite set of clients `cs` and workers `ws` that contains the acting agent, every
    client / worker / loader transition strictly decreases
      μ = Σ_{c∈cs} remaining steps of c (a job not yet sent counts 7) + Σ_{w∈ws} remaining steps of w
          + 6·|job queue| + (S+2 if a tick is pending).
    Weights (`Got.Spec.Cache`: `cw`, `ww`, `mu`): 6 = the worker's six steps for one job, 7 = those and the send;
    S+2 = the worker's `wTick` and the S+1 steps of the sweep it starts.
    Holds for every state (no reachability needed), every P, J, S and both variants of Load. -/
theorem C06_bounded_work (cfg : Cfg) (s s' : State) (a : Act) (cs ws : List Nat) (hcs : cs.Nodup) (hws : ws.Nodup)
    (hprog : a.isProgress = true) (hin : actorIn cs ws a) (h : step? cfg s a = some s') :
    mu cfg cs ws s' < mu cfg cs ws s :=
  mu_decr cfg s s' a cs ws hws hprog hin h

/-- the clock does not change μ (delay, tick arrival and new invocations are the only non-decreasing actions) -/
theorem C06_bounded_work_delay (cfg : Cfg) (cs ws : List Nat) (s : State) (d : Nat) :
    (∀ s', step? cfg s (.delay d) = some s' → mu cfg cs ws s' = mu cfg cs ws s) := by
  intro s' h
  simp only [step?, Option.some.injEq] at h
  subst h; exact mu_delay cfg cs ws s d

-- non-vacuity: a concrete decreasing step (the Load critical section from the initial state after an invocation)
example : mu fixedCfg [0] [0] (run fixedCfg init [.invLoad 0 0 0, .cl 0]) <
          mu fixedCfg [0] [0] (run fixedCfg init [.invLoad 0 0 0]) := by decide

/-- C06 (deadlock freedom of the fixed code): for all P ≥ 1, J ≥ 1, S, clients, keys – in every reachable state in
    which no client / worker / loader transition is enabled, every issued call has returned and every future is
    resolved.  (While a loader runs, its return `wEnd` is an enabled transition: "provided every loader returns".) -/
theorem C06_quiescent_done (cfg : Cfg) (s : State) (hfix : cfg.old = false) (hP : 1 ≤ cfg.P) (hJ : 1 ≤ cfg.J)
    (hr : Reachable cfg s) (hq : ¬ CanProgress cfg s) : AllReturned s ∧ AllResolved s :=
  quiescent_done cfg s hfix hP hJ (inv_reachable cfg s hr) hq

-- non-vacuity: the initial state is reachable and quiescent; and a complete Load ends with the call returned, the future resolved
example : Reachable fixedCfg init ∧ ¬ CanProgress fixedCfg init := by
  refine ⟨⟨[], rfl⟩, ?_⟩
  rintro ⟨a, ha, hs⟩
  cases a <;> simp [Act.isProgress] at ha <;> simp [step?, clStep, wkStep, init] at hs
example :
    let s := run fixedCfg init [.invLoad 0 0 0, .cl 0, .cl 0, .cl 0, .cl 0, .wTake 0, .wStart 0, .wEnd 0 ⟨some 7, none⟩,
                                .wk 0, .wk 0, .wk 0]
    s.cpc 0 = .done (.fut 0) ∧ (s.fut 0).done = true ∧ (s.fut 0).res = some ⟨some 7, none⟩ ∧ s.wpc 0 = .idle ∧
    s.chan = [] := by decide

/-- invariant I1 (fixed code): a lock holder always has an enabled step – critical sections contain no blocking operation -/
theorem C06_lock_holder_enabled (cfg : Cfg) (s : State) (hfix : cfg.old = false) (hr : Reachable cfg s)
    (sh : Nat) (c : Cid) (hl : s.lock sh = some c) : (step? cfg s (.cl c)).isSome = true := by
  have h := inv_reachable cfg s hr
  rcases h.l_holder sh c hl with ⟨send, plan, e⟩ | ⟨j, plan, e⟩
  · cases send <;> simp [step?, clStep, e]
  · have := h.l_fixed hfix c j plan (some sh) e; cases this

/-- invariant I2: every unresolved load-future has its job in one of {its creator (about to send), the job
    channel, a worker}; `jobAt` is the ghost location, each of the three disjuncts says that the job really is at the place
    `jobAt` names (that it is nowhere else: `C06_job_unique`) -/
theorem C06_job_somewhere (cfg : Cfg) (s : State) (hr : Reachable cfg s) (f : FutId) (hf : f < s.nfut)
    (hd : (s.fut f).done = false) :
    (∃ c j, s.jobAt f = .creator c ∧ jobOf (s.cpc c) = some j ∧ j.fut = f) ∨
    (∃ j, s.jobAt f = .chan ∧ j ∈ s.chan ∧ j.fut = f) ∨
    (∃ w j, s.jobAt f = .worker w ∧ wjob (s.wpc w) = some j ∧ j.fut = f) := by
  obtain ⟨j, hj, e⟩ := ((done_or_held (inv_reachable cfg s hr) hf).resolve_left fun h => by rw [h.1] at hd; cases hd).2
  cases hl : s.jobAt f <;> rw [hl] at hj
  · exact hj.elim
  · exact .inl ⟨_, j, rfl, hj, e⟩
  · exact .inr (.inl ⟨j, rfl, hj, e⟩)
  · exact .inr (.inr ⟨_, j, rfl, hj, e⟩)
  · exact hj.elim

/-- the place of `C06_job_somewhere` is the only one: two places holding a job for the same future coincide (channel
    entries are pairwise distinct) -/
theorem C06_job_unique (cfg : Cfg) (s : State) (hr : Reachable cfg s) :
    (∀ c c' j j', jobOf (s.cpc c) = some j → jobOf (s.cpc c') = some j' → j.fut = j'.fut → c = c') ∧
    (∀ w w' j j', wjob (s.wpc w) = some j → wjob (s.wpc w') = some j' → j.fut = j'.fut → w = w') ∧
    (s.chan.map (·.fut)).Nodup ∧
    (∀ c j j', jobOf (s.cpc c) = some j → j' ∈ s.chan → j.fut ≠ j'.fut) ∧
    (∀ c w j j', jobOf (s.cpc c) = some j → wjob (s.wpc w) = some j' → j.fut ≠ j'.fut) ∧
    (∀ w j j', wjob (s.wpc w) = some j → j' ∈ s.chan → j.fut ≠ j'.fut) := by
  have hp := places_of_inv (inv_reachable cfg s hr)
  exact ⟨fun c c' _ _ h1 h2 e => Loc.creator.inj (hp.loc_inj (l := .creator c) (l' := .creator c') h1 h2 e),
    fun w w' _ _ h1 h2 e => Loc.worker.inj (hp.loc_inj (l := .worker w) (l' := .worker w') h1 h2 e), hp.nodup,
    fun c _ _ h1 h2 e => Loc.noConfusion (hp.loc_inj (l := .creator c) (l' := .chan) h1 h2 e),
    fun c w _ _ h1 h2 e => Loc.noConfusion (hp.loc_inj (l := .creator c) (l' := .worker w) h1 h2 e),
    fun w _ _ h1 h2 e => Loc.noConfusion (hp.loc_inj (l := .worker w) (l' := .chan) h1 h2 e)⟩

/-- contract panics do not poison the cache: a call that violates the contract (nil loader, nil key, unsupported key
    type) panics before the shard lock is taken and before any shared access – as a transition it is the identity, so
    reachability, the invariants and every theorem above are unaffected and the caller that recovers finds the cache as
    it was (in particular no lock is left held, `s.lock` being unchanged) -/
theorem C06_contract_panic_harmless (cfg : Cfg) (s : State) (v : Contract) :
    contractPanic s v = s ∧ (Reachable cfg s → Reachable cfg (contractPanic s v)) ∧
    (CanProgress cfg (contractPanic s v) ↔ CanProgress cfg s) :=
  ⟨rfl, id, Iff.rfl⟩

/-- the deadlock of the code before the fix, on the model's old variant (`cfg.old = true`: sendJob inside
    the critical section): P = 1, J = 1, two Loads over keys of distinct shards and a pending tick.
    The first conjunct ranges over all client and worker ids: `run_cpc_frame` / `run_wpc_frame` show every client other
    than 0, 1 and every worker other than 0 idle (no action of `deadlockActs` is theirs), `hP` disables `wTake` / `wTick`
    for `w ≥ P`; only the ids occurring in `deadlockActs` go to `decide`. -/
theorem C06_old_deadlock :
    let s := run oldCfg init deadlockActs
    -- no client / worker / loader transition is enabled …
    (∀ a : Act, a.isProgress = true → (step? oldCfg s a).isSome = false) ∧
    -- … although Load c1 is blocked in sendJob holding the lock of shard 1, the worker is blocked in the sweep
    -- before shard 1, a job is queued and its future unresolved
    s.cpc 1 = .ldSend ⟨1, 1, 1⟩ (.ret 1) (some 1) ∧ s.lock 1 = some 1 ∧ s.wpc 0 = .sweep 1 ∧
    s.chan = [⟨0, 0, 0⟩] ∧ (s.fut 0).done = false ∧ ¬ AllReturned s := by
  intro s
  have hacts : ∀ a ∈ deadlockActs, actClient? a ∈ [none, some 0, some 1] ∧ actWorker? a ∈ [none, some 0] := by decide
  have hc : ∀ c, c ≠ 0 → c ≠ 1 → s.cpc c = .idle := fun c h0 h1 =>
    (run_cpc_frame oldCfg deadlockActs init c fun a ha e => by simpa [e, h0, h1] using (hacts a ha).1).trans rfl
  have hw : ∀ w, w ≠ 0 → s.wpc w = .idle := fun w h0 =>
    (run_wpc_frame oldCfg deadlockActs init w fun a ha e => by simpa [e, h0] using (hacts a ha).2).trans rfl
  have hP : ∀ w, w ≠ 0 → ¬ w < oldCfg.P := fun w h0 => by simp [oldCfg]; omega
  refine ⟨?_, by decide, by decide, by decide, by decide, by decide, ?_⟩
  · intro a ha
    cases a with
    | invLoad | invGet2 | invSet | invFGet | tick | delay => cases ha
    | cl c =>
      by_cases h0 : c = 0
      · subst h0; decide
      · by_cases h1 : c = 1
        · subst h1; decide
        · simp [step?, clStep, hc c h0 h1]
    | wEnd w r =>
      by_cases h0 : w = 0
      · subst h0
        have hw0 : s.wpc 0 = .sweep 1 := by decide
        simp [step?, hw0]
      · simp [step?, hw w h0]
    | wTake w | wTick w =>
      by_cases h0 : w = 0
      · subst h0; decide
      · simp [step?, hP w h0]
    | wStart w | wk w =>
      by_cases h0 : w = 0
      · subst h0; decide
      · simp [step?, wkStep, hw w h0]
  · intro hall
    have h1 : s.cpc 1 = .ldSend ⟨1, 1, 1⟩ (.ret 1) (some 1) := by decide
    rcases hall 1 with h | ⟨o, h⟩ <;> rw [h1] at h <;> cases h

/-- the same schedule on the fixed code: the Load's next step is its Unlock (enabled), after which the sweeping
    worker proceeds – nobody blocks while holding a lock -/
theorem C06_fixed_schedule_progresses :
    (step? fixedCfg (run fixedCfg init deadlockActs) (.cl 1)).isSome = true ∧
    (step? fixedCfg (run fixedCfg init (deadlockActs ++ [.cl 1])) (.wk 0)).isSome = true := by decide
