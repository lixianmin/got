import Got.Lemmas.AntsHonour
import Got.Lemmas.AntsOptions
/-
C08 — ants: at most `size` handlers run at once and timeouts bound the wait; busy only if the queue was full.
Model: Got.Model.Ants. `State.running` is a ghost counter incremented when a handler is entered (wStart) and
decremented when it returns (wEnd) — exactly the counter the harness's handlers keep; `maxRunning` is its
high-water mark. Handlers are entered only by closures occupying one of the N inner-worker slots (tie to the source:
by the srcfacts the call sites of the handler are {closure in runTaskOnce} and the go statements of package ants {2 in NewPool};
checklib/c08.py checks both, `handler_call_sites` and `go_statements`).
-/
open Got.Model.Ants

/-- in every reachable state at most N handler calls are in progress, including handlers of attempts that already timed
    out; the counter equals the number of inner-worker slots that are inside a handler. -/
theorem C08_max_concurrency (c : Cfg) (hc : c.old = false) (s : State) (hr : Reachable c s) :
    s.running ≤ c.N ∧ s.maxRunning ≤ c.N ∧ s.running = cnt (inH s) c.N := by
  have ⟨hi, hm⟩ := slotInv_reachable hc hr
  exact ⟨by rw [hi.run]; exact cnt_le _ _, hm, hi.run⟩

/-- a task enters the discard path only by a busy test that read `len(taskChan) = cap(taskChan) = N` with the
    discardOnBusy option set, and becomes `discarded` only through that path (old and new code alike). -/
theorem C08_busy_only_if_full (c : Cfg) (s s2 : State) (act : Act) (k : Nat) (h : step c s act = some s2) :
    ((s.task k).pc ≠ .discardCb → (s2.task k).pc = .discardCb →
        act = .busyTest k ∧ s.taskQ.length = c.N ∧ (s.task k).discard = true) ∧
    ((s.task k).pc ≠ .discarded → (s2.task k).pc = .discarded → act = .discardCb k ∧ (s.task k).pc = .discardCb) := by
  rcases step_task_cases h k with e | ⟨rfl, ht⟩
  · rw [e]; exact ⟨fun a b => absurd b a, fun a b => absurd b a⟩
  · generalize s2.task act.task = t' at ht
    cases ht
    case busyFull hf =>
      simp only [Bool.and_eq_true, beq_iff_eq] at hf
      exact ⟨fun _ _ => ⟨rfl, hf.2, hf.1⟩, fun _ e => TPc.noConfusion e⟩
    case discardCb hp => exact ⟨fun _ e => TPc.noConfusion e, fun _ _ => ⟨rfl, hp⟩⟩
    -- every other transition either keeps the pc or moves it to a stage that is not on the discard path
    case fire | wTake | wStart | wEnd | checkDone | checkLive | hook1Old | hook1 | casWin | casLose | hook4 | wWrite
        | wClose =>
      exact ⟨fun a b => absurd b a, fun a b => absurd b a⟩
    all_goals exact ⟨fun _ e => TPc.noConfusion e, fun _ e => TPc.noConfusion e⟩

/-! non-vacuity: two handlers in progress on a pool of size 2, and a discard on a full queue of size 1 -/
example : ∃ s, Reachable { N := 2 } s ∧ s.running = 2 := by
  let acts : List Act :=
    [.send 0 { timeout := 1000, retry := 1, discard := true, hasCb := false }, .busyTest 0, .enq 0, .take 0, .loopTest 0,
     .sendCl 0, .wTake 0 0 0, .wStart 0 0 true,
     .send 1 { timeout := 1000, retry := 1, discard := true, hasCb := false }, .busyTest 1, .enq 1, .take 1, .loopTest 1,
     .sendCl 1, .wTake 1 0 1, .wStart 1 0 true]
  exact ⟨(run { N := 2 } init acts).getD init, ⟨acts, eq_some_getD (by decide)⟩, by decide⟩

example : ∃ s s2, step { N := 1 } s (.busyTest 2) = some s2 ∧ (s2.task 2).pc = .discardCb ∧ s.taskQ.length = 1 := by
  let acts : List Act :=
    [.send 0 { timeout := 1000, retry := 1, discard := true, hasCb := false }, .busyTest 0, .enq 0, .take 0,
     .send 1 { timeout := 1000, retry := 1, discard := true, hasCb := false }, .busyTest 1, .enq 1,
     .send 2 { timeout := 1000, retry := 1, discard := true, hasCb := false }]
  exact ⟨(run { N := 1 } init acts).getD init, (step { N := 1 } ((run { N := 1 } init acts).getD init) (.busyTest 2)).getD init,
    eq_some_getD (by decide), by decide, by decide⟩

/-
Timing clause. `runMP c k` = executions under maximal progress (the clock moves only when no goroutine can take a
step and no cancellation-honouring handler is overdue: `quiescent`) in which, in addition, the clock never moves while
the dispatcher of task k is blocked in `sendInnerCallback` (pc = sendCl). `C08_bound_honour` discharges that condition by
`Got.Model.Ants.no_stall` (Got/Lemmas/AntsHonour.lean); honouring = the handler returns no later than the instant its ctx is
done (`runH`). Without any hypothesis on the handlers the bound is false: C08_bound_full_false (there task A's handler ignores ctx).
-/
/-- under maximal progress, if the closure-send of task k never waits across a clock step, then task k is done no
    later than R·T after a dispatcher picked it, whatever its own and all other handlers do (they may ignore ctx);
    while it is being dispatched the clock never exceeds that bound either. -/
theorem C08_bound_partial (c : Cfg) (hc : c.old = false) (k : Nat) (acts : List Act) (s : State)
    (h : runMP c k init acts = some s) :
    ((s.task k).pc = .done → (s.task k).doneAt ≤ (s.task k).pickAt + (s.task k).R * (s.task k).T) ∧
    ((s.task k).pc.dispatching = true → s.now ≤ (s.task k).pickAt + (s.task k).R * (s.task k).T) := by
  obtain ⟨hinv, tk⟩ := time_runMP hc k inv_init supp_init (timeOK_default _) h
  have ok := hinv k
  have hmul : (s.task k).att * (s.task k).T ≤ (s.task k).R * (s.task k).T := Nat.mul_le_mul_right _ ok.att_le
  constructor
  · exact fun hd => Nat.le_trans (tk.done hd) (Nat.add_le_add_left hmul _)
  · intro hd
    rcases TPc.dispatching_cases hd with hin | hb
    · exact Nat.le_trans (tk.inAtt hin) (Nat.le_trans (tk.dlc (att_pos_of_inAttempt ok hin)) (Nat.add_le_add_left hmul _))
    · exact Nat.le_trans (tk.loop hb) (Nat.add_le_add_left hmul _)

/-- the timing clause under the property's hypothesis: pool size N ≥ 1, maximal progress, and every handler honours
    cancellation. Then EVERY task is done no later than R·T after a dispatcher picked it, and the clock never exceeds
    that bound while the task is being dispatched. -/
theorem C08_bound_honour (c : Cfg) (hc : c.old = false) (hN : 1 ≤ c.N) (acts : List Act) (s : State)
    (h : runH c init acts = some s) (k : Nat) :
    ((s.task k).pc = .done → (s.task k).doneAt ≤ (s.task k).pickAt + (s.task k).R * (s.task k).T) ∧
    ((s.task k).pc.dispatching = true → s.now ≤ (s.task k).pickAt + (s.task k).R * (s.task k).T) :=
  C08_bound_partial c hc k acts s (runH_runMP hc hN k (allInv_init c) h)

/-- the option functions are applied left to right (createTaskOptions = a fold); a non-positive WithTimeout / WithRetry
    anywhere in the list is as if it were absent, in particular it never resets an earlier positive value; the folded
    record always has a positive timeout and retry count, which `Send` then takes as T and R unchanged (`effT`, `effR`); the
    fold of the pool options has size ≥ 1. That the folded record is the `o` of `Act.send` and that size the `N` of `Cfg`
    (the `1 ≤ c.N` of C08_bound_honour) is how the driver Got/Drv/Ants.lean builds its executions; no theorem says it. -/
theorem C08_options_fold (l1 l2 : List TOpt) (x : TOpt)
    (hx : (∃ d, x = .timeout d ∧ d ≤ 0) ∨ (∃ n, x = .retry n ∧ n ≤ 0)) (pl : List POpt) :
    applyOptions (l1 ++ x :: l2) = applyOptions (l1 ++ l2) ∧
    effT (applyOptions (l1 ++ l2)) = (applyOptions (l1 ++ l2)).timeout.toNat ∧ 0 < (applyOptions (l1 ++ l2)).timeout ∧
    effR (applyOptions (l1 ++ l2)) = (applyOptions (l1 ++ l2)).retry.toNat ∧ 0 < (applyOptions (l1 ++ l2)).retry ∧
    1 ≤ (applyPoolOptions pl).size :=
  ⟨applyOptions_drop_nonpos l1 l2 x hx, effT_applyOptions _, (applyOptions_pos _).1, effR_applyOptions _,
    (applyOptions_pos _).2, applyPoolOptions_size_pos pl⟩

example : (applyOptions [.timeout 1000, .retry 2, .onError true, .timeout 0, .retry 0]).timeout = 1000 ∧
    (applyOptions [.timeout 1000, .retry 2, .onError true, .timeout 0, .retry 0]).retry = 2 := by decide

theorem C08_runMP_is_run (c : Cfg) (k : Nat) (acts : List Act) (s : State) (h : runMP c k init acts = some s) :
    Reachable c s := ⟨acts, runMP_run h⟩

/-! non-vacuity of C08_bound_partial / C08_bound_honour: a maximal-progress run with honouring handlers in which task 0 times out once, then succeeds -/
def c08DemoActs : List Act :=
  [.send 0 { timeout := 1000, retry := 2, discard := true, hasCb := true }, .busyTest 0, .enq 0, .take 0,
   .loopTest 0, .sendCl 0, .wTake 0 0 0, .wStart 0 0 true, .hook3 0,
   .advance 1000, .fire 0 0, .selCtx 0, .hook2 0, .decide 0, .writeDE 0, .cancel 0, .errTest 0,
   .wEnd 0 0 0 (.h 999), .wCheck 0 0, .wClose 0 0,
   .loopTest 0, .sendCl 0, .wTake 0 1 0, .wStart 0 1 true, .hook3 0, .advance 1500, .wEnd 0 1 8 .nil, .wCheck 0 1,
   .hook1 0 1, .wCas 0 1, .hook4 0 1, .wWrite 0 1, .wClose 0 1, .selDone 0, .decide 0, .waitDone 0, .cancel 0, .errTest 0, .wgDone 0]

example : ∃ s, runMP { N := 1 } 0 init c08DemoActs = some s ∧ (s.task 0).pc = .done ∧ (s.task 0).doneAt = 1500 ∧
    (s.task 0).pickAt = 0 ∧ (s.task 0).R * (s.task 0).T = 2000 := by
  exact ⟨(runMP { N := 1 } 0 init c08DemoActs).getD init, eq_some_getD (by decide), by decide, by decide, by decide, by decide⟩

example : (runH { N := 1 } init c08DemoActs).isSome = true := by decide

def sec : Nat := 1000000000

/-- N = 1. Task 0 (A): T = 1 s, R = 1, handler ignores ctx for 100 s. Task 1 (B): T = 1 s, R = 3, every handler
    honours ctx. B is picked at 1 s; its second closure-send blocks on the full inner channel until A's handler
    returns at 100 s; B is done at 101 s. Every clock step is taken in a quiescent state (maximal progress). -/
def c08ClogActs : List Act :=
  [.send 0 { timeout := 1000000000, retry := 1, discard := false, hasCb := true }, .busyTest 0, .enq 0, .take 0,
   .loopTest 0, .sendCl 0, .wTake 0 0 0, .wStart 0 0 false, .hook3 0,
   .send 1 { timeout := 1000000000, retry := 3, discard := false, hasCb := true }, .busyTest 1, .enq 1,
   .advance sec, .fire 0 0, .selCtx 0, .hook2 0, .decide 0, .writeDE 0, .cancel 0, .errTest 0, .loopTest 0, .onError 0, .wgDone 0,
   .take 1, .loopTest 1, .sendCl 1, .hook3 1,                         -- B picked at 1 s, closure 0 waits in the channel
   .advance (2 * sec), .fire 1 0, .selCtx 1, .hook2 1, .decide 1, .writeDE 1, .cancel 1, .errTest 1, .loopTest 1,
   -- B's second attempt (attempt 1): `sendCl 1` is NOT enabled (inner channel full, the only worker runs A's handler)
   .advance (3 * sec), .fire 1 1,
   .advance (100 * sec), .wEnd 0 0 5 .nil, .wCheck 0 0, .wClose 0 0,
   .wTake 1 0 0, .sendCl 1, .hook3 1, .selCtx 1, .hook2 1, .decide 1, .writeDE 1, .cancel 1, .errTest 1, .loopTest 1,
   .wStart 1 0 true, .wEnd 1 0 0 (.h 999), .wCheck 1 0, .wClose 1 0,
   .wTake 1 1 0, .sendCl 1, .hook3 1, .wStart 1 1 true, .wEnd 1 1 0 (.h 999), .wCheck 1 1, .wClose 1 1,
   .wTake 1 2 0, .wStart 1 2 true,
   .advance (101 * sec), .fire 1 2, .wEnd 1 2 0 (.h 999), .wCheck 1 2, .wClose 1 2,
   .selDone 1, .decide 1, .writeDE 1, .cancel 1, .errTest 1, .loopTest 1, .onError 1, .wgDone 1]

/-
Full-strength statement of the property's timing clause (FALSE, see below):
  for every execution under maximal progress and every accepted task k whose own handlers honour cancellation,
      doneAt k ≤ pickAt k + R k * T k.
-/
/-- the full-strength R·T bound is false: B's own handlers honour ctx, B is picked at 1 s, R·T = 3 s, done at 101 s. -/
theorem C08_bound_full_false :
    ∃ s, run { N := 1 } init c08ClogActs = some s ∧
      -- the run respects maximal progress (the clock guard is evaluated for an unused task id, i.e. without the
      -- extra no-stall condition, which this run violates for task 1 at the clock steps to 3 s and 100 s)
      runMP { N := 1 } 99 init c08ClogActs = some s ∧
      (s.task 1).pc = .done ∧ (s.task 1).pickAt = sec ∧ (s.task 1).R * (s.task 1).T = 3 * sec ∧
      (s.task 1).doneAt = 101 * sec ∧ ¬ (s.task 1).doneAt ≤ (s.task 1).pickAt + (s.task 1).R * (s.task 1).T := by
  have hr : runMP { N := 1 } 99 init c08ClogActs = some ((runMP { N := 1 } 99 init c08ClogActs).getD init) :=
    eq_some_getD (by decide)
  have hmp : runMP { N := 1 } 99 init c08ClogActs = run { N := 1 } init c08ClogActs := hr.trans (runMP_run hr).symm
  refine ⟨(run { N := 1 } init c08ClogActs).getD init, eq_some_getD (by decide), ?_, ?_, ?_, ?_, ?_, ?_⟩
  · rw [hmp]; exact eq_some_getD (by decide)
  all_goals decide
