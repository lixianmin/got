import Got.Lemmas.BytesCorollaries
import Got.Lemmas.BytesStreamAst
/-
C13 — iox.Buffer / iox.OctetsStream are seekable FIFO byte streams for any op sequence.

Models: `Got.Model.Bytes.Buffer` (buffer.go), `Got.Model.Bytes.Stream` (octets_stream.go).
Spec:   `Got.Spec.Bytes` — ghost state `(W, r, c)`: `W` all bytes written since the last Reset, `r` retained start,
        `c` cursor, `r ≤ c ≤ |W|`; `BufferSpec` / `StreamSpec` = one step of the abstract seekable FIFO (reads return
        `W[c..]`, writes append to `W`, compaction only advances `r` up to `c`, Seek fails without change or moves `c`
        inside `[r, |W|]`, no outcome is a panic); `BufferRel` / `StreamRel` = `buf = W.drop r ∧ off = c - r`.
Translator tie (OctetsStream half): `Got.Generated.AstIox` holds the MiniGoBytes terms tools/srcfacts re-translates from
        /repo/iox/octets_stream.go on every run; the `C13_translated_source_*` theorems at the end of this file are about
        the interpretation (`Got.Model.MiniGoBytes.run table "OctetsStream.<Method>"`) of exactly those terms.
        iox.Buffer is not translated (hand-written model + correspondence check only).
Domain: `BufferOpValid` = non-negative Next/Grow sizes, int64 seek offsets.  The ErrTooLarge branch of `grow` is excluded
        by the stated bound `3 * (bytes written + bytes requested by Grow) ≤ maxAlloc` (2^48, the Go runtime's allocation
        limit; beyond it `makeSlice` fails and `grow` panics with ErrTooLarge by design; the factor 3 because a
        reallocation asks for `2 * cap + n` bytes and is reached only with `cap < len + n`).
Words:  `streamSizes`: Lemmas/BytesStream; `bufReads` … `StrSeekFree`: BytesCorollaries; `AstDom`, `enc*`, `mdl`, `*Out`: BytesStreamAst.
-/
open Got.Model.Bytes Got.Spec.Bytes Got.Lemmas.Bytes

/-- Refinement, iox.Buffer.  For every op sequence of the domain, the model's outputs are exactly the outputs of some run of
    the abstract seekable FIFO, and the final concrete state represents the final ghost state
    (`buf = W.drop r`, `off = c - r`, `r ≤ c ≤ |W|`).  Every prefix of an op sequence is an op sequence, so this
    covers every intermediate state as well. -/
theorem C13_buffer_refines (ops : List Buffer.Op) (hv : ∀ op ∈ ops, BufferOpValid op)
    (hsize : ((3 * bufferSizes ops : Nat) : Int) ≤ maxAlloc) :
    ∃ g', BufferSpecRun Ghost.init ops (Buffer.init.run ops).2 g' ∧ BufferRel (Buffer.init.run ops).1 g' := by
  obtain ⟨g', hrun, hsim, _⟩ :=
    buffer_run_sim ops Buffer.init Ghost.init sim_init hv (by simpa [Buffer.init] using hsize)
  exact ⟨g', hrun, hsim.1⟩

example : ∃ g', BufferSpecRun Ghost.init [.write [1, 2, 3], .read 2, .write [4], .seek (-1) 1, .tidy, .next 5]
      (Buffer.init.run [.write [1, 2, 3], .read 2, .write [4], .seek (-1) 1, .tidy, .next 5]).2 g' ∧
    BufferRel (Buffer.init.run [.write [1, 2, 3], .read 2, .write [4], .seek (-1) 1, .tidy, .next 5]).1 g' :=
  C13_buffer_refines _ (by decide) (by decide)

/-- Refinement, OctetsStream; lengths stay below 2^63 as every Go slice does. -/
theorem C13_stream_refines (ops : List Stream.Op) (hv : ∀ op ∈ ops, StreamOpValid op)
    (hsize : (streamSizes ops : Int) < 2 ^ 63) :
    ∃ g', StreamSpecRun Ghost.init ops (Stream.init.run ops).2 g' ∧ StreamRel (Stream.init.run ops).1 g' := by
  obtain ⟨g', hrun, hrel, _⟩ :=
    stream_run_sim ops Stream.init Ghost.init Rep.init hv (by simpa [Stream.init] using hsize)
  exact ⟨g', hrun, hrel⟩

example : ∃ g', StreamSpecRun Ghost.init [.write [1, 2, 3, 4, 5], .seek 10 0, .read 4, .tidy, .writeInt32 (-2)]
      (Stream.init.run [.write [1, 2, 3, 4, 5], .seek 10 0, .read 4, .tidy, .writeInt32 (-2)]).2 g' ∧
    StreamRel (Stream.init.run [.write [1, 2, 3, 4, 5], .seek 10 0, .read 4, .tidy, .writeInt32 (-2)]).1 g' :=
  C13_stream_refines _ (by decide) (by decide)

/-- The unread portion, iox.Buffer.  In a state representing `(W, r, c)`: `Bytes()` and `String()` do not panic and return
    `W[c..]`, `Len()` is its length. -/
theorem C13_buffer_unread (b : Buffer) (g : Ghost) (h : BufferRel b g) :
    b.bytes? = some (g.W.drop g.c) ∧ b.string? = some (g.W.drop g.c) ∧ b.len = (g.W.drop g.c).length := by
  refine ⟨Rep.bytes? h, Rep.bytes? h, ?_⟩
  have := Rep.unread_length h
  have := Rep.off_le h
  unfold Buffer.len Ghost.unread at *
  omega

/-- The unread portion, OctetsStream.  `Bytes()` returns `W[c..]` without panic, `Len()` is the retained length `|W| - r`,
    `Position()` is `c - r`, so `Len() - Position()` is the unread length. -/
theorem C13_stream_unread (s : Stream) (g : Ghost) (h : StreamRel s g) :
    s.bytes? = some (g.W.drop g.c) ∧ s.len = g.W.length - g.r ∧ s.position = g.c - g.r ∧
      s.len - s.position = (g.W.drop g.c).length :=
  ⟨Rep.bytes? h, Rep.length h, h.2.2, (Rep.unread_length h).symm⟩

/-- After ANY op sequence of the domain `Bytes()` is the unread part of the write history of SOME abstract run that
    produced the same outputs (`C13_buffer_refines` with `C13_buffer_unread`, stated without an intermediate relation). -/
theorem C13_buffer_bytes_after_run (ops : List Buffer.Op) (hv : ∀ op ∈ ops, BufferOpValid op)
    (hsize : ((3 * bufferSizes ops : Nat) : Int) ≤ maxAlloc) :
    ∃ g', BufferSpecRun Ghost.init ops (Buffer.init.run ops).2 g' ∧
      (Buffer.init.run ops).1.bytes? = some (g'.W.drop g'.c) ∧ g'.r ≤ g'.c ∧ g'.c ≤ g'.W.length := by
  obtain ⟨g', hrun, hrel⟩ := C13_buffer_refines ops hv hsize
  exact ⟨g', hrun, (C13_buffer_unread _ _ hrel).1, hrel.1.1, hrel.1.2⟩

theorem C13_stream_bytes_after_run (ops : List Stream.Op) (hv : ∀ op ∈ ops, StreamOpValid op)
    (hsize : (streamSizes ops : Int) < 2 ^ 63) :
    ∃ g', StreamSpecRun Ghost.init ops (Stream.init.run ops).2 g' ∧
      (Stream.init.run ops).1.bytes? = some (g'.W.drop g'.c) ∧ g'.r ≤ g'.c ∧ g'.c ≤ g'.W.length := by
  obtain ⟨g', hrun, hrel⟩ := C13_stream_refines ops hv hsize
  exact ⟨g', hrun, (C13_stream_unread _ _ hrel).1, hrel.1.1, hrel.1.2⟩

/-- Compaction is invisible (ghost-free form).  In every state satisfying the representation invariant
    (`C13_buffer_invariant`: every reachable state), `Write(p)` changes `Bytes()` to `Bytes() ++ p`, and `Grow(n)`
    (`n ≥ 0`) and `Tidy()` do not change `Bytes()` at all — whichever of reset-if-empty / reslice / small allocation /
    slide / reallocation the grow policy picks. -/
theorem C13_buffer_compaction_invisible (b : Buffer) (hinv : BufferInv b) (p : List Byte) (n : Nat)
    (hp : ((3 * (b.buf.length + p.length) : Nat) : Int) ≤ maxAlloc)
    (hn : ((3 * (b.buf.length + n) : Nat) : Int) ≤ maxAlloc) :
    (b.write p).1.bytes = b.bytes ++ p ∧ (b.write p).2 = .wrote p.length ∧
    (b.growOp n).1.bytes = b.bytes ∧ (b.growOp n).2 = .unit ∧ n ≤ (b.growOp n).1.cap - (b.growOp n).1.buf.length ∧
    b.tidy.bytes = b.bytes := by
  obtain ⟨k1, c1, i1, hw, hf1⟩ := write_char b p hinv hp
  obtain ⟨k2, c2, i2, hg, hf2⟩ := growOp_char b n (Int.natCast_nonneg n) hinv hn
  rw [hw, hg, buffer_tidy_eq]
  refine ⟨dropped_bytes hf1.le hinv.1 .., rfl, by simpa using dropped_bytes hf2.le hinv.1 [] c2 i2, rfl, ?_, rfl⟩
  show n ≤ c2 - (b.buf.drop k2 ++ []).length
  rw [List.append_nil, List.length_drop]
  exact Nat.le_sub_of_add_le' hf2.room

example : BufferInv (Buffer.init.run [.write [1, 2, 3], .read 2]).1 := by decide

set_option linter.unusedVariables false in
/-- Seek, iox.Buffer.  In a state representing `(W, r, c)` (three times the length at most `maxAlloc`),
    `Seek(offset, whence)` with an int64 offset either fails leaving the state unchanged, or returns the position `c' - r`
    of a cursor `c'` with `r ≤ c' ≤ |W|`, leaves the contents untouched, and `Bytes()` afterwards is `W[c'..]` — the bytes
    originally written there.  It succeeds exactly when whence ∈ {0,1,2} and the designated target lies in
    `[0, |W| - r]` (`Ghost.seekOk`). -/
theorem C13_buffer_seek (b : Buffer) (g : Ghost) (o w : Int) (ho : -(2 ^ 63 : Int) ≤ o ∧ o < 2 ^ 63)
    (hinv : BufferInv b) (hrel : BufferRel b g) (hlen : ((3 * b.buf.length : Nat) : Int) ≤ maxAlloc) :
    (¬ g.seekOk o w ∧ b.seek o w = (b, .seek 0 .invalidSeek)) ∨
    (g.seekOk o w ∧ ∃ c', g.r ≤ c' ∧ c' ≤ g.W.length ∧ (c' : Int) = g.r + g.seekTarget o w ∧
      (b.seek o w).2 = .seek (c' - g.r) .nil ∧ (b.seek o w).1.buf = b.buf ∧ (b.seek o w).1.cap = b.cap ∧
      (b.seek o w).1.bytes? = some (g.W.drop c')) := by
  -- `hrel` gives `off ≤ len`, and Seek reads neither `cap` nor `isNil`
  rw [buffer_seek_eq hrel w ho (by rw [maxAlloc_eq] at hlen; omega)]
  by_cases hok : g.seekOk o w
  · obtain ⟨c', h1, h2, h3, h4, hrel'⟩ := Rep.seek_cursor hrel hok
    rw [if_pos hok, h4]
    exact Or.inr ⟨hok, c', h1, h2, h3, rfl, rfl, rfl, Rep.bytes? hrel'⟩
  · exact Or.inl ⟨hok, if_neg hok⟩

/-- Seek, OctetsStream: the same statement; `Len()` (retained length) and contents unchanged. -/
theorem C13_stream_seek (s : Stream) (g : Ghost) (o w : Int) (ho : -(2 ^ 63 : Int) ≤ o ∧ o < 2 ^ 63)
    (hrel : StreamRel s g) (hlen : (s.buf.length : Int) < 2 ^ 63) :
    (¬ g.seekOk o w ∧ s.seek o w = (s, .seek 0 .invalidArgument)) ∨
    (g.seekOk o w ∧ ∃ c', g.r ≤ c' ∧ c' ≤ g.W.length ∧ (c' : Int) = g.r + g.seekTarget o w ∧
      (s.seek o w).2 = .seek (c' - g.r) .nil ∧ (s.seek o w).1.buf = s.buf ∧
      (s.seek o w).1.bytes? = some (g.W.drop c')) := by
  rw [stream_seek_eq hrel w ho hlen]
  by_cases hok : g.seekOk o w
  · obtain ⟨c', h1, h2, h3, h4, hrel'⟩ := Rep.seek_cursor hrel hok
    rw [if_pos hok, h4]
    exact Or.inr ⟨hok, c', h1, h2, h3, rfl, rfl, Rep.bytes? hrel'⟩
  · exact Or.inl ⟨hok, if_neg hok⟩

/-- No panic, iox.Buffer.  No op sequence of the domain (non-negative Next/Grow sizes, int64 offsets, three times the
    bytes written and requested, `bufferSizes`, at most `maxAlloc` = 2^48) produces a panic outcome — in particular the
    ErrTooLarge branch and the slice expressions of Next/Tidy/grow are never out of range — and afterwards the cursor is
    inside the data: `off ≤ len`, so `Bytes()` and `String()` do not panic either. -/
theorem C13_buffer_no_panic (ops : List Buffer.Op) (hv : ∀ op ∈ ops, BufferOpValid op)
    (hsize : ((3 * bufferSizes ops : Nat) : Int) ≤ maxAlloc) :
    (∀ out ∈ (Buffer.init.run ops).2, ∀ why, out ≠ .panic why) ∧
    (Buffer.init.run ops).1.off ≤ (Buffer.init.run ops).1.buf.length ∧
    (Buffer.init.run ops).1.bytes? ≠ none ∧ (Buffer.init.run ops).1.string? ≠ none := by
  obtain ⟨g', hrun, hrel⟩ := C13_buffer_refines ops hv hsize
  obtain ⟨hb, hs, _⟩ := C13_buffer_unread _ _ hrel
  exact ⟨bufferSpecRun_no_panic ops _ _ _ hrun, Rep.off_le hrel, hb ▸ Option.some_ne_none _,
    hs ▸ Option.some_ne_none _⟩

/-- No panic, OctetsStream: no panic outcome, `position ≤ len(buffer)`, `Bytes()` does not panic. -/
theorem C13_stream_no_panic (ops : List Stream.Op) (hv : ∀ op ∈ ops, StreamOpValid op)
    (hsize : (streamSizes ops : Int) < 2 ^ 63) :
    (∀ out ∈ (Stream.init.run ops).2, ∀ why, out ≠ .panic why) ∧
    (Stream.init.run ops).1.pos ≤ (Stream.init.run ops).1.buf.length ∧
    (Stream.init.run ops).1.bytes? ≠ none := by
  obtain ⟨g', hrun, hrel⟩ := C13_stream_refines ops hv hsize
  refine ⟨streamSpecRun_no_panic ops _ _ _ hrun, Rep.off_le hrel, ?_⟩
  exact (C13_stream_unread _ _ hrel).1 ▸ Option.some_ne_none _

/-- the domain restriction is needed: negative sizes do panic (by design of bytes.Buffer) -/
example : (Buffer.init.run [.grow (-1)]).2 = [.panic "bytes.Buffer.Grow: negative count"] ∧
    (Buffer.init.run [.write [1], .next (-1)]).2 = [.wrote 1, .panic "slice bounds out of range"] := by decide

/-- Capacity invariant (model fidelity).  In every reachable state `off ≤ len(buf) ≤ cap(buf)` and
    `buf == nil ⇔ cap(buf) = 0`; Go guarantees `len ≤ cap` for every slice, the model has to maintain it itself.
    `Cap()` is part of every compared observation, which ties the grow policy of the model to the code. -/
theorem C13_buffer_invariant (ops : List Buffer.Op) (hv : ∀ op ∈ ops, BufferOpValid op)
    (hsize : ((3 * bufferSizes ops : Nat) : Int) ≤ maxAlloc) :
    let b := (Buffer.init.run ops).1
    b.off ≤ b.buf.length ∧ b.buf.length ≤ b.cap ∧ (b.isNil = true ↔ b.cap = 0) ∧ b.buf.length ≤ bufferSizes ops := by
  obtain ⟨g', _, ⟨_, hinv⟩, hlen⟩ :=
    buffer_run_sim ops Buffer.init Ghost.init sim_init hv (by simpa [Buffer.init] using hsize)
  exact ⟨hinv.1, hinv.2.1, hinv.2.2, by simpa [Buffer.init] using hlen⟩

/-- FIFO law, iox.Buffer.  For every op sequence of the domain without Seek and Reset: the bytes returned by all
    Read/Next calls, in order, followed by what `Bytes()` returns at the end, are exactly the bytes passed to all Write
    calls, in order — no byte is lost, duplicated or reordered by Tidy or by any branch of the grow policy. -/
theorem C13_buffer_fifo (ops : List Buffer.Op) (hv : ∀ op ∈ ops, BufferOpValid op)
    (hfree : ∀ op ∈ ops, BufSeekFree op) (hsize : ((3 * bufferSizes ops : Nat) : Int) ≤ maxAlloc) :
    bufReads (Buffer.init.run ops).2 ++ (Buffer.init.run ops).1.bytes = bufWrites ops := by
  obtain ⟨g', hrun, hrel⟩ := C13_buffer_refines ops hv hsize
  rw [show (Buffer.init.run ops).1.bytes = g'.unread from Rep.unread hrel]
  exact (buffer_fifo_gen ops Ghost.init g' _ Rep.init.1 hfree hrun).init_law

example : bufReads (Buffer.init.run [.write [1, 2, 3], .read 2, .grow 2, .write [4], .tidy, .next 1]).2 ++
    (Buffer.init.run [.write [1, 2, 3], .read 2, .grow 2, .write [4], .tidy, .next 1]).1.bytes = [1, 2, 3, 4] := by
  decide

/-- FIFO law, OctetsStream: bytes returned by Read/ReadByte, in order, followed by the final `Bytes()`, are exactly the
    bytes appended by all Write* calls, in order (seek- and reset-free sequences). -/
theorem C13_stream_fifo (ops : List Stream.Op) (hfree : ∀ op ∈ ops, StrSeekFree op)
    (hsize : (streamSizes ops : Int) < 2 ^ 63) :
    strReads (Stream.init.run ops).2 ++ (Stream.init.run ops).1.bytes = strWrites ops := by
  obtain ⟨g', hrun, hrel⟩ := C13_stream_refines ops (fun op hop => (hfree op hop).valid) hsize
  rw [show (Stream.init.run ops).1.bytes = g'.unread from Rep.unread hrel]
  exact (stream_fifo_gen ops Ghost.init g' _ Rep.init.1 hfree hrun).init_law

example : strReads (Stream.init.run [.write [1, 2, 3], .readByte, .writeInt16 (-2), .tidy, .read 2, .readByte]).2 ++
    (Stream.init.run [.write [1, 2, 3], .readByte, .writeInt16 (-2), .tidy, .read 2, .readByte]).1.bytes
      = [1, 2, 3, 254, 255] := by
  decide

/-- the defect fixed by `fix: iox OctetsStream.Seek rejects positions beyond the end of the data`:
    with the old Seek, `Seek(10, SeekStart)` on 5 bytes succeeds and `Bytes()` then panics; the current Seek fails and
    leaves the stream unchanged. -/
theorem C13_stream_old_counterexample :
    let s := (Stream.init.write [1, 2, 3, 4, 5])
    (s.seekOld 10 0).2 = .seek 10 .nil ∧ (s.seekOld 10 0).1.bytes? = none ∧
    (s.seek 10 0).2 = .seek 0 .invalidArgument ∧ (s.seek 10 0).1 = s := by
  decide

/-! `mdl buf pos` = the hand-written model's stream with the bytes `buf` (held as `BitVec 8` by the embedding, as `Nat` by the
model) and cursor `pos`; a state of the embedding is `⟨buf, pos, alloc⟩ : St` (`pos : Nat`, i.e. `0 ≤ position`).
Go `int` is an unbounded integer in the embedding (positions and lengths of real slices are < 2^63), `int64` is
`BitVec 64`: `Seek`'s `num += offset` wraps and its comparisons are signed, exactly as in Go.
The bounds `k ≤ fuel` are those of the lemmas in `BytesStreamAst` / `CodecAst`: enough for the longest chain of
statements through the method (not all tight); the 16 of the step and run theorems is the largest, `Seek`'s. -/
section translated
open Got.Model.MiniGoBytes (run St Val)
open Got.Generated.AstIox Got.Lemmas.BytesStreamAst
open Got.Model.BytesStreamAst (astCall outState astRun)

/-- every method used below was translated completely (no construct outside the embedded fragment) -/
theorem C13_translation_in_fragment :
    OctetsStream_WriteNote = "ok" ∧ OctetsStream_WriteByteNote = "ok" ∧ OctetsStream_ReadNote = "ok" ∧
    OctetsStream_ReadByteNote = "ok" ∧ OctetsStream_LenNote = "ok" ∧ OctetsStream_PositionNote = "ok" ∧
    OctetsStream_BytesNote = "ok" ∧ OctetsStream_TidyNote = "ok" ∧ OctetsStream_ResetNote = "ok" ∧
    OctetsStream_SeekNote = "ok" ∧ OctetsStream_WriteBoolNote = "ok" ∧ OctetsStream_WriteInt16Note = "ok" ∧
    OctetsStream_WriteInt32Note = "ok" ∧ OctetsStream_WriteInt64Note = "ok" := by decide

/-- `Write(data)`: result nil, the caller's slice unchanged, the model's `write` -/
theorem C13_translated_source_Write_refines_model (buf data : List (BitVec 8)) (pos a fuel : Nat) (hf : 5 ≤ fuel) :
    run table "OctetsStream.Write" fuel [.bytes data] ⟨buf, pos, a⟩ =
      some (wOut [some data] ((mdl buf pos).write (data.map BitVec.toNat)) a) :=
  s_write_ast' buf data pos a fuel hf

theorem C13_translated_source_WriteByte_refines_model (buf : List (BitVec 8)) (b : BitVec 8) (pos a fuel : Nat)
    (hf : 3 ≤ fuel) :
    run table "OctetsStream.WriteByte" fuel [.bv 8 false b] ⟨buf, pos, a⟩ =
      some (wOut [none] ((mdl buf pos).append [b.toNat]) a) :=
  s_writeByte_ast' buf b pos a fuel hf

/-- `Read(dst)` for every destination slice: count, error and the bytes copied into `dst` are the model's `read (len dst)` -/
theorem C13_translated_source_Read_refines_model (buf dst : List (BitVec 8)) (pos a fuel : Nat) (hf : 14 ≤ fuel)
    (hp : pos ≤ buf.length) :
    run table "OctetsStream.Read" fuel [.bytes dst] ⟨buf, pos, a⟩ =
      some (readOut' a dst ((mdl buf pos).read dst.length)) :=
  s_read_ast buf dst pos a fuel hf hp

theorem C13_translated_source_ReadByte_refines_model (buf : List (BitVec 8)) (pos a fuel : Nat) (hf : 5 ≤ fuel) :
    run table "OctetsStream.ReadByte" fuel [] ⟨buf, pos, a⟩ = some (byteOut a (mdl buf pos).readByte) :=
  s_readByte_ast' buf pos a fuel hf

theorem C13_translated_source_Len_refines_model (buf : List (BitVec 8)) (pos a fuel : Nat) (hf : 2 ≤ fuel) :
    run table "OctetsStream.Len" fuel [] ⟨buf, pos, a⟩ = some (.ret [.int (mdl buf pos).len] [] ⟨buf, pos, a⟩) :=
  s_len_ast buf pos a fuel hf

theorem C13_translated_source_Position_refines_model (buf : List (BitVec 8)) (pos a fuel : Nat) (hf : 2 ≤ fuel) :
    run table "OctetsStream.Position" fuel [] ⟨buf, pos, a⟩ =
      some (.ret [.int (mdl buf pos).position] [] ⟨buf, pos, a⟩) :=
  s_position_ast buf pos a fuel hf

/-- `Bytes()` = the model's `bytes?` in ALL states: outside the invariant (`pos > len`) both panic -/
theorem C13_translated_source_Bytes_refines_model (buf : List (BitVec 8)) (pos a fuel : Nat) (hf : 2 ≤ fuel) :
    run table "OctetsStream.Bytes" fuel [] ⟨buf, pos, a⟩ = some (bytesOut ⟨buf, pos, a⟩ (mdl buf pos).bytes?) :=
  s_bytes_ast buf pos a fuel hf

theorem C13_translated_source_Tidy_refines_model (buf : List (BitVec 8)) (pos a fuel : Nat) (hf : 8 ≤ fuel)
    (hp : pos ≤ buf.length) :
    run table "OctetsStream.Tidy" fuel [] ⟨buf, pos, a⟩ = some (unitOut (mdl buf pos).tidy a) :=
  s_tidy_ast buf pos a fuel hf hp

theorem C13_translated_source_Reset_refines_model (buf : List (BitVec 8)) (pos a fuel : Nat) (hf : 4 ≤ fuel) :
    run table "OctetsStream.Reset" fuel [] ⟨buf, pos, a⟩ = some (unitOut (mdl buf pos).reset a) :=
  s_reset_ast buf pos a fuel hf

/-- `Seek(offset, whence)` for ALL int64 offsets (also where `num += offset` overflows and wraps) and ALL `whence`
    values, in every state with `pos ≤ len buf < 2^63`: results and final state are the model's `seek` -/
theorem C13_translated_source_Seek_refines_model (buf : List (BitVec 8)) (pos a : Nat) (o : BitVec 64) (w : Int)
    (fuel : Nat) (hf : 16 ≤ fuel) (hp : pos ≤ buf.length) (hL : (buf.length : Int) < 2 ^ 63) :
    run table "OctetsStream.Seek" fuel [.bv 64 true o, .int w] ⟨buf, pos, a⟩ =
      some (seekOut a ((mdl buf pos).seek o.toInt w)) :=
  s_seek_ast buf pos a o w fuel hf hp hL

/-- non-vacuity: an overflowing case — Seek(maxInt64, SeekCurrent) at position 1 wraps to minInt64 and is rejected -/
example : run table "OctetsStream.Seek" 16 [.bv 64 true (BitVec.ofInt 64 (2 ^ 63 - 1)), .int 1] ⟨[1, 2, 3], (1 : Nat), 0⟩ =
    some (.ret [.bv 64 true 0, .err (some .InvalidArgument)] [none, none] ⟨[1, 2, 3], (1 : Nat), 0⟩) := by
  rw [C13_translated_source_Seek_refines_model _ _ _ _ _ _ (by decide) (by decide) (by decide)]; rfl

example : run table "OctetsStream.Seek" 16 [.bv 64 true (BitVec.ofInt 64 (-1)), .int 2] ⟨[1, 2, 3], (1 : Nat), 0⟩ =
    some (.ret [.bv 64 true 2, .err none] [none, none] ⟨[1, 2, 3], (2 : Nat), 0⟩) := by
  rw [C13_translated_source_Seek_refines_model _ _ _ _ _ _ (by decide) (by decide) (by decide)]; rfl

/-- Seek never leaves the data, stated of the interpreted generated term alone: for every int64 offset and every
    `whence`, in every state with `0 ≤ pos ≤ len buf`, `Seek` does not panic and either returns `(p, nil)` with the
    cursor at `p`, `0 ≤ p ≤ len buf`, or returns `(0, ErrInvalidArgument)` with the stream exactly as it was; the buffer
    is never changed.  (This is the statement the seeded change "per-whence validation" breaks.) -/
theorem C13_translated_source_Seek_stays_in_range (buf : List (BitVec 8)) (pos a : Nat) (o : BitVec 64) (w : Int)
    (fuel : Nat) (hf : 16 ≤ fuel) (hp : pos ≤ buf.length) (hL : (buf.length : Int) < 2 ^ 63) :
    (∃ p : Nat, p ≤ buf.length ∧ run table "OctetsStream.Seek" fuel [.bv 64 true o, .int w] ⟨buf, pos, a⟩ =
        some (.ret [.bv 64 true (BitVec.ofNat 64 p), .err none] [none, none] ⟨buf, p, a⟩)) ∨
    run table "OctetsStream.Seek" fuel [.bv 64 true o, .int w] ⟨buf, pos, a⟩ =
        some (.ret [.bv 64 true 0, .err (some .InvalidArgument)] [none, none] ⟨buf, pos, a⟩) := by
  rw [s_seek_ast buf pos a o w fuel hf hp hL]
  rcases mdl_seek_cases buf pos o.toInt w hp ⟨BitVec.le_toInt o, BitVec.toInt_lt⟩ hL with ⟨p, hple, hs⟩ | hs
  · left; exact ⟨p, hple, by rw [hs, seekOut, conc_mdl]; rfl⟩
  · right; rw [hs, seekOut, conc_mdl]; rfl

/-- Tidy is invisible, stated of the interpreted generated terms alone: `Bytes()` after `Tidy()` = `Bytes()` before -/
theorem C13_translated_source_Tidy_invisible (buf : List (BitVec 8)) (pos a fuel : Nat) (hf : 8 ≤ fuel)
    (hp : pos ≤ buf.length) :
    ∃ buf', run table "OctetsStream.Tidy" fuel [] ⟨buf, pos, a⟩ = some (.ret [] [] ⟨buf', (0 : Nat), a⟩) ∧
      ∃ bs, run table "OctetsStream.Bytes" fuel [] ⟨buf, pos, a⟩ = some (.ret [.bytes bs] [] ⟨buf, pos, a⟩) ∧
        run table "OctetsStream.Bytes" fuel [] ⟨buf', (0 : Nat), a⟩ = some (.ret [.bytes bs] [] ⟨buf', (0 : Nat), a⟩) :=
  ⟨buf.drop pos, by rw [s_tidy_ast buf pos a fuel hf hp, mdl_tidy buf pos, unitOut, conc_mdl],
    buf.drop pos, bytes_ast_ok buf pos a fuel (by omega) hp, bytes_ast_ok _ 0 a fuel (by omega) (Nat.zero_le _)⟩

/-- One call of any of the eleven operations of the model (`AstDom` = the arguments are values of the Go parameter types:
    byte payloads, int16/int32/int64 arguments and offsets), in any state with `pos ≤ len buf`: the interpreted
    generated term returns the encoding of the model's step, ends in the model's state, and keeps `pos ≤ len buf`.
    (Write, WriteByte, Read, ReadByte, Tidy, Reset, Seek: theorems above; WriteBool / WriteInt16/32/64: the codec
    family's refinement of the same generated terms, `s_writeBool_ast`, `s_writeInt16_ast` …, plus `writeBool_bridge` /
    `writeFixed_bridge`: the bytes of the two hand-written models agree.) -/
theorem C13_translated_source_step_refines_model (fuel : Nat) (hf : 16 ≤ fuel) (buf : List (BitVec 8)) (pos a : Nat)
    (hp : pos ≤ buf.length) (op : Stream.Op) (hop : AstDom op)
    (hL : ((buf.length + StreamOpSize op : Nat) : Int) < 2 ^ 63) :
    ∃ (buf' : List (BitVec 8)) (pos' : Nat),
      astCall fuel ⟨buf, pos, a⟩ op = some (encOut a op ((mdl buf pos).step op)) ∧
      outState (encOut a op ((mdl buf pos).step op)) = some ⟨buf', pos', a⟩ ∧
      ((mdl buf pos).step op).1 = mdl buf' pos' ∧ pos' ≤ buf'.length ∧ buf'.length ≤ buf.length + StreamOpSize op :=
  ast_step fuel hf buf pos a hp op hop hL

/-- The property, stated of the translated source itself.  ANY sequence of operations (all eleven ops of the model,
    arguments in the range of their Go types) on a fresh stream, executed by interpreting the generated terms call after
    call (`astRun`): no call panics or gets stuck; call by call the Go-level results are the encodings (`encRun`) of
    outputs that some run of the ABSTRACT seekable FIFO produces (`StreamSpecRun`); the cursor ends inside the data; and
    the interpreted `Bytes()` in the final state returns exactly the unread part `W[c..]` of that abstract run's write
    history. -/
theorem C13_translated_source_run_is_seekable_fifo (fuel : Nat) (hf : 16 ≤ fuel) (ops : List Stream.Op)
    (hdom : ∀ op ∈ ops, AstDom op) (hsize : (streamSizes ops : Int) < 2 ^ 63) :
    ∃ (buf' : List (BitVec 8)) (pos' : Nat) (g' : Ghost),
      astRun fuel ⟨[], (0 : Nat), 0⟩ ops = some (⟨buf', pos', 0⟩, encRun 0 Stream.init ops) ∧
      StreamSpecRun Ghost.init ops (Stream.init.run ops).2 g' ∧ StreamRel (mdl buf' pos') g' ∧
      pos' ≤ buf'.length ∧
      ∃ bs, run table "OctetsStream.Bytes" fuel [] ⟨buf', pos', 0⟩ = some (.ret [.bytes bs] [] ⟨buf', pos', 0⟩) ∧
        bs.map BitVec.toNat = g'.W.drop g'.c := by
  obtain ⟨buf', pos', hrun, hfin, hp'⟩ := ast_run fuel hf ops [] 0 0 (Nat.le_refl _) hdom (by simpa using hsize)
  obtain ⟨g', hspec, hrel⟩ := C13_stream_refines ops (fun op hop => (hdom op hop).valid) hsize
  rw [show (Stream.init.run ops).1 = mdl buf' pos' from hfin] at hrel
  refine ⟨buf', pos', g', hrun, hspec, hrel, hp', buf'.drop pos', bytes_ast_ok buf' pos' 0 fuel (by omega) hp', ?_⟩
  rw [List.map_drop]
  exact Rep.unread hrel

/-- non-vacuity of the theorem above: a concrete sequence with a failing Seek, a Read, Tidy and a wrap-free Seek -/
example : ∃ (buf' : List (BitVec 8)) (pos' : Nat) (g' : Ghost),
    astRun 16 ⟨[], (0 : Nat), 0⟩ [.write [1, 2, 3, 4, 5], .seek 10 0, .read 4, .tidy, .seek (-1) 2, .readByte, .writeInt32 (-2), .writeBool true] =
      some (⟨buf', pos', 0⟩, encRun 0 Stream.init [.write [1, 2, 3, 4, 5], .seek 10 0, .read 4, .tidy, .seek (-1) 2, .readByte, .writeInt32 (-2), .writeBool true]) ∧
    StreamSpecRun Ghost.init [.write [1, 2, 3, 4, 5], .seek 10 0, .read 4, .tidy, .seek (-1) 2, .readByte, .writeInt32 (-2), .writeBool true]
      (Stream.init.run [.write [1, 2, 3, 4, 5], .seek 10 0, .read 4, .tidy, .seek (-1) 2, .readByte, .writeInt32 (-2), .writeBool true]).2 g' ∧
    StreamRel (mdl buf' pos') g' ∧ pos' ≤ buf'.length ∧
    ∃ bs, run table "OctetsStream.Bytes" 16 [] ⟨buf', pos', 0⟩ = some (.ret [.bytes bs] [] ⟨buf', pos', 0⟩) ∧
      bs.map BitVec.toNat = g'.W.drop g'.c :=
  C13_translated_source_run_is_seekable_fifo 16 (Nat.le_refl _) _ (by decide) (by decide)

end translated
