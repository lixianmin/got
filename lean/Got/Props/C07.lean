import Got.Lemmas.AntsLive
import Got.Lemmas.AntsWork
/-
C07 — ants: every accepted task completes once with a result matching its attempts.
Model: Got.Model.Ants (timed LTS of package ants; the source files are listed there).  All theorems but the two concrete
`C07_old_*` at the end quantify over every reachable state of the current code (`c.old = false`), i.e. over all pool sizes, all Send streams and options, all
handler behaviours (whether a handler honours its context is chosen at `wStart`, when and what it returns at `wEnd`), all
interleavings and all timings.
"outcome of attempt a" = `Att.outcome`: the handler's pair if the closure won the decided flag
(`decided = 1`, possible only after its ctx check saw the context not done: `sawLive`), or
(nil, DeadlineExceeded) if the dispatcher won it (`decided = 2`).  The flag is a single word that
is written only by a successful CAS from 0, so exactly one side decides each attempt.
Liveness at quiescence (`C07_quiescent_invocations`, `C07_invoked_between_1_and_R`): `Quiescent c s`
(Got.Model.AntsLive) = no internal transition of the model is enabled (internal = everything except a client calling
Send, a handler returning, and the clock: i.e. the rest of Send, all dispatcher and inner-worker steps including
entering the handler, and the firing of a due context timer) and no handler call is in progress.  Quiescence is
inevitable once Sends stop and handlers return: the number of non-clock transitions of any Send-free run is bounded
(`C07_bounded_work`) and a state that is not quiescent has an enabled internal transition or a running handler
(`not_quiescent_cases` in Got/Lemmas/AntsEnabled.lean; `C07_progress` is the case of a begun attempt still without
invocation).  Scope of the statement: like the whole model it assumes the pool is not finalized while tasks are in
flight (the model has no transition closing `closeChan`); what the real code does when it is, is recorded in DESIGN.md.
-/
open Got.Model.Ants

/-- attempts and invocations: invocations ≤ attempts begun ≤ R; at most one invocation per attempt and none for
    attempts not begun; a finished accepted task made ≥ 1 attempt; attempt a+1 was begun only after attempt a was
    decided with a non-nil error. -/
theorem C07_attempts (c : Cfg) (hc : c.old = false) (s : State) (hr : Reachable c s) (k : Nat) :
    (s.task k).inv ≤ (s.task k).att ∧ (s.task k).att ≤ (s.task k).R ∧
    (∀ a, ((s.task k).at_ a).starts ≤ 1 ∧ ((s.task k).att ≤ a → ((s.task k).at_ a).starts = 0)) ∧
    ((s.task k).pc = .done → 1 ≤ (s.task k).att) ∧
    (∀ a, a + 1 < (s.task k).att → ∃ p, ((s.task k).at_ a).outcome = some p ∧ p.2 ≠ .nil) := by
  have ok := inv_reachable hc hr k
  have hst : ∀ a, ((s.task k).at_ a).starts ≤ 1 := by
    intro a; have := (ok.atts a).starts_eq; split at this <;> omega
  refine ⟨?_, ok.att_le, ?_, ?_, fun a ha => ok.past_outcome ha⟩
  · rw [ok.inv_eq]; exact sumStarts_le _ _ hst
  · intro a; refine ⟨hst a, ?_⟩; intro h; rw [ok.beyond a h]
  · intro h; exact ok.att_pos (by simp [h, TPc.pre]) (by simp [h])

/-- at Done the published pair is the outcome of the last attempt; a handler's pair counts only if its closure saw
    the context not done; the task stopped at the first success or after R attempts; every earlier attempt failed;
    Get2 returns that pair. -/
theorem C07_outcome (c : Cfg) (hc : c.old = false) (s : State) (hr : Reachable c s) (k : Nat)
    (hd : (s.task k).pc = .done) :
    1 ≤ (s.task k).att ∧ (s.task k).att ≤ (s.task k).R ∧
    ((s.task k).at_ (s.task k).cur).outcome = some ((s.task k).result, (s.task k).err) ∧
    (((s.task k).at_ (s.task k).cur).decided = 1 → ((s.task k).at_ (s.task k).cur).sawLive = true) ∧
    ((s.task k).err = .nil ∨ (s.task k).att = (s.task k).R) ∧
    (∀ a, a + 1 < (s.task k).att → ∃ p, ((s.task k).at_ a).outcome = some p ∧ p.2 ≠ .nil) ∧
    get2 (s.task k) = some ((s.task k).result, (s.task k).err) ∧
    (s.task k).got = some ((s.task k).result, (s.task k).err) := by
  have ok := inv_reachable hc hr k
  have hatt : 1 ≤ (s.task k).att := ok.att_pos (by simp [hd, TPc.pre]) (by simp [hd])
  have ax := ok.atts (s.task k).cur
  have hnw := no_write ok (by simp [hd, TPc.waiting]) (s.task k).cur
  have h0 : ((s.task k).at_ (s.task k).cur).decided ≠ 0 := by
    intro h; have := ok.dec0 hatt h; simp [hd, TPc.preDecide] at this
  refine ⟨hatt, ok.att_le, ?_, fun h => (ax.of_dec1 h).1, ok.errFin (by simp [hd, TPc.fin]),
    fun a ha => ok.past_outcome ha, by simp [get2, hd], ok.gotD hd⟩
  by_cases h1 : ((s.task k).at_ (s.task k).cur).decided = 1
  · have hac := (ax.of_dec1 h1).2.2
    simp [Att.outcome, h1, ok.pub1 hatt h1 (CPc.fin_of_afterCas hac hnw)]
  · have h2 : ((s.task k).at_ (s.task k).cur).decided = 2 := by have := ax.dec_le; omega
    obtain ⟨hr0, he⟩ := ok.pub2 hatt h2 (by simp [hd])
    simp [Att.outcome, h2, hr0, he]

/-- once Get2 is unblocked (task done or discarded) nothing any goroutine does afterwards changes what Get2 returns,
    the onError log, or the number of attempts. -/
theorem C07_outcome_stable (c : Cfg) (hc : c.old = false) (s : State) (hr : Reachable c s) (k : Nat)
    (hd : (s.task k).pc = .done ∨ (s.task k).pc = .discarded) (acts : List Act) (s2 : State)
    (h : run c s acts = some s2) :
    get2 (s2.task k) = get2 (s.task k) ∧ (s2.task k).onErr = (s.task k).onErr ∧ (s2.task k).att = (s.task k).att := by
  have f := run_frozen hc (inv_reachable hc hr) k hd h
  simp only [Task.shown, Prod.mk.injEq] at f
  obtain ⟨f1, f2, f3, f4, f5⟩ := f
  refine ⟨?_, f4, f5⟩
  simp [get2, f1, f2, f3]

/-- the error callback: never before the task's loop is over; from the instant before wg.Done on (stages wgDone, done)
    it has been called exactly once iff the final error is non-nil (and a callback was given), with that error. -/
theorem C07_onerror (c : Cfg) (hc : c.old = false) (s : State) (hr : Reachable c s) (k : Nat) :
    (((s.task k).pc = .wgDone ∨ (s.task k).pc = .done) →
        (s.task k).onErr.map Prod.fst =
          if (s.task k).err ≠ .nil ∧ (s.task k).hasCb then [(s.task k).err] else []) ∧
    ((s.task k).pc ≠ .discarded → (s.task k).pc ≠ .wgDone → (s.task k).pc ≠ .done → (s.task k).onErr = []) := by
  have ok := inv_reachable hc hr k
  constructor
  · intro h; exact ok.onErrF (by rcases h with h | h <;> simp [h, TPc.fin])
  · intro h1 h2 h3
    refine ok.onErr0 h1 ?_
    generalize (s.task k).pc = p at h2 h3 ⊢
    cases p <;> first | rfl | exact absurd rfl h2 | exact absurd rfl h3

/-- a task rejected as busy: Get2 reports the discard error, the callback (if any) got exactly that error, no attempt
    was begun and the handler was never invoked. -/
theorem C07_discard (c : Cfg) (hc : c.old = false) (s : State) (hr : Reachable c s) (k : Nat)
    (hd : (s.task k).pc = .discarded) :
    get2 (s.task k) = some (0, .discard) ∧
    (s.task k).onErr.map Prod.fst = (if (s.task k).hasCb then [Err.discard] else []) ∧
    (s.task k).att = 0 ∧ (s.task k).inv = 0 ∧ ∀ a, ((s.task k).at_ a).starts = 0 := by
  have ok := inv_reachable hc hr k
  have h0 : (s.task k).att = 0 := ok.pre0 (by simp [hd, TPc.pre])
  refine ⟨by simp [get2, hd], ok.onErrD hd, h0, ?_, ?_⟩
  · rw [ok.inv_eq, h0]; rfl
  · intro a; rw [ok.beyond a (by omega)]

/-- fidelity of the model: the three guards that the model adds to channel operations (`take` requires the received
    task to be in stage `queued`, `wTake` requires the received closure to be `queued`, `sendCl` requires the current
    attempt's closure not to have been sent yet) hold in every reachable state, so they never disable a transition the
    Go code could take; both channels hold every item at most once. -/
theorem C07_model_guards_redundant (c : Cfg) (hc : c.old = false) (s : State) (hr : Reachable c s) :
    (∀ k rest, s.taskQ = k :: rest → (s.task k).pc = .queued) ∧
    (∀ k a rest, s.innerQ = (k, a) :: rest → ((s.task k).at_ a).pc = .queued) ∧
    (∀ k, (s.task k).pc = .sendCl → ((s.task k).at_ (s.task k).cur).pc = .none) ∧
    s.taskQ.Nodup ∧ s.innerQ.Nodup := by
  have hq := queueInv_reachable hc hr
  have hi := inv_reachable hc hr
  refine ⟨?_, ?_, fun k hp => ((hi k).sendCl hp).1, hq.tnd, hq.ind⟩
  · intro k rest e; exact hq.tq k (by rw [e]; simp)
  · intro k a rest e; exact hq.iq k a (by rw [e]; simp)

/-- at quiescence (no goroutine of the pool can take a step, no due timer, every started handler has returned) the
    handler has been invoked exactly once for every attempt that was begun: invocations = attempts, for every task. -/
theorem C07_quiescent_invocations (c : Cfg) (hc : c.old = false) (s : State) (hr : Reachable c s)
    (hq : Quiescent c s) (k : Nat) :
    (s.task k).inv = (s.task k).att ∧ ∀ a, a < (s.task k).att → ((s.task k).at_ a).starts = 1 :=
  quiescent_inv_eq_att (live_reachable hc hr) hq k

/-- the property as stated: once the pool has nothing left to do, the handler of a task accepted by Send (finished,
    not discarded) has been invoked between 1 and R times (R = the effective retry count). -/
theorem C07_invoked_between_1_and_R (c : Cfg) (hc : c.old = false) (s : State) (hr : Reachable c s)
    (hq : Quiescent c s) (k : Nat) (hd : (s.task k).pc = .done) :
    1 ≤ (s.task k).inv ∧ (s.task k).inv ≤ (s.task k).R := by
  have h := (C07_quiescent_invocations c hc s hr hq k).1
  have ha := C07_attempts c hc s hr k
  rw [h]
  exact ⟨ha.2.2.2.1 hd, ha.2.1⟩

/-- what "nothing left to do" amounts to: both channels empty, every inner worker free, no handler running, every
    task handed to Send finished (or, in a pool of size 0 — which NewPool never builds — blocked in the enqueue),
    every attempt's closure has closed its doneChan and no context timer is armed. -/
theorem C07_quiescent_shape (c : Cfg) (hc : c.old = false) (s : State) (hr : Reachable c s) (hq : Quiescent c s) :
    s.taskQ = [] ∧ s.innerQ = [] ∧ (∀ w, s.slot w = none) ∧ s.running = 0 ∧ dispatching s = 0 ∧
    (∀ k, (s.task k).pc = .none ∨ (s.task k).pc = .discarded ∨ (s.task k).pc = .done ∨
          ((s.task k).pc = .enq ∧ c.N = 0)) ∧
    (∀ k a, a < (s.task k).att → ((s.task k).at_ a).pc = .closed ∧ ((s.task k).at_ a).ctxDone = true) ∧
    armedTimer s = false := by
  have hL := live_reachable hc hr
  refine ⟨quiescent_taskQ hL hq, quiescent_innerQ hL hq, quiescent_slots_free hL hq, quiescent_running hL hq,
    quiescent_dispatching hL hq, quiescent_tasks hL hq,
    fun k a ha => ⟨quiescent_closed hL hq k a ha, quiescent_timers hL hq k a ha⟩, ?_⟩
  cases h : armedTimer s
  · rfl
  · simp only [armedTimer, List.any_eq_true, List.mem_range] at h
    obtain ⟨k, _, a, ha, hx⟩ := h
    rw [quiescent_timers hL hq k a ha] at hx
    cases hx

/-- `Quiescent` is decidable on reachable states: the executable `idle` (a scan of the finitely many candidate
    transitions of the tasks handed to Send so far) computes it. -/
theorem C07_quiescent_decidable (c : Cfg) (hc : c.old = false) (s : State) (hr : Reachable c s) :
    Quiescent c s ↔ idle c s = true :=
  let hL := live_reachable hc hr
  quiescent_iff_idle hL.inv hL.supp

/-- where an attempt without handler invocation is, in EVERY reachable state: its closure has not been submitted yet
    and its dispatcher stands before the send into innerCallbackChan; or it is inside innerCallbackChan; or an inner
    worker w < N holds it and is about to call the handler. -/
theorem C07_uninvoked_located (c : Cfg) (hc : c.old = false) (s : State) (hr : Reachable c s) (k a : Nat)
    (ha : a < (s.task k).att) (h0 : ((s.task k).at_ a).starts = 0) :
    (((s.task k).at_ a).pc = .none ∧ (s.task k).pc = .sendCl ∧ a + 1 = (s.task k).att) ∨
    (((s.task k).at_ a).pc = .queued ∧ (k, a) ∈ s.innerQ) ∨
    (∃ w, ((s.task k).at_ a).pc = .taken w ∧ s.slot w = some (k, a) ∧ w < c.N) :=
  uninvoked_located (live_reachable hc hr) k a ha h0

/-- progress: as long as some begun attempt of some task has no handler invocation yet, the pool is not stuck — some
    internal transition is enabled, or a handler is still running (whose return is the environment's move). -/
theorem C07_progress (c : Cfg) (hc : c.old = false) (s : State) (hr : Reachable c s) (k : Nat)
    (h : (s.task k).inv < (s.task k).att) :
    (∃ act, act.internal = true ∧ (step c s act).isSome = true) ∨
    (∃ k' a w hon, ((s.task k').at_ a).pc = .running w hon) := by
  by_cases hq : Quiescent c s
  · have := (C07_quiescent_invocations c hc s hr hq k).1
    omega
  · rcases not_quiescent_cases hq with ⟨act, s1, hi, hs⟩ | h
    · exact .inl ⟨act, hi, by rw [hs]; rfl⟩
    · exact .inr h

/-- quiescence is inevitable after the last Send: along any Send-free run from a reachable state the number of
    non-clock transitions (steps of clients inside Send, dispatchers, inner workers, timer firings AND handler returns)
    is bounded by the finite quantity `work s` (24 per attempt not yet begun + the remaining stages of every dispatcher,
    closure and timer: `wk`, `TPc.rank`, `CPc.rank` in Got/Lemmas/AntsWork.lean). So under fair scheduling, once Sends stop
    and every started handler returns, after at most `work s` transitions none is possible any more, and that state is
    `Quiescent` (`not_quiescent_cases`) — where `C07_quiescent_invocations` applies. -/
theorem C07_bounded_work (c : Cfg) (hc : c.old = false) (s : State) (hr : Reachable c s) (acts : List Act) (s2 : State)
    (h : run c s acts = some s2) (hns : ∀ a, a ∈ acts → a.isSend = false) :
    (acts.filter (fun a => !a.isClock)).length + work s2 ≤ work s :=
  let hL := live_reachable hc hr
  run_work hc hL.inv hL.supp hns h

/-- the quiescence theorems are never vacuous: EVERY reachable state can be continued, without any further Send, to a
    quiescent one (let the pool's goroutines run and every running handler return; no time needs to pass); by
    `C07_bounded_work` every such continuation is finite. -/
theorem C07_quiescence_reachable (c : Cfg) (hc : c.old = false) (s : State) (hr : Reachable c s) :
    ∃ acts s2, run c s acts = some s2 ∧ (∀ a, a ∈ acts → a.isSend = false) ∧ Quiescent c s2 :=
  let hL := live_reachable hc hr
  reaches_quiescent hc hL.inv hL.supp

/-! non-vacuity: a reachable finished task with two attempts (first timed out, second succeeded), and a discarded one -/
def c07DemoActs : List Act :=
  [.send 0 { timeout := 1000, retry := 2, discard := true, hasCb := true }, .busyTest 0, .enq 0, .take 0,
   .loopTest 0, .sendCl 0, .wTake 0 0 0, .wStart 0 0 true, .hook3 0,
   .send 1 { timeout := 1000, retry := 1, discard := true, hasCb := true }, .busyTest 1, .enq 1,
   .send 2 { timeout := 1000, retry := 1, discard := true, hasCb := true }, .busyTest 2, .discardCb 2,
   .advance 1000, .fire 0 0, .selCtx 0, .hook2 0, .decide 0, .writeDE 0, .cancel 0, .errTest 0,
   .wEnd 0 0 0 (.h 999), .wCheck 0 0, .wClose 0 0,
   .loopTest 0, .sendCl 0, .wTake 0 1 0, .wStart 0 1 true, .hook3 0, .advance 1500, .wEnd 0 1 8 .nil, .wCheck 0 1,
   .hook1 0 1, .wCas 0 1, .hook4 0 1, .wWrite 0 1, .wClose 0 1, .selDone 0, .decide 0, .waitDone 0, .cancel 0, .errTest 0, .wgDone 0]

example : ∃ s, Reachable { N := 1 } s ∧ (s.task 0).pc = .done ∧ (s.task 0).att = 2 ∧
    get2 (s.task 0) = some (8, .nil) ∧ (s.task 2).pc = .discarded ∧ (s.task 2).onErr = [(.discard, 0)] := by
  refine ⟨(run { N := 1 } init c07DemoActs).getD init, ⟨c07DemoActs, eq_some_getD (by decide)⟩, ?_, ?_, ?_, ?_, ?_⟩ <;> decide

/-! non-vacuity of the quiescence theorems: the demo run continued until the pool has nothing left to do (task 1 is
    picked up and finishes): a reachable quiescent state with a finished task that made a retry, inv = att = 2 ≤ R = 2;
    and the demo state itself (task 1 still in taskChan) is reachable but not quiescent. -/
def c07QuietActs : List Act :=
  c07DemoActs ++
  [.take 1, .loopTest 1, .sendCl 1, .wTake 1 0 0, .wStart 1 0 true, .hook3 1, .wEnd 1 0 5 .nil, .wCheck 1 0,
   .hook1 1 0, .wCas 1 0, .hook4 1 0, .wWrite 1 0, .wClose 1 0, .selDone 1, .decide 1, .waitDone 1, .cancel 1,
   .errTest 1, .wgDone 1]

theorem C07_quiescent_witness :
    ∃ s, Reachable { N := 1 } s ∧ Quiescent { N := 1 } s ∧ (s.task 0).pc = .done ∧ (s.task 0).R = 2 ∧
      (s.task 0).inv = 2 ∧ (s.task 0).att = 2 ∧ (s.task 1).pc = .done ∧ (s.task 1).inv = 1 ∧
      (s.task 2).pc = .discarded ∧ (s.task 2).inv = 0 := by
  have hr : Reachable { N := 1 } ((run { N := 1 } init c07QuietActs).getD init) :=
    ⟨c07QuietActs, eq_some_getD (by decide)⟩
  refine ⟨_, hr, (C07_quiescent_decidable { N := 1 } rfl _ hr).mpr (by decide), ?_, ?_, ?_, ?_, ?_, ?_, ?_, ?_⟩ <;>
    decide

theorem C07_not_quiescent_witness :
    ∃ s, Reachable { N := 1 } s ∧ ¬ Quiescent { N := 1 } s ∧ (s.task 0).pc = .done ∧ (s.task 1).pc = .queued := by
  have hr : Reachable { N := 1 } ((run { N := 1 } init c07DemoActs).getD init) :=
    ⟨c07DemoActs, eq_some_getD (by decide)⟩
  refine ⟨_, hr, ?_, by decide, by decide⟩
  intro hq
  have := (C07_quiescent_decidable { N := 1 } rfl _ hr).mp hq
  revert this
  decide

/-- non-vacuity of `C07_bounded_work`: right after `Send` with R = 2 the budget is 2·24 + 14 = 62 (two attempts not
    yet begun; 14 = `TPc.rank .sendTest`, the stage the task is in right after `Send`); the complete demo run
    `c07QuietActs` ends with 24 left (the unused attempt budget of the discarded task 2) -/
example : work ((run { N := 1 } init [.send 0 { timeout := 1000, retry := 2, discard := true, hasCb := true }]).getD init) = 62 ∧
    work ((run { N := 1 } init c07QuietActs).getD init) = 24 := by
  constructor <;> decide

/-- the schedule of the torn-result defect on the code before the decided flag (N = 1, T = 1000, R = 2) -/
def c07TornActs : List Act :=
  [.send 0 { timeout := 1000, retry := 2, discard := true, hasCb := true }, .busyTest 0, .enq 0, .take 0,
   .loopTest 0, .sendCl 0, .wTake 0 0 0, .wStart 0 0 false, .hook3 0, .advance 900, .wEnd 0 0 7 .nil, .wCheck 0 0,
   .advance 1000, .fire 0 0, .selCtx 0, .hook2 0, .writeDE 0, .cancel 0, .errTest 0,
   .loopTest 0, .sendCl 0, .hook3 0, .advance 2000, .fire 0 1, .selCtx 0, .hook2 0, .writeDE 0, .cancel 0, .errTest 0,
   .loopTest 0, .onError 0, .wgDone 0,
   .hook1 0 0, .wWrite 0 0]

/-- OLD code: after onError(DeadlineExceeded) and Done (first Get2 = (nil, DE)) the first attempt's write lands:
    a later Get2 returns (7, nil). -/
theorem C07_old_torn :
    ∃ s, run { N := 1, old := true } init c07TornActs = some s ∧
      (s.task 0).pc = .done ∧ (s.task 0).got = some (0, .de) ∧ (s.task 0).onErr = [(.de, 2000)] ∧
      get2 (s.task 0) = some (7, .nil) := by
  refine ⟨(run { N := 1, old := true } init c07TornActs).getD init, eq_some_getD (by decide), ?_, ?_, ?_, ?_⟩ <;> decide

/-- the schedule of the empty-result defect (N = 1, T = 1000, R = 1): the handler returns at 1500, after the deadline -/
def c07EmptyActs : List Act :=
  [.send 0 { timeout := 1000, retry := 1, discard := true, hasCb := true }, .busyTest 0, .enq 0, .take 0,
   .loopTest 0, .sendCl 0, .wTake 0 0 0, .wStart 0 0 false, .advance 1000, .fire 0 0, .advance 1500,
   .wEnd 0 0 7 .nil, .wCheck 0 0, .wClose 0 0,
   .hook3 0, .selDone 0, .cancel 0, .errTest 0, .wgDone 0]

/-- OLD code: the closure skips its write (ctx done) and closes doneChan; the dispatcher's select takes the doneChan
    branch, so nobody writes: Get2 = (nil, nil) after one attempt whose handler returned after the deadline, onError
    not called. -/
theorem C07_old_empty :
    ∃ s, run { N := 1, old := true } init c07EmptyActs = some s ∧
      (s.task 0).pc = .done ∧ get2 (s.task 0) = some (0, .nil) ∧ (s.task 0).att = 1 ∧ (s.task 0).onErr = [] ∧
      ((s.task 0).at_ 0).ret = some (7, .nil) ∧ ((s.task 0).at_ 0).deadline < ((s.task 0).at_ 0).hEnd := by
  refine ⟨(run { N := 1, old := true } init c07EmptyActs).getD init, eq_some_getD (by decide), ?_, ?_, ?_, ?_, ?_, ?_⟩ <;> decide
