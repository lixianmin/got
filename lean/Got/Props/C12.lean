import Got.Lemmas.CodecAstBytes
/-
C12 — decoding arbitrary bytes with the iox readers is total, in-bounds and allocation-bounded.

Model: `Got.Model.Codec` (`read1 buf pos op` = one call of ReadBool/ReadByte/ReadInt16/ReadInt32/ReadInt64/
Read7BitEncodedInt/ReadBytes/ReadString/Read(n) on the stream `(buf, pos)`; outcome `ok v | err e | crash`, new position,
ghost `alloc` = bytes passed to `make`). All statements quantify over EVERY byte list, every start position within it and
every call. `Op.width`, `Op.mayFail`, `Good` and `SeqGood` are defined in Got/Lemmas/CodecRead.lean.
-/
open Got.Model.Codec Got.Lemmas.Codec

/-- every call returns a value or one of the errors documented for it (never panics / hangs), and the cursor ends
    between where it started and the end of the input -/
theorem C12_total_inbounds (buf : List Byte) (pos : Nat) (op : Op) (h : pos ≤ buf.length) :
    ((∃ v, (read1 buf pos op).out = .ok v) ∨ (∃ e, (read1 buf pos op).out = .err e ∧ op.mayFail e)) ∧
      pos ≤ (read1 buf pos op).pos ∧ (read1 buf pos op).pos ≤ buf.length := by
  have s := read1_spec buf pos op h
  refine ⟨?_, s.good.mono, s.good.inb⟩
  cases ho : (read1 buf pos op).out with
  | ok v => exact Or.inl ⟨v, rfl⟩
  | err e => exact Or.inr ⟨e, rfl, s.errs e ho⟩
  | crash => exact absurd ho s.good.nocrash

example : (read1 [0x80#8, 0x80#8] 0 .v7).out = .err .NotEnoughData ∧ (read1 [0x80#8, 0x80#8] 0 .v7).pos = 2 := by decide

/-- a failed fixed-width read (bool, byte, int16, int32, int64) consumes nothing, fails with ErrNotEnoughData, and only
    when fewer bytes than its width remain; a successful one consumes exactly its width -/
theorem C12_fixed_fail_consumes_nothing (buf : List Byte) (pos : Nat) (op : Op) (w : Nat) (h : pos ≤ buf.length)
    (hw : op.width = some w) :
    (∀ e, (read1 buf pos op).out = .err e →
        (read1 buf pos op).pos = pos ∧ e = .NotEnoughData ∧ buf.length < pos + w) ∧
    (∀ v, (read1 buf pos op).out = .ok v → (read1 buf pos op).pos = pos + w) := by
  have s := read1_spec buf pos op h
  exact ⟨fun e => s.fixedFail w e hw, fun v => s.fixedOk w v hw⟩

example : (read1 [1#8, 2#8, 3#8] 0 .i32).out = .err .NotEnoughData ∧ (read1 [1#8, 2#8, 3#8] 0 .i32).pos = 0 := by decide

/-- Read7BitEncodedInt consumes at most five bytes of any input (whatever the outcome) and allocates nothing -/
theorem C12_7bit_le5 (buf : List Byte) (pos : Nat) :
    (read7 buf pos).pos ≤ pos + 5 ∧ pos ≤ (read7 buf pos).pos ∧ (read7 buf pos).alloc = 0 := by
  by_cases h : pos ≤ buf.length
  · have b := read7_bound buf pos h
    exact ⟨b.le, b.mono, b.alloc⟩
  · rw [read7_beyond buf pos (by omega)]
    exact ⟨by simp, by simp, rfl⟩

example : (read7 [0xff#8, 0xff#8, 0xff#8, 0xff#8, 0xff#8, 0xff#8] 0).pos = 5 ∧
    (read7 [0xff#8, 0xff#8, 0xff#8, 0xff#8, 0xff#8, 0xff#8] 0).out = .err .Bad7BitInt := by decide

/-- an over-long 7-bit group is rejected, not silently truncated: four continuation bytes followed by a fifth byte
    above 15 (a value that does not fit 32 bits) give ErrBad7BitInt after exactly five bytes -/
theorem C12_7bit_rejects_overlong (buf : List Byte) (pos : Nat) (b0 b1 b2 b3 b4 : Byte) (tl : List Byte)
    (hd : buf.drop pos = b0 :: b1 :: b2 :: b3 :: b4 :: tl)
    (h0 : b0 > 127#8) (h1 : b1 > 127#8) (h2 : b2 > 127#8) (h3 : b3 > 127#8) (h4 : b4 > 15#8) :
    read7 buf pos = ⟨.err .Bad7BitInt, pos + 5, 0⟩ := by
  have d1 := drop_succ_of_drop hd
  have d2 := drop_succ_of_drop d1
  have d3 := drop_succ_of_drop d2
  have d4 := drop_succ_of_drop d3
  rw [read7_eq, step7_of_drop hd, if_neg (BitVec.not_le.mpr h0), step7_of_drop d1, if_neg (BitVec.not_le.mpr h1),
    step7_of_drop d2, if_neg (BitVec.not_le.mpr h2), step7_of_drop d3, if_neg (BitVec.not_le.mpr h3),
    last7_of_drop d4, if_pos h4]

example : read7 [0x80#8, 0x80#8, 0x80#8, 0x80#8, 0x10#8] 0 = ⟨.err .Bad7BitInt, 5, 0⟩ := by decide

/-- a successful ReadBytes (= ReadString) returns exactly the announced number of bytes, taken from the input right
    behind the length prefix, and the cursor ends right behind them -/
theorem C12_readbytes_exact (buf : List Byte) (pos : Nat) (data : List Byte) (h : pos ≤ buf.length)
    (hok : (readBytes buf pos).out = .ok data) :
    ∃ size p, read7 buf pos = ⟨.ok size, p, 0⟩ ∧ 0 ≤ size.toInt ∧
      data.length = size.toInt.toNat ∧ data = (buf.drop p).take size.toInt.toNat ∧
      (readBytes buf pos).pos = p + data.length ∧ p + data.length ≤ buf.length := by
  rcases readBytes_char buf pos h with ⟨e, p, _, hr⟩ | ⟨size, p, h7, hc⟩
  · rw [hr] at hok; simp at hok
  · refine ⟨size, p, h7, ?_⟩
    cases hc with
    | negative _ hr | short _ _ hr => rw [hr] at hok; simp at hok
    | full hi hf hr =>
      rw [hr] at hok ⊢
      have hd : data = (buf.drop p).take size.toNat := by simpa using hok.symm
      have hl : data.length = size.toNat := by
        rw [hd, List.length_take, List.length_drop]; exact Nat.min_eq_left (Nat.le_sub_of_add_le' hf)
      rw [hi, Int.toNat_natCast, hl]
      exact ⟨Int.natCast_nonneg _, rfl, hd, rfl, hf⟩

/-- ReadString is ReadBytes followed by a cast that keeps the bytes: the same statement holds for it -/
theorem C12_readstring_eq_readbytes (buf : List Byte) (pos : Nat) : readString buf pos = readBytes buf pos := rfl

example : (readBytes [9#8, 2#8, 0xaa#8, 0xbb#8, 7#8] 1) = ⟨.ok [0xaa#8, 0xbb#8], 4, 2⟩ := by decide

/-- whatever a length prefix announces, a call passes at most the number of remaining input bytes to `make`
    (only ReadBytes/ReadString allocate at all) -/
theorem C12_alloc_bounded (buf : List Byte) (pos : Nat) (op : Op) (h : pos ≤ buf.length) :
    (read1 buf pos op).alloc ≤ buf.length - pos ∧
      (op ≠ .bytes → op ≠ .str → (read1 buf pos op).alloc = 0) := by
  have s := read1_spec buf pos op h
  exact ⟨s.good.alloc, s.noAllocUnlessBytes⟩

/-- the hostile prefix of the fixed defect: announces 2^27 bytes, four bytes of input -/
example : read1 [0x80#8, 0x80#8, 0x80#8, 0x40#8] 0 .bytes = ⟨.err .NotEnoughData, 4, 0⟩ := by decide

/-- the code before commit ca8102a passed the announced size to `make` first: 128 MiB for a 4-byte input -/
theorem C12_old_counterexample :
    (readBytesOld [0x80#8, 0x80#8, 0x80#8, 0x40#8] 0).alloc = 134217728 ∧
      ¬ (readBytesOld [0x80#8, 0x80#8, 0x80#8, 0x40#8] 0).alloc ≤ [0x80#8, 0x80#8, 0x80#8, 0x40#8].length - 0 := by
  decide

/-- any sequence of read calls on any input keeps the invariant: every call returns, moves the cursor forward within
    the input and allocates no more than the input that was left -/
theorem C12_seq (buf : List Byte) (ops : List Op) (pos : Nat) (h : pos ≤ buf.length) :
    SeqGood buf pos (readSeq buf pos ops) := by
  induction ops generalizing pos with
  | nil => trivial
  | cons o os ih =>
    have g := (read1_spec buf pos o h).good
    exact ⟨g, ih _ g.inb⟩

/-- … in particular for every single result in the sequence, relative to the start of the whole sequence -/
theorem C12_seq_all (buf : List Byte) (ops : List Op) (pos : Nat) (h : pos ≤ buf.length) :
    ∀ r ∈ readSeq buf pos ops, r.out ≠ .crash ∧ pos ≤ r.pos ∧ r.pos ≤ buf.length ∧ r.alloc ≤ buf.length - pos := by
  intro r hr
  obtain ⟨p, hp, g⟩ := (C12_seq buf ops pos h).mem hr
  exact ⟨g.nocrash, Nat.le_trans hp g.mono, g.inb, Nat.le_trans g.alloc (Nat.sub_le_sub_left hp _)⟩

example : (readSeq [2#8, 0x61#8, 0x62#8, 0xff#8] 0 [.str, .i16, .byte, .byte]).map (·.pos) = [3, 3, 4, 4] := by decide

/-! `Got.Generated.AstIox` holds the MiniGoBytes terms (Got/Model/MiniGoBytes.lean) that tools/srcfacts/minigo_codec.go regenerates
from /repo/iox/octets_*.go on every run; `run table "<Type>.<Method>" fuel args ⟨buffer, position, alloc⟩` interprets the
generated term.  The theorems below are re-checked against what the code says now. -/

open Got.Generated.AstIox in
/-- every method the translator is pointed at is inside the MiniGoBytes fragment (else: empty body + a note naming the
    construct, and this fails) -/
theorem C12_translation_in_fragment : notes.filter (fun p => p.2 != "ok") = [] := by decide

section translated
open Got.Model.MiniGoBytes (run St)
open Got.Generated.AstIox Got.Lemmas.CodecAst

/-- interpreting the translated `OctetsReader.Read7BitEncodedInt` on ANY bytes at ANY position gives the model's outcome
    (value / error identity), position and allocation — the loop with the variable shift, the error propagation of the
    nested `ReadByte` calls through the function table, and the fifth-byte check -/
theorem C12_translated_source_Read7BitEncodedInt_refines_model (buf : List (BitVec 8)) (pos a : Nat) (fuel : Nat)
    (hf : 90 ≤ fuel) :
    run table "OctetsReader.Read7BitEncodedInt" fuel [] ⟨buf, pos, a⟩ =
      some (readOut (.bv 32 true) (.bv 32 true 0) ⟨buf, pos, a⟩ (read7 buf pos)) :=
  r_read7_ast buf pos a fuel hf

theorem C12_translated_source_fixed_readers_refine_model (buf : List (BitVec 8)) (pos a : Nat) (fuel : Nat)
    (hf : 10 ≤ fuel) :
    run table "OctetsReader.ReadBool" fuel [] ⟨buf, pos, a⟩ =
        some (readOut .bool (.bool false) ⟨buf, pos, a⟩ (readBool buf pos)) ∧
    run table "OctetsReader.ReadByte" fuel [] ⟨buf, pos, a⟩ =
        some (readOut (.bv 8 false) (.bv 8 false 0) ⟨buf, pos, a⟩ (readByte buf pos)) ∧
    run table "OctetsReader.ReadInt16" fuel [] ⟨buf, pos, a⟩ =
        some (readOut (.bv 16 true) (.bv 16 true 0) ⟨buf, pos, a⟩ (readInt16 buf pos)) ∧
    run table "OctetsReader.ReadInt32" fuel [] ⟨buf, pos, a⟩ =
        some (readOut (.bv 32 true) (.bv 32 true 0) ⟨buf, pos, a⟩ (readInt32 buf pos)) ∧
    run table "OctetsReader.ReadInt64" fuel [] ⟨buf, pos, a⟩ =
        some (readOut (.bv 64 true) (.bv 64 true 0) ⟨buf, pos, a⟩ (readInt64 buf pos)) :=
  ⟨r_readBool_ast buf pos a fuel hf, r_readByte_ast buf pos a fuel (by omega), r_readInt16_ast buf pos a fuel (by omega),
    r_readInt32_ast buf pos a fuel (by omega), r_readInt64_ast buf pos a fuel (by omega)⟩

/-- **The property, stated of the translated source itself.** On arbitrary bytes and any start position inside them the
    translated `Read7BitEncodedInt` never panics and never runs out of fuel: it returns a value with `nil` or the zero
    value with ErrNotEnoughData / ErrBad7BitInt, leaves the buffer alone, allocates nothing, and the cursor ends between
    where it started and the end of the input, at most five bytes further. -/
theorem C12_translated_source_Read7BitEncodedInt_total_inbounds (buf : List (BitVec 8)) (pos a : Nat) (fuel : Nat)
    (hf : 90 ≤ fuel) (hp : pos ≤ buf.length) :
    ∃ (v : BitVec 32) (e : Option Got.Model.MiniGoBytes.Err) (p : Nat),
      run table "OctetsReader.Read7BitEncodedInt" fuel [] ⟨buf, pos, a⟩ =
        some (.ret [.bv 32 true v, .err e] [] ⟨buf, (p : Int), a⟩) ∧
      pos ≤ p ∧ p ≤ buf.length ∧ p ≤ pos + 5 ∧
      (e = none ∨ (v = 0 ∧ (e = some .NotEnoughData ∨ e = some .Bad7BitInt))) := by
  have b := read7_bound buf pos hp
  rw [r_read7_ast buf pos a fuel hf]
  cases hr : read7 buf pos with
  | mk out p al =>
    rw [hr] at b
    have hal : al = 0 := b.alloc
    subst hal
    cases out with
    | ok v => exact ⟨v, none, p, by simp [readOut], b.mono, b.inb, b.le, Or.inl rfl⟩
    | err e =>
      refine ⟨0, some (cv e), p, by simp [readOut], b.mono, b.inb, b.le, Or.inr ⟨rfl, ?_⟩⟩
      rcases b.errs e rfl with h | h <;> subst h <;> simp [cv]
    | crash => exact absurd rfl b.nocrash

/-- the same for the fixed-width `ReadInt32` of the translated source: no panic for any bytes, a failure consumes
    nothing -/
theorem C12_translated_source_ReadInt32_total_inbounds (buf : List (BitVec 8)) (pos a : Nat) (fuel : Nat)
    (hf : 10 ≤ fuel) :
    (pos + 4 ≤ buf.length → ∃ v, run table "OctetsReader.ReadInt32" fuel [] ⟨buf, pos, a⟩ =
        some (.ret [.bv 32 true v, .err none] [] ⟨buf, ((pos + 4 : Nat) : Int), a⟩)) ∧
    (¬ pos + 4 ≤ buf.length → run table "OctetsReader.ReadInt32" fuel [] ⟨buf, pos, a⟩ =
        some (.ret [.bv 32 true 0, .err (some .NotEnoughData)] [] ⟨buf, (pos : Int), a⟩)) := by
  rw [r_readInt32_ast buf pos a fuel (by omega)]
  constructor
  · intro h
    obtain ⟨v, hv⟩ := readFixed_total 32 Got.Facts.lits_iox_OctetsStream_ReadInt32 buf pos h (by decide) (by decide)
    rw [show readInt32 buf pos = _ from hv]
    exact ⟨v, rfl⟩
  · intro h
    rw [show readInt32 buf pos = _ from readFixed_err _ _ buf pos h]
    simp [readOut, cv]

/-- non-vacuity: a truncated group and an over-long group, run on the generated term -/
example : run table "OctetsReader.Read7BitEncodedInt" 100 [] ⟨[0x80#8, 0x80#8], 0, 0⟩ =
    some (.ret [.bv 32 true 0#32, .err (some .NotEnoughData)] [] ⟨[0x80#8, 0x80#8], 2, 0⟩) := by
  have h := C12_translated_source_Read7BitEncodedInt_refines_model [0x80#8, 0x80#8] 0 0 100 (by omega)
  rw [show read7 [0x80#8, 0x80#8] 0 = ⟨.err .NotEnoughData, 2, 0⟩ by decide] at h
  simpa [readOut, cv] using h

example : run table "OctetsReader.Read7BitEncodedInt" 100 [] ⟨[0x80#8, 0x80#8, 0x80#8, 0x80#8, 0x10#8], 0, 0⟩ =
    some (.ret [.bv 32 true 0#32, .err (some .Bad7BitInt)] [] ⟨[0x80#8, 0x80#8, 0x80#8, 0x80#8, 0x10#8], 5, 0⟩) := by
  have h := C12_translated_source_Read7BitEncodedInt_refines_model [0x80#8, 0x80#8, 0x80#8, 0x80#8, 0x10#8] 0 0 100 (by omega)
  rw [show read7 [0x80#8, 0x80#8, 0x80#8, 0x80#8, 0x10#8] 0 = ⟨.err .Bad7BitInt, 5, 0⟩ by decide] at h
  simpa [readOut, cv] using h

/-- interpreting the translated `OctetsReader.ReadBytes` / `ReadString` on ANY bytes gives the model's outcome, position
    and ghost allocation (`make([]byte, size)` is counted by the interpreter) -/
theorem C12_translated_source_ReadBytes_refines_model (buf : List (BitVec 8)) (pos a : Nat) (fuel : Nat)
    (hf : 130 ≤ fuel) (hp : pos ≤ buf.length) :
    run table "OctetsReader.ReadBytes" fuel [] ⟨buf, pos, a⟩ =
        some (readOut .bytes (.bytes []) ⟨buf, pos, a⟩ (readBytes buf pos)) ∧
    run table "OctetsReader.ReadString" fuel [] ⟨buf, pos, a⟩ =
        some (readOut .bytes (.bytes []) ⟨buf, pos, a⟩ (readString buf pos)) :=
  ⟨r_readBytes_ast buf pos a fuel (by omega) hp, r_readString_ast buf pos a fuel hf hp⟩

/-- **The property, stated of the translated source itself (length-prefixed values).** On arbitrary bytes and any start
    position inside them the translated `ReadBytes` never panics and never runs out of fuel; it returns a byte slice with
    `nil` or an empty result with an iox error; the buffer is untouched, the cursor ends between its start and the end
    of the input, and the bytes passed to `make` during the call are at most the input that was left — whatever the
    length prefix announces. -/
theorem C12_translated_source_ReadBytes_total_inbounds_alloc (buf : List (BitVec 8)) (pos a : Nat) (fuel : Nat)
    (hf : 130 ≤ fuel) (hp : pos ≤ buf.length) :
    ∃ (data : List (BitVec 8)) (e : Option Got.Model.MiniGoBytes.Err) (p al : Nat),
      run table "OctetsReader.ReadBytes" fuel [] ⟨buf, pos, a⟩ =
        some (.ret [.bytes data, .err e] [] ⟨buf, (p : Int), a + al⟩) ∧
      pos ≤ p ∧ p ≤ buf.length ∧ al ≤ buf.length - pos ∧ (e ≠ none → data = []) := by
  have g := (readBytes_good buf pos hp).1
  rw [r_readBytes_ast buf pos a fuel (by omega) hp]
  cases hr : readBytes buf pos with
  | mk out p al =>
    rw [hr] at g
    cases out with
    | ok v => exact ⟨v, none, p, al, by simp [readOut], g.mono, g.inb, g.alloc, by simp⟩
    | err e => exact ⟨[], some (cv e), p, al, by simp [readOut], g.mono, g.inb, g.alloc, by simp⟩
    | crash => exact absurd rfl g.nocrash

/-- non-vacuity, the hostile prefix of the fixed defect (announces 2^27 bytes, four bytes of input) run on the generated
    term: ErrNotEnoughData and nothing allocated -/
example : run table "OctetsReader.ReadBytes" 200 [] ⟨[0x80#8, 0x80#8, 0x80#8, 0x40#8], 0, 0⟩ =
    some (.ret [.bytes [], .err (some .NotEnoughData)] [] ⟨[0x80#8, 0x80#8, 0x80#8, 0x40#8], 4, 0⟩) := by
  have h := (C12_translated_source_ReadBytes_refines_model [0x80#8, 0x80#8, 0x80#8, 0x40#8] 0 0 200 (by omega) (by simp)).1
  rw [show readBytes [0x80#8, 0x80#8, 0x80#8, 0x40#8] 0 = ⟨.err .NotEnoughData, 4, 0⟩ by decide] at h
  simpa [readOut, cv] using h

end translated
