import Got.Lemmas.Delayed
import Got.Lemmas.HeapAstAll
/-
C10 — taskx.SendDelayed: never early, less than one tick late, in deadline order, exactly once.

All theorems are about Got.Model.Delayed (every finite list of actions = every multiset of requests, every
interleaving of senders, loop, ticker, consumers and time).  `x ∈ s.forwarded` = request `x.1` was placed on its
queue `x.1.queue` at instant `x.2`;  `x.1.trigger` = issue instant + d (the deadline),  `x.1.sent` = issue instant.
`blockedEver = false` = time never passed while the loop was parked on a full target queue (the property's
proviso "as long as the queues being targeted have room").
Trusted: Go channel / select / Ticker semantics and maximal progress as encoded in the model's `step`.
-/
open Got.Model.Delayed Got.Model.DelayedHeap

/-- the ticker period of the model is the source's literal: 1000 ms -/
theorem C10_tick_period : tickNs = 1000000000 := by decide

/-- The heap lemma for the transcription of container/heap (Less = triggerTime <): Push and Pop preserve the heap
    invariant, the root is a minimal element, Push adds exactly the pushed element and Pop removes exactly the root. -/
theorem C10_heap_lemma (h : Array Req) (hh : HeapN rkey h h.size) :
    (∀ r, HeapN rkey (push less h r) (push less h r).size ∧ (push less h r).toList.Perm (h.toList ++ [r])) ∧
    HeapN rkey (pop less h) (pop less h).size ∧
    (∀ top, h[0]? = some top → (∀ r ∈ h.toList, top.trigger ≤ r.trigger) ∧ ((pop less h).toList ++ [top]).Perm h.toList) := by
  exact ⟨fun r => ⟨push_heap less_iff h r hh, heap_push_perm h r⟩, pop_heap less_iff h hh,
    fun top ht => ⟨heap_top_min h top ht hh, heap_pop_perm h top ht⟩⟩

/-- in every reachable state the loop's priority queue satisfies the heap invariant -/
theorem C10_heap_invariant (qcap : Nat → Nat) (acts : List Act) :
    HeapN rkey (run qcap acts).heap (run qcap acts).heap.size := (invA_run qcap acts).heapOk

/-- Never early (no proviso): a request is placed on its queue only at an instant ≥ its deadline (and, for negative
    delays, not before it was issued). -/
theorem C10_not_early (qcap : Nat → Nat) (acts : List Act) :
    ∀ x ∈ (run qcap acts).forwarded, x.1.trigger ≤ (x.2 : Int) ∧ x.1.sent ≤ x.2 :=
  fun x hx => ⟨((invA_run qcap acts).fwdOk x hx).1, ((invA_run qcap acts).fwdOk x hx).2.2⟩

/-- Less than one tick late.  While the loop was never blocked on a full target queue, a request is placed on its
    queue at a tick instant `t` (a multiple of the period) that is less than one tick after max(deadline, issue
    instant) — i.e. at the first tick ≥ both.  The only exception is the exact coincidence: a request issued exactly
    at a tick instant whose deadline is already reached (d ≤ 0) may be processed after that tick's run and is then
    placed exactly one tick later (`t = sent + tick`).
    Requests that are still outstanding are never more than one tick past max(deadline, issue instant). -/
theorem C10_lt_one_tick (qcap : Nat → Nat) (acts : List Act) (hroom : (run qcap acts).blockedEver = false) :
    let s := run qcap acts
    (∀ x ∈ s.forwarded, x.2 % tickNs = 0 ∧
      ((x.2 : Int) < x.1.trigger + tickNs ∨ (x.2 : Int) < (x.1.sent : Int) + tickNs ∨
       (x.2 = x.1.sent + tickNs ∧ x.1.sent % tickNs = 0 ∧ x.1.trigger ≤ (x.1.sent : Int)))) ∧
    (∀ r ∈ outstanding s, (s.now : Int) < r.trigger + tickNs ∨ (s.now : Int) ≤ (r.sent : Int) + tickNs) := by
  intro s
  have hA := invA_run qcap acts
  have hB := (unblocked_run qcap acts hroom).1
  -- the statement writes out `lateOk x.1 x.2` and the conclusion of `outstanding_not_overdue`
  exact ⟨fun x hx => hB.fwdLate x hx, outstanding_not_overdue hA hB⟩

/-- hence, for a positive delay (or an issue instant that is not a tick instant): strictly less than one tick
    after the deadline -/
theorem C10_lt_one_tick_pos (qcap : Nat → Nat) (acts : List Act) (hroom : (run qcap acts).blockedEver = false) :
    ∀ x ∈ (run qcap acts).forwarded, (x.1.sent : Int) ≤ x.1.trigger →
      ((x.1.sent : Int) < x.1.trigger ∨ x.1.sent % tickNs ≠ 0) → (x.2 : Int) < x.1.trigger + tickNs := by
  intro x hx hnn hpos
  have := ((C10_lt_one_tick qcap acts hroom).1 x hx).2
  rcases this with h | h | ⟨h1, h2, h3⟩
  · exact h
  · omega
  · rcases hpos with hpos | hpos
    · omega
    · exact absurd h2 hpos

/-- Exactly once: every request id ever issued (`a < nextId`) occurs exactly once among
    parked senders ++ request channel ++ heap ++ the request being handed over ++ forwarded ++ dropped
    (`dropped` = consumed through the closeChan branch of a CLOSED target queue — the only way a request ends without
    being placed), and no other id occurs; in particular no request is placed on a queue twice. -/
theorem C10_once (qcap : Nat → Nat) (acts : List Act) :
    (∀ a, idCount (run qcap acts) a = if a < (run qcap acts).nextId then 1 else 0) ∧
    ((run qcap acts).forwarded.map (fun x => x.1.id)).Nodup := by
  refine ⟨ids_run qcap acts, ?_⟩
  rw [List.nodup_iff_count]
  intro a
  have h := ids_run qcap acts a
  have e : List.count a ((run qcap acts).forwarded.map (fun x => x.1.id)) = cP a ((run qcap acts).forwarded.map (·.1)) := by
    simp only [cP, List.count_eq_countP, List.countP_map]
    congr 1
  rw [e]
  unfold idCount at h
  split at h <;> omega

/-- Deadline order.  With delays ≥ 0 and while the loop was never blocked, requests are placed on queues in
    non-decreasing order of their deadlines — globally, hence on each target queue (across ticks and within a tick). -/
theorem C10_deadline_order (qcap : Nat → Nat) (acts : List Act) (hnn : ∀ a ∈ acts, NonNeg a)
    (hroom : (run qcap acts).blockedEver = false) :
    (run qcap acts).forwarded.Pairwise (fun x y => x.1.trigger ≤ y.1.trigger) ∧
    ∀ q, (((run qcap acts).forwarded.filter (fun x => x.1.queue = q)).map (fun x => x.1.trigger)).Pairwise (· ≤ ·) := by
  have h := (invC_run qcap acts hnn hroom).sorted
  refine ⟨h, fun q => ?_⟩
  rw [List.pairwise_map]
  exact h.filter _

/-- non-vacuity.  One request with d = 5 ns issued at 0: forwarded at the first tick, 1 s -/
def C10_demo1 : List Act :=
  [.sendDelayed 0 5, .enq 0, .pushReq, .delay 1000000000, .tickFire, .tickRecv, .tickTest, .forward, .tickTest]

example : (run (fun _ => 4) C10_demo1).forwarded.map (fun x => (x.1.id, x.2)) = [(0, 1000000000)] := by decide +kernel
example : (run (fun _ => 4) C10_demo1).blockedEver = false := by decide +kernel
example : ∀ a ∈ C10_demo1, NonNeg a := by simp [C10_demo1, NonNeg]

/-- three requests on one queue, deadlines 3, 1, 2 (ns): released in deadline order at the tick -/
def C10_demo2 : List Act :=
  [.sendDelayed 0 3, .sendDelayed 0 1, .sendDelayed 0 2, .enq 0, .enq 0, .enq 0, .pushReq, .pushReq, .pushReq,
   .delay 1000000000, .tickFire, .tickRecv, .tickTest, .forward, .tickTest, .forward, .tickTest, .forward, .tickTest]

example : (run (fun _ => 4) C10_demo2).forwarded.map (fun x => (x.1.trigger, x.2)) =
    [(1, 1000000000), (2, 1000000000), (3, 1000000000)] := by decide +kernel
example : (run (fun _ => 4) C10_demo2).blockedEver = false := by decide +kernel

/-- the exact coincidence: a request with d = 0 issued exactly at the tick instant 1 s, after the tick was taken:
    placed at 2 s = issue + one tick -/
def C10_demo3 : List Act :=
  [.delay 1000000000, .tickFire, .tickRecv, .sendDelayed 0 0, .enq 0, .tickTest, .pushReq,
   .delay 1000000000, .tickFire, .tickRecv, .tickTest, .forward, .tickTest]

example : (run (fun _ => 4) C10_demo3).forwarded.map (fun x => (x.1.sent, x.1.trigger, x.2)) =
    [(1000000000, 1000000000, 2000000000)] := by decide +kernel
example : (run (fun _ => 4) C10_demo3).blockedEver = false := by decide +kernel

/-- … and the other order of the two simultaneous events: the request is pushed before the tick is taken and is
    placed at once (1 s) -/
def C10_demo4 : List Act :=
  [.delay 1000000000, .tickFire, .sendDelayed 0 0, .enq 0, .pushReq, .tickRecv, .tickTest, .forward, .tickTest]

example : (run (fun _ => 4) C10_demo4).forwarded.map (fun x => (x.1.sent, x.1.trigger, x.2)) =
    [(1000000000, 1000000000, 1000000000)] := by decide +kernel

/-- outside the proviso: a full target queue (capacity 1, nobody receives) blocks the loop -/
def C10_demo5 : List Act :=
  [.sendDelayed 0 1, .sendDelayed 0 2, .enq 0, .enq 0, .pushReq, .pushReq, .delay 1000000000, .tickFire, .tickRecv,
   .tickTest, .forward, .tickTest, .delay 1000000000]

example : (run (fun _ => 1) C10_demo5).blockedEver = true := by decide +kernel

/-- a closed target queue does not stall the tick: queue 0 is closed, its task (deadline 1) is consumed through the
    closeChan branch and the open queue 1's task (deadline 2) is placed in the same tick -/
def C10_demo6 : List Act :=
  [.sendDelayed 0 1, .sendDelayed 1 2, .enq 0, .enq 0, .pushReq, .pushReq, .closeQ 0, .delay 1000000000, .tickFire,
   .tickRecv, .tickTest, .forwardDrop, .tickTest, .forward, .tickTest]

example : (run (fun _ => 4) C10_demo6).forwarded.map (fun x => (x.1.queue, x.2)) = [(1, 1000000000)] := by decide +kernel
example : (run (fun _ => 4) C10_demo6).dropped.map (fun x => x.queue) = [0] := by decide +kernel
example : (run (fun _ => 4) C10_demo6).blockedEver = false := by decide +kernel

/-
std.PriorityQueue.Push / Pop are `heap.Push(my.s, x)` / `heap.Pop(my.s)` of Go's container/heap.  Its source
(`$GOROOT/src/container/heap/heap.go` of the toolchain that builds the harness) is re-translated on every run into
`Got/Generated/AstContainerHeap.lean` (tools/srcfacts/minigo_heap.go; embedding and interpreter Got/Model/MiniGoHeap.lean);
`pushAst` / `popAst` run the generated terms over the slice-backed heap.Interface (`Got.Model.HeapAst.heapWorld`: Len = size,
Less(i, j) = `lt a[i] a[j]`, Swap, Push = append, Pop = remove last — what std's `sorter` implements).  The theorems say
that these interpretations are exactly the model's own heap transcription `DelayedHeap.push` / `DelayedHeap.pop`, so
`C10_heap_lemma` and everything built on it hold for the library source as translated.  (The same generated terms are
compared with the running library on every case of the C20 correspondence, `drv_sample ast`.)
Size hypotheses `< 2^62` (of the size after the append, for Push): slice lengths below 2^62 are an assumption of the
development — 2^62 rather than 2^63 so that `2*i + 1` of heap.down stays below 2^63 and the embedding's 64-bit `wrap` is the
identity on it. -/
section TranslatedSource
open Got.Model.HeapAst Got.Generated.AstContainerHeap

/-- the translator accepted all functions of container/heap -/
theorem C10_translation_in_fragment : notes = ["ok", "ok", "ok", "ok", "ok", "ok", "ok"] := by decide

/-- **Translator tie, heap.Push**: the translated library source computes the model's `DelayedHeap.push` -/
theorem C10_translated_source_heap_Push_refines_model {α : Type} (lt : α → α → Bool) (a : Array α) (x : α)
    (hsz : a.size + 1 < 2 ^ 62) :
    ∃ f0, ∀ fuel, f0 ≤ fuel → pushAst fuel lt a x = some (some (push lt a x)) := by
  rw [Got.Lemmas.DelayedHeapEq.push_eq]
  exact Got.Lemmas.HeapAst.pushAst_refines lt a x hsz

/-- **Translator tie, heap.Pop**: on a non-empty heap the translated library source returns some element and leaves
    the model's `DelayedHeap.pop` (on the empty heap it panics: `popAst = some none`) -/
theorem C10_translated_source_heap_Pop_refines_model {α : Type} (lt : α → α → Bool) (a : Array α)
    (hsz : a.size < 2 ^ 62) :
    (0 < a.size → ∃ x, ∃ f0, ∀ fuel, f0 ≤ fuel → popAst fuel lt a = some (some (x, pop lt a))) ∧
    (a.size = 0 → ∃ f0, ∀ fuel, f0 ≤ fuel → popAst fuel lt a = some none) := by
  have h := Got.Lemmas.HeapAst.popAst_refines lt a hsz
  constructor
  · intro hne
    exact ⟨a[0], Got.Lemmas.Evt.mono h fun fuel e => by rw [e, Got.Lemmas.DelayedHeapEq.pop_eq_goheap lt a hne]⟩
  · intro h0
    exact Got.Lemmas.Evt.mono h fun fuel e => by rw [e, Got.Lemmas.GoHeap.pop_none lt a h0]

/-- the heap lemma for the queue of requests, stated of the translated library source: pushing a request with the
    interpreted heap.Push keeps the heap invariant and adds exactly the pushed element; popping with the interpreted heap.Pop
    (non-empty heap) keeps the heap invariant -/
theorem C10_translated_source_heap_lemma (h : Array Req) (hh : HeapN rkey h h.size) (hsz : h.size + 1 < 2 ^ 62) :
    (∀ r, ∃ f0, ∀ fuel, f0 ≤ fuel → ∃ h', pushAst fuel less h r = some (some h') ∧ HeapN rkey h' h'.size ∧
        h'.toList.Perm (h.toList ++ [r])) ∧
    (0 < h.size → ∃ f0, ∀ fuel, f0 ≤ fuel → ∃ x h', popAst fuel less h = some (some (x, h')) ∧ HeapN rkey h' h'.size) := by
  obtain ⟨l1, l2, _⟩ := C10_heap_lemma h hh
  constructor
  · intro r
    exact Got.Lemmas.Evt.mono (C10_translated_source_heap_Push_refines_model less h r hsz) fun fuel hf0 => ⟨_, hf0, (l1 r).1, (l1 r).2⟩
  · intro hne
    obtain ⟨x, hf0⟩ := (C10_translated_source_heap_Pop_refines_model less h (by omega)).1 hne
    exact Got.Lemmas.Evt.mono hf0 fun fuel e => ⟨x, _, e, l2⟩

end TranslatedSource
