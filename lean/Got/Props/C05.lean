/- C05: with expiry E for a result (normal expiry for values, error expiry for errors) completed at time u
(the three bands are those of the status function, C05_status_table):
  now-u < E          served, no new load                                      C05_fresh
  E <= now-u < 2E    served immediately; the first Load creates exactly one   C05_expired_first_load
                     refresh future (predecessor = the stale one) and job;    C05_expired_while_refreshing
                     further calls create nothing
  now-u >= 2E        never handed out again                                   C05_rotted_never_served*
  the refresh result replaces the stale one                                   C05_refresh_replaces
  the sweep changes none of these answers                                     C05_sweep_invisible*
                     (a rotted result stays rotted)                           C05_rotted_stable
All statements are about the step functions of the LTS `Got.Model.Cache` (the same definitions the driver `drv_cache`,
Got/Drv/Cache.lean, executes) and hold for EVERY state, clock value, completion time and pair of expiries – no
reachability assumption is needed except the allocation invariant `MapWF` (every stored future id has been allocated)
in C05_sweep_invisible_client.
The literal 2 is the property's constant; the model takes its factor from the regenerated source facts
(`rotFactor`), so a changed source constant breaks these proofs. -/
import Got.Lemmas.CacheSweep
import Got.Lemmas.CacheInv
open Got.Model.CacheCore Got.Model.Cache Got.Spec.Cache Got.Lemmas.Cache

/-- the status function, outright: for all clocks, completion times, both expiries -/
theorem C05_status_table (now u En Ee : Nat) (hasErr resolved : Bool) :
    status now u hasErr En Ee resolved =
      if !resolved then .good
      else if now - u < expiryOf hasErr En Ee then .good
      else if now - u < 2 * expiryOf hasErr En Ee then .expired
      else .rotted := by
  cases resolved
  · simp [status]
  · simp [status_cases]

/-- C05 (fresh): while `now - u < E` (E = error expiry for an error result) the status is good for EVERY clock value,
    completion time and pair of expiries; Load then creates no future and no job and plans
    fetchIfFutureStatusGood(last); Get2 goes on to fetchIfFutureStatusGood(future).Get2(). -/
theorem C05_fresh (cfg : Cfg) (s : State) (c : Cid) (k : Key) (ld : Nat) (l : FutId) (r : Res)
    (hmap : s.map k = some l) (hres : (s.fut l).res = some r)
    (hage : s.now - (s.fut l).upd < futExpiry cfg r) :
    statusAt cfg s (some l) = .good ∧
    (loadCS cfg s c k ld).nfut = s.nfut ∧ (loadCS cfg s c k ld).map = s.map ∧
    (loadCS cfg s c k ld).chan = s.chan ∧ (loadCS cfg s c k ld).fut = s.fut ∧
    (loadCS cfg s c k ld).cpc c = .ldUnlock (cfg.shardOf k) none (.fetch l) ∧
    (∀ c', s.cpc c' = .g2Status (some l) → clStep cfg s c' = some (setPc s c' (.fetch l true))) := by
  have hst : statusAt cfg s (some l) = .good := by
    rw [statusAt_resolved cfg s l r hres, status_good_iff]; exact hage
  rw [loadCS_good c ld hmap hst]
  refine ⟨hst, rfl, rfl, rfl, rfl, upd_same .., fun c' hc => ?_⟩
  simp [clStep, hc, hst, g2Next_good]

example : ∃ s l r, (s : State).map 1 = some l ∧ (s.fut l).res = some r ∧ s.now - (s.fut l).upd < futExpiry exCfg r :=
  ⟨exResolved 15, 0, ⟨some 7, none⟩, by decide, by decide, by decide⟩

theorem C05_expired_first_load (cfg : Cfg) (s : State) (c : Cid) (k : Key) (ld : Nat) (l : FutId) (r : Res)
    (hmap : s.map k = some l) (hres : (s.fut l).res = some r)
    (hE : futExpiry cfg r ≤ s.now - (s.fut l).upd) (h2E : s.now - (s.fut l).upd < 2 * futExpiry cfg r) :
    let s' := loadCS cfg s c k ld
    statusAt cfg s (some l) = .expired ∧
    s'.nfut = s.nfut + 1 ∧
    s'.map k = some s.nfut ∧
    s'.fut s.nfut = newLoadFut k (some l) ∧
    s'.chan = s.chan ∧
    planOf (s'.cpc c) = some (.ret l) ∧
    jobOf (s'.cpc c) = some { key := k, fut := s.nfut, ld := ld } := by
  have hst : statusAt cfg s (some l) = .expired := by
    rw [statusAt_resolved cfg s l r hres, status_expired_iff]; exact ⟨hE, h2E⟩
  intro s'
  rw [show s' = _ from loadCS_expired c ld hmap hst]
  refine ⟨hst, rfl, upd_same .., upd_same .., rfl, ?_, ?_⟩ <;> simp only [loadNew, applyLoad, if_true, upd_same] <;> cases cfg.old <;> rfl

example : ∃ s l r, (s : State).map 1 = some l ∧ (s.fut l).res = some r ∧
    futExpiry exCfg r ≤ s.now - (s.fut l).upd ∧ s.now - (s.fut l).upd < 2 * futExpiry exCfg r :=
  ⟨exResolved 25, 0, ⟨some 7, none⟩, by decide, by decide, by decide, by decide⟩

theorem C05_expired_while_refreshing (cfg : Cfg) (s : State) (c : Cid) (k : Key) (ld : Nat) (n l : FutId)
    (hmap : s.map k = some n) (hload : (s.fut n).res = none) :
    let s' := loadCS cfg s c k ld
    -- no new future, no job; the plan is fetchIfFutureStatusGood(n)
    (s'.nfut = s.nfut ∧ s'.map = s.map ∧ s'.chan = s.chan ∧ s'.fut = s.fut ∧
      s'.cpc c = .ldUnlock (cfg.shardOf k) none (.fetch n)) ∧
    -- fetchIfFutureStatusGood hands out the stale predecessor l exactly while it is merely expired
    (∀ c' g, s.cpc c' = .fetchSt n (some l) g →
      clStep cfg s c' = some (setPc s c'
        (let tgt := if statusAt cfg s (some l) = .expired then l else n
         if g then .wait tgt else .ldRet tgt))) ∧
    (∀ r, (s.fut l).res = some r →
      (statusAt cfg s (some l) = .expired ↔
        futExpiry cfg r ≤ s.now - (s.fut l).upd ∧ s.now - (s.fut l).upd < 2 * futExpiry cfg r)) := by
  have hst : statusAt cfg s (some n) = .good := statusAt_unresolved cfg s n hload
  intro s'
  rw [show s' = _ from loadCS_good c ld hmap hst]
  refine ⟨⟨rfl, rfl, rfl, rfl, upd_same ..⟩, ?_, ?_⟩
  · intro c' g hc
    simp only [clStep, hc, fetchChoosesPred, fetchTarget]
    cases hs : statusAt cfg s (some l) <;> simp
  · intro r hr
    rw [statusAt_resolved cfg s l r hr, status_expired_iff]; rfl

example : ∃ s n, (s : State).map 1 = some n ∧ (s.fut n).res = none ∧ (s.fut n).pred = some 0 ∧
    statusAt exCfg s (some 0) = .expired :=
  ⟨exRefreshing 25, 1, by decide, by decide, by decide, by decide⟩
-- … and once the stale one is rotted the refresh future itself is handed out
example : statusAt exCfg (exRefreshing 30) (some 0) = .rotted := by decide

/-- Load never plans to hand out a rotted future -/
theorem C05_rotted_never_served_load (cfg : Cfg) (s : State) (c : Cid) (k : Key) (ld : Nat) :
    let s' := loadCS cfg s c k ld
    ∃ p, planOf (s'.cpc c) = some p ∧
      match p with
      | .ret f => (f = s.nfut ∧ s'.nfut = s.nfut + 1 ∧ (s'.fut f).res = none ∧ s'.map k = some f)
                  ∨ (s.map k = some f ∧ statusAt cfg s (some f) = .expired)
      | .fetch f => s.map k = some f ∧ statusAt cfg s (some f) = .good := by
  intro s'
  rcases loadCS_cases cfg s c k ld with ⟨l, hm, hst, e⟩ | ⟨l, hm, hst, e⟩ | ⟨_, e⟩ <;> rw [show s' = _ from e]
  · exact ⟨.fetch l, by simp [planOf], hm, hst⟩
  · exact ⟨.ret l, by simp only [loadNew, applyLoad, if_true, upd_same]; cases cfg.old <;> rfl, .inr ⟨hm, hst⟩⟩
  · exact ⟨.ret s.nfut, by simp only [loadNew, applyLoad, if_true, upd_same]; cases cfg.old <;> rfl,
      .inl ⟨rfl, rfl, by simp [loadNew, applyLoad, newLoadFut], upd_same ..⟩⟩

/-- fetchIfFutureStatusGood returns its argument or a predecessor that is merely expired -/
theorem C05_rotted_never_served_fetch (cfg : Cfg) (s : State) (c : Cid) (f : FutId) (p : Option FutId) (g : Bool)
    (hc : s.cpc c = .fetchSt f p g) :
    ∃ tgt, clStep cfg s c = some (setPc s c (if g then .wait tgt else .ldRet tgt)) ∧
      (tgt = f ∨ (p = some tgt ∧ statusAt cfg s (some tgt) = .expired)) := by
  cases p with
  | none => exact ⟨f, by simp [clStep, hc, fetchTarget], Or.inl rfl⟩
  | some q =>
    by_cases h : statusAt cfg s (some q) = .expired
    · exact ⟨q, by simp [clStep, hc, fetchChoosesPred, fetchTarget, h], Or.inr ⟨rfl, h⟩⟩
    · refine ⟨f, ?_, Or.inl rfl⟩
      simp only [clStep, hc, fetchChoosesPred, fetchTarget]
      cases hs : statusAt cfg s (some q) <;> simp_all

/-- Get2 waits on a good future (via fetchIfFutureStatusGood), returns an expired one, and answers (nil, nil)
    for an absent or rotted entry -/
theorem C05_rotted_never_served_get2 (cfg : Cfg) (s : State) (c : Cid) (o : Option FutId)
    (hc : s.cpc c = .g2Status o) :
    ∃ pc, clStep cfg s c = some (setPc s c pc) ∧
      match statusAt cfg s o with
      | .good => ∃ f, o = some f ∧ pc = .fetch f true
      | .expired => ∃ f, o = some f ∧ pc = .wait f
      | .rotted => pc = .retNil
      | .empty => pc = .retNil := by
  refine ⟨g2Next (statusAt cfg s o) o, by simp [clStep, hc], ?_⟩
  cases o with
  | none => exact g2Next_hidden _ none (.inr rfl)
  | some f =>
    cases hst : statusAt cfg s (some f) with
    | empty => exact absurd hst (by simp [statusAt_empty_iff])
    | good => exact ⟨f, rfl, rfl⟩
    | expired => exact ⟨f, rfl, rfl⟩
    | rotted => rfl

/-- whatever is chosen by the three decisions above is servable: a resolved result of status good / expired is
    younger than 2E, and a result with `now - u ≥ 2E` has status rotted (for all clocks and both expiries) -/
theorem C05_rotted_never_served (cfg : Cfg) (s : State) (f : FutId) :
    (statusAt cfg s (some f) = .good ∨ statusAt cfg s (some f) = .expired → Servable cfg s f) ∧
    (∀ r, (s.fut f).res = some r → 2 * futExpiry cfg r ≤ s.now - (s.fut f).upd → statusAt cfg s (some f) = .rotted) ∧
    (statusAt cfg s (some f) = .rotted → ¬ Servable cfg s f) := by
  refine ⟨servable_of_status cfg s f, ?_, not_servable_of_rotted cfg s f⟩
  intro r hr h
  rw [statusAt_resolved cfg s f r hr, status_rotted_iff]; exact h

/-- the refresh replaces the stale result: (1) the worker's publication step stores the pair and `updateTime := now`
    into the refresh future `j.fut` without touching the map, after which its status is good (fresh, E > 0: option.go
    has defaults 1 s / 100 ms and `WithExpire` asserts `normal >= error`, `error > 0`);
    (2) for a fresh future whose predecessor has been cleared, Get2 and fetchIfFutureStatusGood hand out that future
    itself – no longer the stale predecessor. -/
theorem C05_refresh_replaces (cfg : Cfg) :
    (∀ (s : State) (w : Wid) (j : Job) (r : Res), s.wpc w = .publish j r → 0 < futExpiry cfg r →
      ∃ s1, wkStep cfg s w = some s1 ∧ (s1.fut j.fut).res = some r ∧ (s1.fut j.fut).upd = s.now ∧ s1.now = s.now ∧
        s1.map = s.map ∧ s1.wpc w = .clearPred j ∧ statusAt cfg s1 (some j.fut) = .good) ∧
    (∀ (s : State) (w : Wid) (j : Job), s.wpc w = .clearPred j →
      ∃ s2, wkStep cfg s w = some s2 ∧ (s2.fut j.fut).pred = none ∧ (s2.fut j.fut).res = (s.fut j.fut).res ∧
        (s2.fut j.fut).upd = (s.fut j.fut).upd ∧ s2.now = s.now ∧ s2.map = s.map) ∧
    (∀ (s : State) (c : Cid) (n : FutId) (g : Bool), (s.fut n).pred = none →
      (s.cpc c = .fetch n g → clStep cfg s c = some (setPc s c (.fetchSt n none g))) ∧
      (s.cpc c = .fetchSt n none g → clStep cfg s c = some (setPc s c (if g then .wait n else .ldRet n)))) ∧
    (∀ (s : State) (c : Cid) (n : FutId), statusAt cfg s (some n) = .good → s.cpc c = .g2Status (some n) →
      clStep cfg s c = some (setPc s c (.fetch n true))) := by
  refine ⟨?_, ?_, ?_, ?_⟩
  · intro s w j r hw hE
    refine ⟨_, by simp only [wkStep, hw]; rfl, ?_, ?_, ?_, ?_, ?_, ?fresh⟩
    case fresh =>
      rw [statusAt_resolved (r := r)]
      · rw [status_good_iff]; simp [setWpc]; exact hE
      · simp [setWpc]
    all_goals simp [setWpc]
  · intro s w j hw
    refine ⟨_, by simp only [wkStep, hw]; rfl, ?_, ?_, ?_, ?_, ?_⟩ <;> simp [setWpc]
  · intro s c n g hp
    constructor
    · intro hc; simp [clStep, hc, hp]
    · intro hc; simp [clStep, hc, fetchTarget]
  · intro s c n hst hc
    simp [clStep, hc, hst, g2Next_good]

example : ∃ s f r, ((s : State).fut f).res = some r ∧ 2 * futExpiry exCfg r ≤ s.now - (s.fut f).upd :=
  ⟨exResolved 30, 0, ⟨some 7, none⟩, by decide, by decide⟩

/-- the sweep is invisible (1): client steps from ≈-related states are both disabled, or both enabled with
    ≈-related results (≈ ignores map entries that are rotted); in particular every value returned is the same
    (C05_sweep_invisible_outputs). -/
theorem C05_sweep_invisible_client (cfg : Cfg) (s t : State) (h : SweepEq cfg s t) (ws : MapWF s) (wt : MapWF t)
    (c : Cid) : OptRel (SweepEq cfg) (clStep cfg s c) (clStep cfg t c) := by
  -- `t` is `s` with another map and pc table (`sweepEq_shape`); every case then ends in `simple` or `alloc` below
  have hshape := sweepEq_shape cfg s t h
  generalize hm : t.map = m' at hshape
  generalize hp : t.cpc = p' at hshape
  have hmap : ∀ k, VisEq cfg s (s.map k) (m' k) := fun k => hm ▸ h.map k
  have hpc : ∀ c, PcEq cfg s (s.cpc c) (p' c) := fun c => hp ▸ h.cpc c
  have wtm : ∀ k f, m' k = some f → f < s.nfut := fun k f hf => by
    have := wt.map k f (hm ▸ hf); rw [← h.nfut] at this; exact this
  have wtp : ∀ c f, p' c = .g2Status (some f) → f < s.nfut := fun c f hf => by
    have := wt.pc c f (hp ▸ hf); rw [← h.nfut] at this; exact this
  subst hshape
  clear h hm hp wt
  have mk : ∀ (u : State) (m1 m2 : Key → Option FutId) (p1 p2 : Cid → CPc),
      (∀ k, VisEq cfg u (m1 k) (m2 k)) → (∀ c, PcEq cfg u (p1 c) (p2 c)) →
      SweepEq cfg { u with map := m1, cpc := p1 } { u with map := m2, cpc := p2 } := by
    intro u m1 m2 p1 p2 h1 h2
    exact { now := rfl, lock := rfl, fut := rfl, nfut := rfl, chan := rfl, tickPending := rfl, wpc := rfl, jobAt := rfl,
            map := h1, cpc := h2 }
  have updpc : ∀ (u : State) (p q : CPc), u.now = s.now → (∀ f, f < s.nfut → view (u.fut f) = view (s.fut f)) →
      PcEq cfg u p q → ∀ c', PcEq cfg u (upd s.cpc c p c') (upd p' c q c') := by
    intro u p q hn hf hpq c'
    by_cases hc : c' = c
    · subst hc; simp only [upd_same]; exact hpq
    · simp only [upd_other hc]
      refine pcEq_congr cfg s u _ _ hn.symm (fun f hf' => ?_) (hpc c')
      rcases hf' with hf' | hf'
      · exact (hf f (ws.pc c' f hf')).symm
      · exact (hf f (wtp c' f hf')).symm
  have keepmap : ∀ (u : State), u.now = s.now → (∀ f, f < s.nfut → view (u.fut f) = view (s.fut f)) →
      ∀ k, VisEq cfg u (s.map k) (m' k) := by
    intro u hn hf k
    refine visEq_congr cfg s u _ _ hn.symm (fun f hf' => ?_) (hmap k)
    rcases hf' with hf' | hf'
    · exact (hf f (ws.map k f hf')).symm
    · exact (hf f (wtm k f hf')).symm
  -- the simple case: both sides perform the same update of lock / chan / jobAt and move c to related pcs
  have simple : ∀ (lock' : Nat → Option Cid) (chan' : List Job) (jobAt' : FutId → Loc) (p q : CPc), PcEq cfg s p q →
      SweepEq cfg { s with lock := lock', chan := chan', jobAt := jobAt', cpc := upd s.cpc c p }
                  { s with lock := lock', chan := chan', jobAt := jobAt', map := m', cpc := upd p' c q } := by
    intro lock' chan' jobAt' p q hpq
    exact mk { s with lock := lock', chan := chan', jobAt := jobAt' } s.map m' _ _
      (keepmap _ rfl (fun _ _ => rfl)) (updpc _ p q rfl (fun _ _ => rfl) (pcEq_congr cfg s _ p q rfl (fun _ _ => rfl) hpq))
  -- a critical section that allocates `s.nfut` as the new entry of `k` on both sides
  have alloc : ∀ (u : State) (k : Key) (pc : CPc), u.now = s.now → (∀ f, f < s.nfut → view (u.fut f) = view (s.fut f)) →
      SweepEq cfg { u with map := upd s.map k (some s.nfut), cpc := upd s.cpc c pc }
                  { u with map := upd m' k (some s.nfut), cpc := upd p' c pc } := by
    intro u k pc hn hf
    refine mk u _ _ _ _ (fun k' => ?_) (updpc u pc pc hn hf (pcEq_refl cfg _ _))
    by_cases hk : k' = k
    · subst hk; simp only [upd_same]; exact visEq_refl _ _ _
    · simp only [upd_other hk]; exact keepmap u hn hf k'
  cases hc : s.cpc c
  case g2Status a =>
    obtain ⟨b, hb, hab⟩ := pcEq_g2 cfg s a (p' c) (hc ▸ hpc c)
    simp only [clStep, hc, hb, OptRel]
    show SweepEq cfg (setPc s c (g2Next (statusAt cfg s a) a)) (setPc { s with map := m', cpc := p' } c (g2Next (statusAt cfg s b) b))
    rw [g2Next_visEq cfg s a b hab]
    exact simple s.lock s.chan s.jobAt _ _ (pcEq_refl cfg s _)
  -- in every other case both sides are at the same pc
  all_goals
    have hq := pcEq_of_not_g2 cfg s _ _ (hc ▸ hpc c) (by simp)
    simp only [clStep, hc, hq]
  case idle | done => trivial
  case fetch | fetchSt | ldRet | retNil | setRet => exact simple s.lock s.chan s.jobAt _ _ (pcEq_refl cfg s _)
  case ldUnlock sh send plan => cases send <;> exact simple (upd s.lock sh none) s.chan s.jobAt _ _ (pcEq_refl cfg s _)
  case ldSend j plan lk =>
    split
    · cases lk <;> exact simple s.lock (s.chan ++ [j]) (upd s.jobAt j.fut .chan) _ _ (pcEq_refl cfg s _)
    · trivial
  case wait f =>
    split
    · exact simple s.lock s.chan s.jobAt _ _ (pcEq_refl cfg s _)
    · trivial
  case g2Start k =>
    split
    · exact simple s.lock s.chan s.jobAt (.g2Status (s.map k)) (.g2Status (m' k)) (hmap k)
    · trivial
  case ldStart k ld =>
    split
    · simp only [OptRel]
      have e := loadOut_visEq cfg s (s.map k) (m' k) cfg.old (cfg.shardOf k) s.nfut k ld (hmap k)
      show SweepEq cfg
        (applyLoad (cfg.shardOf k) s c k (loadOut cfg.old (cfg.shardOf k) (s.map k) (statusAt cfg s (s.map k)) s.nfut k ld))
        (applyLoad (cfg.shardOf k) { s with map := m', cpc := p' } c k
          (loadOut cfg.old (cfg.shardOf k) (m' k) (statusAt cfg s (m' k)) s.nfut k ld))
      rw [← e]
      generalize loadOut cfg.old (cfg.shardOf k) (s.map k) (statusAt cfg s (s.map k)) s.nfut k ld = o
      by_cases hcr : o.create = true
      · simp only [applyLoad, hcr, if_true]
        exact alloc { s with lock := upd s.lock (cfg.shardOf k) (some c), fut := upd s.fut s.nfut (newLoadFut k o.pred),
                             nfut := s.nfut + 1, jobAt := upd s.jobAt s.nfut (.creator c) }
          k o.pc rfl fun _ hf => congrArg view (upd_other (Nat.ne_of_lt hf))
      · simp only [applyLoad, hcr]
        exact simple (upd s.lock (cfg.shardOf k) (some c)) s.chan s.jobAt _ _ (pcEq_refl cfg s _)
    · trivial
  case setStart k r =>
    split
    · simp only [OptRel]
      have e := orphanMark_visEq cfg s (s.map k) (m' k) (hmap k)
      show SweepEq cfg (setCS s c k r) (setCS { s with map := m', cpc := p' } c k r)
      simp only [setCS]
      rw [← e]
      exact alloc { s with fut := upd (orphanMark s.fut (s.map k)) s.nfut
                                    { key := k, res := some r, upd := s.now, pred := none, done := true, bySet := true, orphan := false },
                           nfut := s.nfut + 1, jobAt := upd s.jobAt s.nfut .finished }
        k .setRet rfl fun _ hf => (congrArg view (upd_other (Nat.ne_of_lt hf))).trans (view_orphanMark ..)
    · trivial

/-- the allocation hypothesis `MapWF` of C05_sweep_invisible_client holds in every reachable state -/
theorem C05_sweep_invisible_wf (cfg : Cfg) (s : State) (hr : Reachable cfg s) : MapWF s := by
  have h := inv_reachable cfg s hr
  exact ⟨h.a_map, fun c f hc => h.a_pc c f (by rw [hc]; simp [pcFuts])⟩

theorem C05_sweep_invisible_outputs (cfg : Cfg) (s t : State) (h : SweepEq cfg s t) (c : Cid) (o : Out) :
    s.cpc c = .done o ↔ t.cpc c = .done o := by
  rcases pcEq_cases (h.cpc c) with e | ⟨a, b, ea, eb, _⟩
  · rw [e]
  · simp [ea, eb]

/-- the sweep is invisible (2): removing the rotted entries of a shard yields a ≈-related state -/
theorem C05_sweep_invisible_sweep (cfg : Cfg) (s : State) (i : Nat) :
    SweepEq cfg { s with map := sweepShard cfg s i } s := by
  refine { now := rfl, lock := rfl, fut := rfl, nfut := rfl, chan := rfl, tickPending := rfl, wpc := rfl, jobAt := rfl,
           map := ?_, cpc := fun c => pcEq_refl cfg _ _ }
  intro k
  show VisEq cfg _ (sweepShard cfg s i k) (s.map k)
  unfold sweepShard
  by_cases hcond : (cfg.shardOf k = i && sweepRemoves (statusAt cfg s (s.map k))) = true
  · simp only [hcond, if_true]
    right
    refine ⟨Or.inl rfl, Or.inr ?_⟩
    simp only [Bool.and_eq_true, sweepRemoves, beq_iff_eq, decide_eq_true_eq] at hcond
    exact hcond.2
  · simp only [hcond]
    exact Or.inl rfl

/-- the sweep is invisible (3): rottedness is stable – the clock only grows – so ≈ survives the passage of time -/
theorem C05_sweep_invisible_time (cfg : Cfg) (s t : State) (h : SweepEq cfg s t) (d : Nat) :
    SweepEq cfg { s with now := s.now + d } { t with now := t.now + d } := by
  have vis : ∀ a b, VisEq cfg s a b → VisEq cfg { s with now := s.now + d } a b := by
    intro a b hab
    rcases hab with hab | ⟨ha, hb⟩
    · exact Or.inl hab
    · exact Or.inr ⟨hidden_mono cfg s d a ha, hidden_mono cfg s d b hb⟩
  refine { now := by simp [h.now], lock := h.lock, fut := h.fut, nfut := h.nfut, chan := h.chan,
           tickPending := h.tickPending, wpc := h.wpc, jobAt := h.jobAt, map := fun k => vis _ _ (h.map k), cpc := ?_ }
  intro c
  rcases pcEq_cases (h.cpc c) with e | ⟨a, b, ea, eb, hv⟩
  · rw [e]; exact pcEq_refl ..
  · rw [ea, eb]; exact vis a b hv

theorem C05_rotted_stable (now now' u En Ee : Nat) (e r : Bool) (hle : now ≤ now')
    (h : status now u e En Ee r = .rotted) : status now' u e En Ee r = .rotted :=
  status_rotted_mono now now' u En Ee e r hle h

-- non-vacuity: the sweep really removes something in `exResolved 30` (the entry is rotted) and the two states differ
example : (sweepShard exCfg (exResolved 30) 0) 1 = none ∧ (exResolved 30).map 1 = some 0 := by decide
