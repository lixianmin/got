import Got.Lemmas.CodecRoundtrip
import Got.Lemmas.CodecAstBytes
/-
C11 — the iox codec round-trips every value and keeps the little-endian / LEB128 wire format.

Model: `Got.Model.Codec` (writers = the bytes appended to the stream buffer, readers = functions of `(buf, pos)`), written
over `BitVec` with the Go operators, the shift amounts / masks / bounds taken from the literal tables regenerated from the
Go source. Specification: `Got.Spec.Codec` (`leBytes`, `leb128`, `twoCompl`, `prefixed`), independent of the model;
`wire` (the format of a typed value) and `Val.valid` (the values the codec can carry) are in Got/Lemmas/CodecRoundtrip.lean.
-/
open Got.Model.Codec Got.Spec.Codec Got.Lemmas.Codec Got.Facts

/-- the literals the model reads, written out: a changed shift, mask or bound of the source fails here by name; no proof uses it -/
theorem C11_facts_literals :
    lits_iox_OctetsStream_WriteBool = [1] ∧ lits_iox_OctetsStream_ReadBool = [1] ∧
    lits_iox_OctetsStream_WriteInt16 = [8] ∧ lits_iox_OctetsStream_WriteInt32 = [8, 16, 24] ∧
    lits_iox_OctetsStream_WriteInt64 = [8, 16, 24, 32, 40, 48, 56] ∧
    lits_iox_OctetsStream_ReadInt16 = [2, 0, 0, 1, 8] ∧
    lits_iox_OctetsStream_ReadInt32 = [4, 0, 0, 1, 8, 2, 16, 3, 24] ∧
    lits_iox_OctetsStream_ReadInt64 = [8, 0, 0, 1, 8, 2, 16, 3, 24, 4, 32, 5, 40, 6, 48, 7, 56] ∧
    lits_iox_OctetsWriter_Write7BitEncodedInt = [127, 4294967168, 7] ∧
    lits_iox_OctetsReader_Read7BitEncodedInt = [0, 0, 28, 7, 0, 127, 127, 0, 15, 0, 28] ∧
    lits_iox_OctetsReader_ReadBytes = [0, 0] ∧ lits_iox_OctetsStream_Write = [0] := by
  decide

theorem C11_wire_bool (b : Bool) : writeBool b = leBytes 1 (if b then 1 else 0) := by
  cases b <;> rfl

theorem C11_wire_byte (b : Byte) : writeByte b = leBytes 1 b.toNat := by
  rw [leBytes_one_byte]; rfl

/-- int16: two bytes, little-endian two's complement — for every Go `int16` value (`d.toInt`) -/
theorem C11_wire_int16 (d : BitVec 16) :
    writeInt16 d = leBytes 2 (twoCompl 16 d.toInt) ∧ twoCompl 16 d.toInt = d.toNat ∧ (writeInt16 d).length = 2 := by
  rw [twoCompl_toInt]; exact ⟨writeInt16_wire d, rfl, rfl⟩

theorem C11_wire_int32 (d : BitVec 32) :
    writeInt32 d = leBytes 4 (twoCompl 32 d.toInt) ∧ twoCompl 32 d.toInt = d.toNat ∧ (writeInt32 d).length = 4 := by
  rw [twoCompl_toInt]; exact ⟨writeInt32_wire d, rfl, rfl⟩

theorem C11_wire_int64 (d : BitVec 64) :
    writeInt64 d = leBytes 8 (twoCompl 64 d.toInt) ∧ twoCompl 64 d.toInt = d.toNat ∧ (writeInt64 d).length = 8 := by
  rw [twoCompl_toInt]; exact ⟨writeInt64_wire d, rfl, rfl⟩

example : writeInt32 (BitVec.ofInt 32 (-2)) = [0xfe#8, 0xff#8, 0xff#8, 0xff#8] := by decide
example : writeInt16 (BitVec.ofInt 16 (-32768)) = [0x00#8, 0x80#8] := by decide
example : leBytes 4 (twoCompl 32 (-2)) = [0xfe#8, 0xff#8, 0xff#8, 0xff#8] := by decide

/-- Write7BitEncodedInt terminates and appends the unsigned LEB128 of the 32-bit pattern: 1 to 5 bytes -/
theorem C11_wire_7bit (d : BitVec 32) :
    write7 d = some (leb128 (twoCompl 32 d.toInt)) ∧ twoCompl 32 d.toInt = d.toNat ∧
      1 ≤ (leb128 d.toNat).length ∧ (leb128 d.toNat).length ≤ 5 := by
  rw [twoCompl_toInt]
  have hd := d.isLt
  have hp : 2 ^ 32 ≤ 128 ^ (4 + 1) := by decide
  have hl := leb128_length 4 d.toNat (Nat.lt_of_lt_of_le hd hp)
  exact ⟨write7_eq d, rfl, hl.1, hl.2⟩

example : write7 (BitVec.ofInt 32 (-1)) = some [0xff#8, 0xff#8, 0xff#8, 0xff#8, 0x0f#8] := by decide
example : write7 (BitVec.ofInt 32 300) = some [0xac#8, 0x02#8] := by decide
example : leb128 16384 = [0x80#8, 0x80#8, 0x01#8] := by
  rw [leb128_ge _ (by decide), leb128_ge _ (by decide), leb128_lt _ (by decide)]

/-- WriteBytes / WriteString: 7-bit length prefix, then the raw bytes (lengths below 2^31: the prefix is an int32) -/
theorem C11_wire_bytes (data : List Byte) (h : data.length < 2 ^ 31) :
    writeBytes data = some (prefixed data) ∧ writeString data = some (prefixed data) ∧
      prefixed data = leb128 data.length ++ data :=
  ⟨writeBytes_lt data h, writeBytes_lt data h, rfl⟩

example : writeBytes [0x61#8, 0xff#8] = some [2#8, 0x61#8, 0xff#8] := by decide

theorem C11_wire_raw (data : List Byte) : writeRaw data = data := writeRaw_eq data

/-- every sequence of typed writes produces the concatenation of the documented encodings -/
theorem C11_wire_seq (vs : List Val) (h : ∀ v ∈ vs, v.valid) : encode vs = some (vs.flatMap wire) := by
  induction vs with
  | nil => rfl
  | cons v vs ih =>
    simp only [encode, encode1_wire v (h v (by simp)), ih (fun w hw => h w (by simp [hw])), List.flatMap_cons]

theorem C11_roundtrip_bool (pre rest : List Byte) (b : Bool) :
    readBool (pre ++ writeBool b ++ rest) pre.length = ⟨.ok b, pre.length + (writeBool b).length, 0⟩ := by
  unfold readBool
  rw [readByte_of_drop _ _ _ rest (by rw [drop_mid, writeBool_eq]; rfl)]
  cases b <;> rfl

theorem C11_roundtrip_byte (pre rest : List Byte) (b : Byte) :
    readByte (pre ++ writeByte b ++ rest) pre.length = ⟨.ok b, pre.length + (writeByte b).length, 0⟩ :=
  readByte_of_drop _ _ _ rest (by rw [drop_mid]; rfl)

theorem C11_roundtrip_int16 (pre rest : List Byte) (d : BitVec 16) :
    readInt16 (pre ++ writeInt16 d ++ rest) pre.length = ⟨.ok d, pre.length + (writeInt16 d).length, 0⟩ :=
  readFixed_writeFixed 1 rfl _ rfl rfl rfl pre rest d

theorem C11_roundtrip_int32 (pre rest : List Byte) (d : BitVec 32) :
    readInt32 (pre ++ writeInt32 d ++ rest) pre.length = ⟨.ok d, pre.length + (writeInt32 d).length, 0⟩ :=
  readFixed_writeFixed 3 rfl _ rfl rfl rfl pre rest d

theorem C11_roundtrip_int64 (pre rest : List Byte) (d : BitVec 64) :
    readInt64 (pre ++ writeInt64 d ++ rest) pre.length = ⟨.ok d, pre.length + (writeInt64 d).length, 0⟩ :=
  readFixed_writeFixed 7 rfl _ rfl rfl rfl pre rest d

theorem C11_roundtrip_7bit (pre rest : List Byte) (d : BitVec 32) :
    ∃ bs, write7 d = some bs ∧
      read7 (pre ++ bs ++ rest) pre.length = ⟨.ok d, pre.length + bs.length, 0⟩ :=
  ⟨_, write7_eq d, read7_leb_toNat pre rest d⟩

/-- byte slices (and strings, next theorem) of every length below 2^31, any content (no UTF-8 assumption) -/
theorem C11_roundtrip_bytes (pre rest data : List Byte) (h : data.length < 2 ^ 31) :
    ∃ bs, writeBytes data = some bs ∧
      readBytes (pre ++ bs ++ rest) pre.length = ⟨.ok data, pre.length + bs.length, data.length⟩ :=
  ⟨_, writeBytes_lt data h, rt_bytes data h pre rest⟩

theorem C11_roundtrip_string (pre rest data : List Byte) (h : data.length < 2 ^ 31) :
    ∃ bs, writeString data = some bs ∧
      readString (pre ++ bs ++ rest) pre.length = ⟨.ok data, pre.length + bs.length, data.length⟩ :=
  ⟨_, writeBytes_lt data h, rt_bytes data h pre rest⟩

example : (2 : Nat) < 2 ^ 31 ∧ readBytes ([7#8] ++ [2#8, 0x61#8, 0xff#8] ++ [9#8]) 1 = ⟨.ok [0x61#8, 0xff#8], 4, 2⟩ := by
  decide

/-- stream.Write then stream.Read with a buffer of the same (non-zero) length -/
theorem C11_roundtrip_raw (pre rest data : List Byte) (h : 0 < data.length) :
    streamRead (pre ++ writeRaw data ++ rest) pre.length data.length
      = ⟨.ok (data.length, data), pre.length + data.length, 0⟩ := by
  rw [writeRaw_eq, streamRead_full _ _ _ h (by simp), drop_mid, List.take_left]

example : 0 < [5#8, 6#8].length ∧
    streamRead ([1#8] ++ writeRaw [5#8, 6#8] ++ [9#8]) 1 2 = ⟨.ok (2, [5#8, 6#8]), 3, 0⟩ := by decide

/-- every value of every supported type, in any context: the matching read call returns it and consumes exactly the
    bytes written for it -/
theorem C11_roundtrip_val (v : Val) (h : v.valid) :
    ∃ bs, encode1 v = some bs ∧ ∀ pre rest : List Byte,
      (read1 (pre ++ bs ++ rest) pre.length v.op).out = .ok v ∧
      (read1 (pre ++ bs ++ rest) pre.length v.op).pos = pre.length + bs.length := by
  cases v with
  | bool b => exact ⟨_, rfl, fun pre rest => map_of_eq_ok Val.bool (C11_roundtrip_bool pre rest b)⟩
  | byte b => exact ⟨_, rfl, fun pre rest => map_of_eq_ok Val.byte (C11_roundtrip_byte pre rest b)⟩
  | i16 d => exact ⟨_, rfl, fun pre rest => map_of_eq_ok Val.i16 (C11_roundtrip_int16 pre rest d)⟩
  | i32 d => exact ⟨_, rfl, fun pre rest => map_of_eq_ok Val.i32 (C11_roundtrip_int32 pre rest d)⟩
  | i64 d => exact ⟨_, rfl, fun pre rest => map_of_eq_ok Val.i64 (C11_roundtrip_int64 pre rest d)⟩
  | v7 d => exact ⟨_, write7_eq d, fun pre rest => map_of_eq_ok Val.v7 (read7_leb_toNat pre rest d)⟩
  | bytes l => exact ⟨_, writeBytes_lt l h, fun pre rest => map_of_eq_ok Val.bytes (rt_bytes l h pre rest)⟩
  | str l => exact ⟨_, writeBytes_lt l h, fun pre rest => map_of_eq_ok Val.str (rt_bytes l h pre rest)⟩
  | raw l =>
    refine ⟨_, rfl, fun pre rest => ?_⟩
    have hr := map_of_eq_ok (fun cd : Nat × List Byte => Val.raw (cd.2.take cd.1)) (C11_roundtrip_raw pre rest l h)
    simpa [writeRaw_eq, Val.op, read1] using hr

/-- every sequence of typed values: writing them in order and reading them back with the matching calls returns the
    same values and consumes exactly the bytes written (also when the stream holds other data before and after) -/
theorem C11_roundtrip_seq (vs : List Val) (h : ∀ v ∈ vs, v.valid) :
    ∃ bs, encode vs = some bs ∧ ∀ pre rest : List Byte,
      decode (pre ++ bs ++ rest) pre.length (vs.map Val.op) = some (vs, pre.length + bs.length) := by
  induction vs with
  | nil => exact ⟨[], rfl, fun pre rest => by simp [decode]⟩
  | cons v vs ih =>
    obtain ⟨b1, he1, hr1⟩ := C11_roundtrip_val v (h v (by simp))
    obtain ⟨b2, he2, hr2⟩ := ih (fun w hw => h w (by simp [hw]))
    refine ⟨b1 ++ b2, by simp only [encode, he1, he2], fun pre rest => ?_⟩
    have h1 := hr1 pre (b2 ++ rest)
    have h2 := hr2 (pre ++ b1) rest
    rw [show pre ++ b1 ++ (b2 ++ rest) = pre ++ (b1 ++ b2) ++ rest by simp] at h1
    rw [show pre ++ b1 ++ b2 ++ rest = pre ++ (b1 ++ b2) ++ rest by simp, List.length_append] at h2
    rw [List.length_append, ← Nat.add_assoc]
    exact decode_cons h1.1 h1.2 h2

/-- … in particular on a fresh stream -/
theorem C11_roundtrip_seq_fresh (vs : List Val) (h : ∀ v ∈ vs, v.valid) :
    ∃ bs, encode vs = some bs ∧ decode bs 0 (vs.map Val.op) = some (vs, bs.length) := by
  obtain ⟨bs, he, hd⟩ := C11_roundtrip_seq vs h
  refine ⟨bs, he, ?_⟩
  have := hd [] []
  simpa using this

example : (∀ v ∈ [Val.i32 (BitVec.ofInt 32 (-2)), Val.str [0x68#8, 0x69#8], Val.v7 300#32, Val.bool true], v.valid) ∧
    encode [Val.i32 (BitVec.ofInt 32 (-2)), Val.str [0x68#8, 0x69#8], Val.v7 300#32, Val.bool true]
      = some [0xfe#8, 0xff#8, 0xff#8, 0xff#8, 2#8, 0x68#8, 0x69#8, 0xac#8, 2#8, 1#8] := by
  refine ⟨?_, by decide⟩
  intro v hv
  simp only [List.mem_cons, List.not_mem_nil, or_false] at hv
  rcases hv with h | h | h | h <;> subst h <;> simp [Val.valid]

/-- `leValue` reads back what `leBytes` writes, the `w` low digits of `n` (sanity of the specification itself) -/
theorem C11_spec_le_inverse (w n : Nat) : leValue (leBytes w n) = n % 256 ^ w := by
  induction w generalizing n with
  | zero => simp [leBytes, leValue, Nat.mod_one]
  | succ w ih =>
    have e : (BitVec.ofNat 8 (n % 256)).toNat = n % 256 := by simp
    simp only [leBytes, leValue, ih, e]
    rw [Nat.pow_succ, Nat.mul_comm (256 ^ w) 256, Nat.mod_mul]

/-! `Got.Generated.AstIox` holds the MiniGoBytes terms (Got/Model/MiniGoBytes.lean) that tools/srcfacts/minigo_codec.go regenerates
from /repo/iox/octets_*.go on every run (go/ast + go/types); `run table "<Type>.<Method>" fuel args st` interprets the
generated term of a method on the stream `st = ⟨buffer, position, alloc⟩`.  Each theorem below states that the interpreted
generated term does exactly what the model function of the other C11 theorems does, for every fuel above a small constant
(one unit of fuel per statement along a block and per loop round; how the constants come about is said in
Got/Lemmas/CodecAst.lean).
`writeOut st bs` = returns `nil`, `bs` appended to the buffer; `readOut enc zero st r` = returns the model's value / error and
moves to the model's position (`crash` = panic). -/

open Got.Generated.AstIox in
/-- The translator accepted every method of OctetsStream / OctetsWriter / OctetsReader it is pointed at: every construct of
    the current source is inside the MiniGoBytes fragment (otherwise the generated body is empty and the note names the
    construct). -/
theorem C11_translation_in_fragment : notes.filter (fun p => p.2 != "ok") = [] := by decide

section translated
open Got.Model.MiniGoBytes (run St)
open Got.Generated.AstIox Got.Lemmas.CodecAst

theorem C11_translated_source_WriteBool_refines_model (b : Bool) (st : St) (fuel : Nat) (hf : 8 ≤ fuel) :
    run table "OctetsWriter.WriteBool" fuel [.bool b] st = some (writeOut st (writeBool b)) :=
  writer_wrap (fn := OctetsWriter_WriteBool) rfl rfl _ st _ 5 fuel (by omega) rfl (s_writeBool_ast b st)

theorem C11_translated_source_WriteByte_refines_model (b : BitVec 8) (st : St) (fuel : Nat) (hf : 8 ≤ fuel) :
    run table "OctetsWriter.WriteByte" fuel [.bv 8 false b] st = some (writeOut st (writeByte b)) :=
  writer_wrap (fn := OctetsWriter_WriteByte) rfl rfl _ st _ 3 fuel (by omega) rfl (s_writeByte_ast b st)

theorem C11_translated_source_WriteInt16_refines_model (d : BitVec 16) (st : St) (fuel : Nat) (hf : 8 ≤ fuel) :
    run table "OctetsWriter.WriteInt16" fuel [.bv 16 true d] st = some (writeOut st (writeInt16 d)) :=
  writer_wrap (fn := OctetsWriter_WriteInt16) rfl rfl _ st _ 3 fuel (by omega) rfl (s_writeInt16_ast d st)

/-- e.g. `byte(d>>24)` of the source: arithmetic shift of the signed 32-bit value, then truncation — for all 2^32 values -/
theorem C11_translated_source_WriteInt32_refines_model (d : BitVec 32) (st : St) (fuel : Nat) (hf : 8 ≤ fuel) :
    run table "OctetsWriter.WriteInt32" fuel [.bv 32 true d] st = some (writeOut st (writeInt32 d)) :=
  writer_wrap (fn := OctetsWriter_WriteInt32) rfl rfl _ st _ 3 fuel (by omega) rfl (s_writeInt32_ast d st)

theorem C11_translated_source_WriteInt64_refines_model (d : BitVec 64) (st : St) (fuel : Nat) (hf : 8 ≤ fuel) :
    run table "OctetsWriter.WriteInt64" fuel [.bv 64 true d] st = some (writeOut st (writeInt64 d)) :=
  writer_wrap (fn := OctetsWriter_WriteInt64) rfl rfl _ st _ 3 fuel (by omega) rfl (s_writeInt64_ast d st)

/-- the loop `for num > 127 { WriteByte(byte(num | 0xFFFFFF80)); num >>= 7 }` of the source, all 2^32 values (loop
    invariant, not enumeration) -/
theorem C11_translated_source_Write7BitEncodedInt_refines_model (d : BitVec 32) (st : St) (fuel : Nat) (hf : 72 ≤ fuel) :
    run table "OctetsWriter.Write7BitEncodedInt" fuel [.bv 32 true d] st = (write7 d).map (writeOut st) :=
  w_write7_ast d st fuel hf

/-- `stream.Write(buffer)`: appends the bytes, leaves the caller's slice as it was -/
theorem C11_translated_source_Write_refines_model (data : List (BitVec 8)) (st : St) (fuel : Nat) (hf : 8 ≤ fuel) :
    run table "OctetsStream.Write" fuel [.bytes data] st =
      some (.ret [.err none] [some data] { st with buffer := st.buffer ++ writeRaw data }) :=
  s_write_ast data st fuel (by omega)

/-- WriteBytes = `Write7BitEncodedInt(int32(len(data)))` then `stream.Write(data)`, through the function table -/
theorem C11_translated_source_WriteBytes_refines_model (data : List (BitVec 8)) (st : St) (fuel : Nat) (hf : 80 ≤ fuel) :
    run table "OctetsWriter.WriteBytes" fuel [.bytes data] st = (writeBytes data).map (writeSliceOut st data) :=
  w_writeBytes_ast data st fuel hf

theorem C11_translated_source_WriteString_refines_model (data : List (BitVec 8)) (st : St) (fuel : Nat) (hf : 90 ≤ fuel) :
    run table "OctetsWriter.WriteString" fuel [.bytes data] st = (writeString data).map (writeSliceOut st data) :=
  w_writeString_ast data st fuel hf

theorem C11_translated_source_ReadBool_refines_model (buf : List (BitVec 8)) (pos a : Nat) (fuel : Nat) (hf : 10 ≤ fuel) :
    run table "OctetsReader.ReadBool" fuel [] ⟨buf, pos, a⟩ =
      some (readOut .bool (.bool false) ⟨buf, pos, a⟩ (readBool buf pos)) :=
  r_readBool_ast buf pos a fuel hf

theorem C11_translated_source_ReadByte_refines_model (buf : List (BitVec 8)) (pos a : Nat) (fuel : Nat) (hf : 10 ≤ fuel) :
    run table "OctetsReader.ReadByte" fuel [] ⟨buf, pos, a⟩ =
      some (readOut (.bv 8 false) (.bv 8 false 0) ⟨buf, pos, a⟩ (readByte buf pos)) :=
  r_readByte_ast buf pos a fuel (by omega)

theorem C11_translated_source_ReadInt16_refines_model (buf : List (BitVec 8)) (pos a : Nat) (fuel : Nat) (hf : 10 ≤ fuel) :
    run table "OctetsReader.ReadInt16" fuel [] ⟨buf, pos, a⟩ =
      some (readOut (.bv 16 true) (.bv 16 true 0) ⟨buf, pos, a⟩ (readInt16 buf pos)) :=
  r_readInt16_ast buf pos a fuel (by omega)

/-- e.g. `int32(b[0]) | int32(b[1])<<8 | int32(b[2])<<16 | int32(b[3])<<24` on `b = buffer[position:]`, with the bounds check -/
theorem C11_translated_source_ReadInt32_refines_model (buf : List (BitVec 8)) (pos a : Nat) (fuel : Nat) (hf : 10 ≤ fuel) :
    run table "OctetsReader.ReadInt32" fuel [] ⟨buf, pos, a⟩ =
      some (readOut (.bv 32 true) (.bv 32 true 0) ⟨buf, pos, a⟩ (readInt32 buf pos)) :=
  r_readInt32_ast buf pos a fuel (by omega)

theorem C11_translated_source_ReadInt64_refines_model (buf : List (BitVec 8)) (pos a : Nat) (fuel : Nat) (hf : 10 ≤ fuel) :
    run table "OctetsReader.ReadInt64" fuel [] ⟨buf, pos, a⟩ =
      some (readOut (.bv 64 true) (.bv 64 true 0) ⟨buf, pos, a⟩ (readInt64 buf pos)) :=
  r_readInt64_ast buf pos a fuel (by omega)

/-- the loop `for i := 0; i < 28; i += 7 { … num |= uint32(b&0x7F) << i … }` (shift by a variable) and the fifth-byte
    epilogue, on arbitrary bytes -/
theorem C11_translated_source_Read7BitEncodedInt_refines_model (buf : List (BitVec 8)) (pos a : Nat) (fuel : Nat)
    (hf : 90 ≤ fuel) :
    run table "OctetsReader.Read7BitEncodedInt" fuel [] ⟨buf, pos, a⟩ =
      some (readOut (.bv 32 true) (.bv 32 true 0) ⟨buf, pos, a⟩ (read7 buf pos)) :=
  r_read7_ast buf pos a fuel hf

/-- **The property, stated of the translated source itself (7-bit integers).** For every int32 `d` and every stream: the
    translated `Write7BitEncodedInt` returns nil and appends some bytes `bs` (1 to 5 of them: the unsigned LEB128 of the
    32-bit pattern); and wherever those bytes stand in a stream — behind any `pre`, in front of any `rest` — the
    translated `Read7BitEncodedInt` started at them returns `d`, nil and stops exactly behind them. -/
theorem C11_translated_source_roundtrip_7bit (d : BitVec 32) (st : St) (pre rest : List (BitVec 8)) (a : Nat) (fuel : Nat)
    (hf : 90 ≤ fuel) :
    ∃ bs, bs = leb128 d.toNat ∧ 1 ≤ bs.length ∧ bs.length ≤ 5 ∧
      run table "OctetsWriter.Write7BitEncodedInt" fuel [.bv 32 true d] st =
        some (.ret [.err none] [none] { st with buffer := st.buffer ++ bs }) ∧
      run table "OctetsReader.Read7BitEncodedInt" fuel [] ⟨pre ++ bs ++ rest, pre.length, a⟩ =
        some (.ret [.bv 32 true d, .err none] [] ⟨pre ++ bs ++ rest, ((pre.length + bs.length : Nat) : Int), a⟩) := by
  have hl := (C11_wire_7bit d).2.2
  refine ⟨_, rfl, hl.1, hl.2, ?_, ?_⟩
  · rw [w_write7_ast d st fuel (by omega), write7_eq]; rfl
  · rw [r_read7_ast _ _ _ fuel hf, read7_leb_toNat]; simp [readOut]

/-- … and for fixed-width int32: the four bytes the translated `WriteInt32` appends are read back by the translated
    `ReadInt32` as the same value, four bytes consumed -/
theorem C11_translated_source_roundtrip_int32 (d : BitVec 32) (st : St) (pre rest : List (BitVec 8)) (a : Nat) (fuel : Nat)
    (hf : 10 ≤ fuel) :
    run table "OctetsWriter.WriteInt32" fuel [.bv 32 true d] st =
        some (.ret [.err none] [none] { st with buffer := st.buffer ++ writeInt32 d }) ∧
      run table "OctetsReader.ReadInt32" fuel [] ⟨pre ++ writeInt32 d ++ rest, pre.length, a⟩ =
        some (.ret [.bv 32 true d, .err none] [] ⟨pre ++ writeInt32 d ++ rest, ((pre.length + 4 : Nat) : Int), a⟩) := by
  refine ⟨C11_translated_source_WriteInt32_refines_model d st fuel (by omega), ?_⟩
  rw [r_readInt32_ast _ _ _ fuel (by omega), C11_roundtrip_int32 pre rest d]
  simp [readOut, (C11_wire_int32 d).2.2]

/-- non-vacuity: the generated terms really run — `Write7BitEncodedInt(300)` on an empty stream, then reading it back -/
example : run table "OctetsWriter.Write7BitEncodedInt" 100 [.bv 32 true 300#32] ⟨[], 0, 0⟩ =
    some (.ret [.err none] [none] ⟨[0xac#8, 0x02#8], 0, 0⟩) := by
  rw [C11_translated_source_Write7BitEncodedInt_refines_model _ _ _ (by omega),
    show write7 300#32 = some [0xac#8, 0x02#8] by decide]
  rfl

example : run table "OctetsReader.Read7BitEncodedInt" 100 [] ⟨[0xac#8, 0x02#8], 0, 0⟩ =
    some (.ret [.bv 32 true 300#32, .err none] [] ⟨[0xac#8, 0x02#8], 2, 0⟩) := by
  have h := C11_translated_source_Read7BitEncodedInt_refines_model [0xac#8, 0x02#8] 0 0 100 (by omega)
  rw [show read7 [0xac#8, 0x02#8] 0 = ⟨.ok 300#32, 2, 0⟩ by decide] at h
  simpa [readOut] using h

/-- ReadBytes of the translated source: `Read7BitEncodedInt`, the three size checks, `make([]byte, size)` (counted in
    `alloc`), `stream.Read(data)` through the function table with the element writes coming back to `data` -/
theorem C11_translated_source_ReadBytes_refines_model (buf : List (BitVec 8)) (pos a : Nat) (fuel : Nat)
    (hf : 120 ≤ fuel) (hp : pos ≤ buf.length) :
    run table "OctetsReader.ReadBytes" fuel [] ⟨buf, pos, a⟩ =
      some (readOut .bytes (.bytes []) ⟨buf, pos, a⟩ (readBytes buf pos)) :=
  r_readBytes_ast buf pos a fuel hf hp

theorem C11_translated_source_ReadString_refines_model (buf : List (BitVec 8)) (pos a : Nat) (fuel : Nat)
    (hf : 130 ≤ fuel) (hp : pos ≤ buf.length) :
    run table "OctetsReader.ReadString" fuel [] ⟨buf, pos, a⟩ =
      some (readOut .bytes (.bytes []) ⟨buf, pos, a⟩ (readString buf pos)) :=
  r_readString_ast buf pos a fuel hf hp

/-- **The property, stated of the translated source itself (byte slices).** For every `data` shorter than 2^31 bytes: the
    translated `WriteBytes` returns nil, leaves the caller's slice alone and appends `bs = leb128 (len data) ++ data`; and
    wherever `bs` stands in a stream the translated `ReadBytes` started at it returns exactly `data`, nil, stops exactly
    behind it and has passed exactly `len data` bytes to `make`. -/
theorem C11_translated_source_roundtrip_bytes (data : List (BitVec 8)) (h : data.length < 2 ^ 31) (st : St)
    (pre rest : List (BitVec 8)) (a : Nat) (fuel : Nat) (hf : 120 ≤ fuel) :
    ∃ bs, bs = leb128 data.length ++ data ∧
      run table "OctetsWriter.WriteBytes" fuel [.bytes data] st =
        some (.ret [.err none] [some data] { st with buffer := st.buffer ++ bs }) ∧
      run table "OctetsReader.ReadBytes" fuel [] ⟨pre ++ bs ++ rest, pre.length, a⟩ =
        some (.ret [.bytes data, .err none] []
          ⟨pre ++ bs ++ rest, ((pre.length + bs.length : Nat) : Int), a + data.length⟩) := by
  refine ⟨_, rfl, ?_, ?_⟩
  · rw [w_writeBytes_ast data st fuel (by omega), writeBytes_lt data h]; rfl
  · rw [r_readBytes_ast _ _ _ fuel hf (by simp), rt_bytes data h pre rest]; simp [readOut]

end translated
