import Got.Lemmas.WaitClose
/-
C16 — loom.WaitClose closes once: at most one callback runs, that of the Close call that performs the close; no Close returns
before it has finished; a panicking callback still leaves the object closed; C() never returns nil and what it returned is closed once a Close has returned;
IsClosed is true from then on; WaitUtil returns true only if the close came by its deadline, false only if not before it.
Trusted: sync.Mutex, channel close / select and timer semantics as encoded in `step` (closing a nil or closed channel: `fault`).

All theorems quantify over every finite action list `acts` from `init` (a zero-value WaitClose): every number of
goroutines, every program of C / WaitUtil / IsClosed / Close calls, every interleaving of their single shared accesses,
every callback behaviour (duration, nil / error / panic) and every passage of time.  Because they hold in *every*
reachable state, a statement "X holds once event E is in the log" covers the state right after E and all later ones. -/
open Got.Model.WaitClose

/-- At most one callback start in any execution (and at most one close/assignment), and a callback is started only by
    the goroutine that performed the close/assignment. -/
theorem C16_one_callback (acts : List Act) :
    let s := run init acts
    cbStarts s.log ≤ 1 ∧ closeDos s.log ≤ 1 ∧
    ∀ t n, Ev.cbStart t n ∈ s.log → ∃ c m, Ev.closeDo t c m ∈ s.log := by
  obtain ⟨hA, hB, _⟩ := reach_inv acts
  exact ⟨cbStarts_le_one hA hB, hB.dos, fun t n h => hB.evs _ h⟩

/-- No Close-return event precedes the end of the callback: whenever some Close call has returned, the state word is
    `closed`, every started callback has ended, and no goroutine is about to start or is running a callback (and, the
    state being closed for ever, none will). -/
theorem C16_return_after_callback (acts : List Act) :
    let s := run init acts
    (∃ t r n, Ev.closeRet t r n ∈ s.log) →
      s.state = wcClosed ∧ cbStarts s.log = cbEnds s.log ∧ ∀ u, s.pc u ≠ .clCbStart ∧ s.pc u ≠ .clCbRun := by
  intro s ⟨t, r, n, h⟩
  obtain ⟨hA, hB, _⟩ := reach_inv acts
  have hc : s.state = wcClosed := hB.evs _ h
  exact ⟨hc, (hB.cl hc).1, fun u => ⟨fun hpc => (hA.facts hpc).1 hc, fun hpc => (hA.facts hpc).1 hc⟩⟩

/-- A Close call returns only in state `closed` (its own return step), in particular after the deferred store. -/
theorem C16_close_returns_closed (acts : List Act) (t : Nat) (r : Option CbRes) :
    let s := run init acts
    s.pc t = .clRet r → s.state = wcClosed := by
  intro s hpc
  exact (reach_inv acts).1.facts hpc

/-- A panicking callback still leaves the object closed: from any reachable state in which goroutine t runs the
    callback, the panic followed by t's three deferred/return steps gives state `closed`, a released mutex, a closed
    channel, a Close return (in Go with nil, after recover; the model has no return value and logs the callback's outcome
    `some .panic` with the return), and no run-time fault of the Go code itself. -/
theorem C16_panic_closes (acts : List Act) (t : Nat) :
    let s := run init acts
    s.pc t = .clCbRun →
      let s' := run s [.cbEnd t .panic, .step t, .step t, .step t]
      s'.state = wcClosed ∧ s'.mu = none ∧ chanClosed s' s'.closeChan = true ∧ s'.fault = false ∧
      s'.log = s.log ++ [.cbEnd t .panic s.now, .closeRet t (some .panic) s.now] ∧ s'.pc t = .idle := by
  exact cbEnd_closes (reach_inv acts).1 t .panic

/-- C() never returns nil: what it returns was made by checkInitSlow or is `globalClosedChan`. -/
theorem C16_C_not_nil (acts : List Act) :
    ∀ t ch n, Ev.cRet t ch n ∈ (run init acts).log → ch ≠ none := by
  intro t ch n h e
  cases e ▸ ((reach_inv acts).2.1.evs _ h).1

/-- At most one channel is ever created; every channel ever returned by C, used by a finished or by a still waiting
    WaitUtil is the object's one channel, and it is closed in every state in which some Close call has returned.
    The Go code itself never faults (no close of a nil or of a closed channel). -/
theorem C16_returned_channels_closed (acts : List Act) :
    let s := run init acts
    s.nchan ≤ 1 ∧ s.fault = false ∧
    (∀ t ch n, Ev.cRet t ch n ∈ s.log → ch = s.closeChan) ∧
    (∀ t b ch st T n, Ev.wuRet t b ch st T n ∈ s.log → ch = s.closeChan) ∧
    (∀ u ch st T, s.pc u = .wSel ch st T → ch = s.closeChan) ∧
    ((∃ t r n, Ev.closeRet t r n ∈ s.log) → chanClosed s s.closeChan = true) := by
  intro s
  obtain ⟨hA, hB, _⟩ := reach_inv acts
  exact ⟨hA.1.nch.1, hA.1.fault, fun t ch n h => (hB.evs _ h).2, fun t b ch st T n h => (hB.evs _ h).2,
    fun u ch st T h => (hB.at h).2,
    fun ⟨t, r, n, h⟩ => (closed_iff_done hA).mpr (hA.1.cld (hB.evs _ h))⟩

/-- IsClosed is stable: once it has returned true, or once any Close call has returned, the state word is `closed`;
    it stays `closed` under every further action; and IsClosed reports exactly that word. -/
theorem C16_isclosed_stable (acts : List Act) :
    let s := run init acts
    (((∃ t r n, Ev.closeRet t r n ∈ s.log) ∨ (∃ t n, Ev.iscRet t true n ∈ s.log)) → s.state = wcClosed) ∧
    (s.state = wcClosed → ∀ more, (run s more).state = wcClosed) ∧
    (∀ t, s.pc t = .isc →
      (step s (.step t)).log = s.log ++ [.iscRet t (decide (s.state = wcClosed)) s.now]) := by
  intro s
  obtain ⟨hA, hB, _⟩ := reach_inv acts
  refine ⟨?_, fun hc more => run_closed_stable hA more hc, fun t hpc => by simp [step, stepT, hpc]⟩
  rintro (⟨t, r, n, h⟩ | ⟨t, n, h⟩) <;> exact hB.evs _ h

/-- WaitUtil(T) whose timer was started at `st` and which returned at `n`:
    * true  ⇒ the close happened at some `tc ≤ n`, and (for T > 0) no later than the deadline `st + T`;
    * false ⇒ the deadline has been reached, and (for T > 0) the object was not closed strictly before the deadline —
      it is not closed yet, or the close happened at `tc ≥ st + T`.
    Hence: closed strictly before the deadline ⇒ the result is true; not closed by the deadline ⇒ false; either at
    equality.  (T ≤ 0: the whole call happens at its deadline, so either result is possible once closed.)
    `closeTime` is the instant of the close/assignment event. -/
theorem C16_waitutil (acts : List Act) :
    let s := run init acts
    (∀ t ch st T n, Ev.wuRet t true ch st T n ∈ s.log →
        ∃ tc, s.closeTime = some tc ∧ tc ≤ n ∧ (0 < T → (tc : Int) ≤ st + T)) ∧
    (∀ t ch st T n, Ev.wuRet t false ch st T n ∈ s.log →
        (st : Int) + T ≤ n ∧ (0 < T → s.closeTime = none ∨ ∃ tc, s.closeTime = some tc ∧ (st : Int) + T ≤ tc)) ∧
    (∀ tc, s.closeTime = some tc → ∃ t c, Ev.closeDo t c tc ∈ s.log) := by
  intro s
  obtain ⟨_, _, hC⟩ := reach_inv acts
  exact ⟨fun t ch st T n h => (hC.ev _ h).2, fun t ch st T n h => (hC.ev _ h).2, hC.ctl⟩

/-- non-vacuity.  Two goroutines Close an initialised object; goroutine 1 wins the mutex and runs its callback; goroutine 2 has passed
    the first check, blocks on the mutex, re-checks under it and returns without running its callback, after the end
    of goroutine 1's callback -/
example :
    let s := run init [.invoke 0 .c, .step 0, .step 0, .step 0, .step 0, .step 0, .step 0, .step 0,
      .invoke 1 (.close true), .invoke 2 (.close true), .step 1, .step 2, .step 1, .step 2, .step 1, .step 1, .step 1,
      .tick 5, .cbEnd 1 .ok, .step 1, .step 1, .step 2, .step 2, .step 1, .step 2, .step 2]
    s.log = [.cRet 0 (some 1) 0, .closeDo 1 1 0, .cbStart 1 0, .cbEnd 1 .ok 5, .closeRet 1 (some .ok) 5,
             .closeRet 2 none 5] ∧ s.state = wcClosed ∧ s.closed = [1, 0] := by decide

/-- closed before first use: C() returns the shared pre-closed channel (id 0); a panicking callback still closes -/
example :
    let s := run init [.invoke 1 (.close true), .step 1, .step 1, .step 1, .step 1, .step 1, .cbEnd 1 .panic,
      .step 1, .step 1, .step 1, .invoke 2 .c, .step 2, .step 2, .invoke 3 .isClosed, .step 3]
    s.log = [.closeDo 1 0 0, .cbStart 1 0, .cbEnd 1 .panic 0, .closeRet 1 (some .panic) 0, .cRet 2 (some 0) 0,
             .iscRet 3 true 0] ∧ s.nchan = 0 := by decide

/-- WaitUtil(10) started at 0: closed at 4 ⇒ true at 4; time cannot pass while the select is ready -/
example :
    let s := run init [.invoke 0 (.waitUtil 10), .step 0, .step 0, .step 0, .step 0, .step 0, .step 0, .step 0,
      .tick 4, .invoke 1 (.close false), .step 1, .step 1, .step 1, .step 1, .tick 3, .step 0]
    s.log = [.closeDo 1 1 4, .wuRet 0 true (some 1) 0 10 4] ∧ s.now = 4 := by decide

/-- WaitUtil(3) started at 0, nobody closes: time cannot jump over the deadline; false at 3 -/
example :
    let s := run init [.invoke 0 (.waitUtil 3), .step 0, .step 0, .step 0, .step 0, .step 0, .step 0, .step 0,
      .tick 7, .tick 3, .timeout 0]
    s.log = [.wuRet 0 false (some 1) 0 3 3] ∧ s.now = 3 := by decide
