import Got.Lemmas.SampleAst
import Got.Lemmas.IfaceAst
/-
C20 — randx.WeightedSampling returns distinct valid indices, weighted correctly.

The theorems are about `Got.Model.Sample.weightedSampling`, the transcription of the loop of
randx/sample.go on top of the container/heap transcription `Got.Model.GoHeap`.  The float keys are
INPUTS of the model: `keys` is the list of the `totalNum` keys in loop order, of an arbitrary type `κ`,
compared by arbitrary Bool-valued functions `less` (heap order) and `gt` (replacement test).
"Weighted correctly" (the title is the property's) is therefore no theorem here: what is proved of the selection is
`C20_top_m`, the indices of the `m` largest keys; that keys computed from weights give index `i` the probability
`w_i / Σw` is left to the statistical test of the harness.
-/
open Got.Model Got.Model.Sample Got.Lemmas.Sample Got.Lemmas.GoHeap

/-- VALIDITY, for EVERY key list and EVERY outcome of the comparisons (ties, ±Inf, NaN-like incomparable
    values, even inconsistent answers), hence for every weight vector and every random draw:
    with 1 ≤ m ≤ n the call returns (no panic) exactly m pairwise distinct indices in [0, n),
    and a permutation of 0..n-1 when m = n. -/
theorem C20_valid {κ : Type} (less gt : κ → κ → Bool) (m : Nat) (keys : List κ) (h1 : 1 ≤ m) (h2 : m ≤ keys.length) :
    ∃ r, weightedSampling less gt (m : Int) keys = .ok r ∧ r.length = m ∧ r.Nodup ∧ (∀ x ∈ r, x < keys.length) ∧
      (m = keys.length → r.Perm (List.range keys.length)) := by
  obtain ⟨h, out, hr, hi⟩ := weightedSampling_inv less gt keys m h1 h2
  exact ⟨_, hr, hi.length h2, hi.nodup, hi.lt, hi.perm_of_all⟩

/-- TOP-m: if the comparison is a strict total order and the keys are pairwise distinct (the situation with
    probability 1 for exact real keys u_i^(1/w_i)), the returned indices are exactly those of the m largest keys:
    every selected key is greater than every non-selected key (with C20_valid: m distinct indices, so this set is
    THE top-m set).  `gt a b = less b a` is what Go's `>` and `<` on floats satisfy. -/
theorem C20_top_m {κ : Type} (less gt : κ → κ → Bool) (st : StrictTotal less) (hgt : ∀ a b, gt a b = less b a)
    (m : Nat) (keys : List κ) (hnd : keys.Nodup) (h1 : 1 ≤ m) (h2 : m ≤ keys.length) :
    ∃ r, weightedSampling less gt (m : Int) keys = .ok r ∧ r.length = m ∧ r.Nodup ∧
      ∀ j, j ∈ r → ∀ j', j' < keys.length → j' ∉ r →
        ∀ kj kj', keys[j]? = some kj → keys[j']? = some kj' → less kj' kj = true := by
  obtain ⟨h, out, hr, hi⟩ := weightedSampling_inv less gt keys m h1 h2
  refine ⟨_, hr, hi.length h2, hi.nodup, ?_⟩
  intro j hj j' hj' hnot kj kj' hkj hkj'
  obtain ⟨x, hx, rfl⟩ := List.mem_map.mp hj
  obtain ⟨o, ho, rfl⟩ := hi.left_out hj' hnot
  obtain rfl := Option.some.inj ((hi.item x (List.mem_append_left _ hx)).symm.trans hkj)
  obtain rfl := Option.some.inj ((hi.item o (List.mem_append_right _ ho)).symm.trans hkj')
  exact hi.strict st hgt hnd o ho x hx

/-- container/heap, Push: under a strict weak order (asymmetric + negatively transitive `less`, ties allowed) Push
    keeps the heap invariant "no element is smaller than its parent" and only adds the pushed element -/
theorem C20_heap_push {α : Type} (less : α → α → Bool) (tp : TotalPreorder less) (a : Array α) (x : α)
    (hh : IsHeap less a) :
    IsHeap less (GoHeap.push less a x) ∧ (GoHeap.push less a x).toList.Perm (x :: a.toList) :=
  ⟨push_heap tp a x hh, push_perm less a x⟩

/-- container/heap, Pop: on a non-empty heap Pop succeeds, returns a MINIMAL element (no element is smaller), removes
    exactly that element, and leaves a heap -/
theorem C20_heap_pop {α : Type} (less : α → α → Bool) (tp : TotalPreorder less) (a : Array α) (hh : IsHeap less a)
    (hne : 0 < a.size) :
    ∃ x b, GoHeap.pop less a = some (x, b) ∧ IsHeap less b ∧ (∀ y ∈ a.toList, less y x = false) ∧
      (x :: b.toList).Perm a.toList := by
  exact ⟨_, _, pop_eq less a hne, popRest_heap tp a hh hne, root_min tp a hh hne, popRest_perm less a hne⟩

/-- for an ARBITRARY comparison (no assumption) Push and Pop still only permute: nothing is lost or duplicated -/
theorem C20_heap_perm {α : Type} (less : α → α → Bool) (a : Array α) (x : α) :
    (GoHeap.push less a x).toList.Perm (x :: a.toList) ∧
    (∀ y b, GoHeap.pop less a = some (y, b) → (y :: b.toList).Perm a.toList) ∧
    (0 < a.size → ∃ y b, GoHeap.pop less a = some (y, b)) :=
  ⟨push_perm less a x, fun y b h => (pop_perm less a y b h).1, fun h => ⟨_, _, pop_eq less a h⟩⟩

/-- the fuel of the structurally recursive loops is adequate: any larger fuel gives the same result, i.e. the loops
    of `up` / `down` always end through one of their `break`s, never by running out of fuel -/
theorem C20_heap_fuel_adequate {α : Type} (less : α → α → Bool) (a : Array α) (j n extra : Nat) :
    GoHeap.upAux less (j + 1 + extra) a j = GoHeap.up less a j ∧
    GoHeap.downAux less (n + extra) a j n = GoHeap.downLoop less a j n :=
  ⟨upAux_fuel less _ _ a j (Nat.lt_add_right extra (Nat.lt_succ_self j)) (Nat.lt_succ_self j),
    downAux_fuel less _ _ a j n (Nat.le_trans (Nat.sub_le n j) (Nat.le_add_right n extra)) (Nat.sub_le n j)⟩

/-- outside 1 ≤ m ≤ n the code panics (explicit argument check, negative capacity, or index out of range for m = 0) -/
theorem C20_invalid_arguments_panic {κ : Type} (less gt : κ → κ → Bool) (m : Int) (keys : List κ)
    (h : m < 1 ∨ (keys.length : Int) < m) : ∃ p, weightedSampling less gt m keys = .error p := by
  unfold weightedSampling
  split
  · exact ⟨_, rfl⟩
  · rename_i hn
    split
    · exact ⟨_, rfl⟩
    · have hm : m = 0 := by omega
      subst hm
      cases keys with
      | nil => simp at hn
      | cons k ks => exact ⟨.indexRange, by simp [loop, step]⟩

/-- the OLD code (heap pre-filled with `sampleNum` zero items, before fix ed1146e) returns the placeholder index
    twice when both keys are 0 (what u^(1/w) underflowed to for weights 5e-324): result [0, 0] -/
theorem C20_old_prefilled_counterexample :
    weightedSamplingOld (κ := Int) (fun a b => decide (a < b)) (fun a b => decide (a > b)) 0 2 [0, 0] = .ok [0, 0] := by
  decide

/-- and with three keys 0, the old code never reports index 1 or 2 at all -/
theorem C20_old_prefilled_counterexample_placeholder :
    weightedSamplingOld (κ := Int) (fun a b => decide (a < b)) (fun a b => decide (a > b)) 0 2 [0, 0, 0] = .ok [0, 0] := by
  decide

/-- non-vacuity of the hypotheses of `C20_top_m` / `C20_heap_*`: `<` on Int is a strict total order … -/
example : StrictTotal (fun a b : Int => decide (a < b)) :=
  ⟨fun a b h => by simp at h ⊢; omega, fun a b c h1 h2 => by simp at h1 h2 ⊢; omega,
   fun a b => by simp only [decide_eq_true_eq]; omega⟩
/-- … and a strict weak order (it is what the driver's `rankLess` compares the non-NaN ranks with) -/
example : TotalPreorder (fun a b : Int => decide (a < b)) :=
  ⟨fun a b h => by simp at h ⊢; omega, fun a b c h1 h2 => by simp at h1 h2 ⊢; omega⟩
example : IsHeap (fun a b : Int => decide (a < b)) #[1, 3, 2, 3] := by
  intro k hk _ h0
  have : k = 1 ∨ k = 2 ∨ k = 3 := by simp at hk; omega
  rcases this with rfl | rfl | rfl <;> rfl

example : weightedSampling (κ := Int) (fun a b => decide (a < b)) (fun a b => decide (a > b)) 2 [0, 0] = .ok [0, 1] := by decide
example : weightedSampling rankLess rankGt 2 [some 3, some 1, some 2] = .ok [2, 0] := by decide
example : weightedSampling rankLess rankGt 1 [some 1, none, some 5] = .ok [2] := by decide

/-
`Got/Generated/AstContainerHeap.lean` holds the MiniGoHeap terms (deep embedding `Got/Model/MiniGoHeap.lean`) that
tools/srcfacts/minigo_heap.go regenerates on EVERY run from `$GOROOT/src/container/heap/heap.go` of the toolchain that
builds the harness (up, down, Init, Push, Pop, Remove, Fix), so the theorems below are re-checked against the library
source actually linked.  `F.run (heapWorld less) prog fuel args x a` interprets the generated term `F` (calls resolved in the
generated program `prog`) over the slice-backed `heap.Interface` on `a : Array α` (Len = size, Less(i,j) = `less a[i] a[j]`,
Swap, Push = append, Pop = remove last; an index out of range PANICS): `some (.done ints value a')` = returned within `fuel`,
`some .panic` = panicked.  "refines_model": for every fuel above some bound the interpretation is exactly the `GoHeap`
model function, so every heap theorem above is a theorem about the translated library source.  Index / size hypotheses
`< 2^62`: slice lengths below 2^62 are an assumption of the development (2^62 rather than 2^63 so that `2*i + 1` of heap.down
stays below 2^63 and the embedding's 64-bit `wrap` is the identity on it); `keys.length + 2` in the sampling theorems covers
the Push and the Pop that follows it on the heap of one more element.  `pushAst` / `popAst` / `initAst` are `h_Push.run` /
`h_Pop.run` / `h_Init.run` with the outcome unpacked (Got/Model/HeapAstWorld.lean).
WeightedSampling itself is tied three times, to three functions of Got/Model/SampleAst.lean: `weightedSamplingAst`, the
hand-transcribed loop `loopAst` over these interpreted heap operations; `weightedSamplingGen`, the same loop over the
heap.Interface world generated from the methods of randx.sampleHeap; `weightedSamplingFull`, where the loop too is the term
generated from the source.  Only the last is what `drv_sample ast` runs and follows a change of the loop in /repo by itself;
for the first two `loopAst` would have to be changed by hand. -/
section TranslatedSource
open Got.Model.MiniGoHeap Got.Model.HeapAst Got.Model.SampleAst Got.Generated.AstContainerHeap
open Got.Lemmas.HeapAst (run_of_Runs)

/-- The translator accepted all seven functions of container/heap (otherwise a body is empty and its note names the
    construct, or says that the GOROOT file is missing). -/
theorem C20_translation_in_fragment : notes = ["ok", "ok", "ok", "ok", "ok", "ok", "ok"] := by decide

theorem C20_translated_source_heap_up_refines_model {α : Type} (less : α → α → Bool) (a : Array α) (j : Nat)
    (hj : j < a.size) (hsz : a.size < 2 ^ 62) :
    ∃ f0, ∀ fuel, f0 ≤ fuel →
      h_up.run (heapWorld less) prog fuel [(j : Int)] none a = some (.done [] none (GoHeap.up less a j)) :=
  Got.Lemmas.HeapAst.run_of_FnRuns rfl rfl rfl (by simp (disch := omega) only [List.map, Got.Lemmas.SortAst.wrap_eq])
    (Got.Lemmas.HeapAst.up_runs prog less a j hj hsz)

/-- the result `i > i0` is returned as 1/0; the `j1 < 0` overflow guard is part of the term, and never taken below 2^62 -/
theorem C20_translated_source_heap_down_refines_model {α : Type} (less : α → α → Bool) (a : Array α) (i0 n : Nat)
    (hn : n ≤ a.size) (hsz : a.size < 2 ^ 62) (hi : i0 < 2 ^ 62) :
    ∃ f0, ∀ fuel, f0 ≤ fuel →
      h_down.run (heapWorld less) prog fuel [(i0 : Int), (n : Int)] none a =
        some (.done [if (GoHeap.down less a i0 n).2 then 1 else 0] none (GoHeap.down less a i0 n).1) :=
  Got.Lemmas.HeapAst.run_of_FnRuns rfl rfl rfl (by simp (disch := omega) only [List.map, Got.Lemmas.SortAst.wrap_eq])
    (Got.Lemmas.HeapAst.down_runs prog less a i0 n hn hsz hi)

theorem C20_translated_source_heap_Init_refines_model {α : Type} (less : α → α → Bool) (a : Array α) (hsz : a.size < 2 ^ 62) :
    ∃ f0, ∀ fuel, f0 ≤ fuel → initAst fuel less a = some (some (GoHeap.init less a)) :=
  Got.Lemmas.HeapAst.initAst_refines less a hsz

theorem C20_translated_source_heap_Push_refines_model {α : Type} (less : α → α → Bool) (a : Array α) (x : α)
    (hsz : a.size + 1 < 2 ^ 62) :
    ∃ f0, ∀ fuel, f0 ≤ fuel → pushAst fuel less a x = some (some (GoHeap.push less a x)) :=
  Got.Lemmas.HeapAst.pushAst_refines less a x hsz

/-- `some none` = the panic of the empty heap, as `GoHeap.pop = none` -/
theorem C20_translated_source_heap_Pop_refines_model {α : Type} (less : α → α → Bool) (a : Array α) (hsz : a.size < 2 ^ 62) :
    ∃ f0, ∀ fuel, f0 ≤ fuel → popAst fuel less a = some (GoHeap.pop less a) :=
  Got.Lemmas.HeapAst.popAst_refines less a hsz

/-- for an index inside the heap only: outside it the Go code panics (in `h.Less`), `GoHeap.fix` returns the array
    unchanged, and nothing is claimed -/
theorem C20_translated_source_heap_Fix_refines_model {α : Type} (less : α → α → Bool) (a : Array α) (i : Nat)
    (hi : i < a.size) (hsz : a.size < 2 ^ 62) :
    ∃ f0, ∀ fuel, f0 ≤ fuel →
      h_Fix.run (heapWorld less) prog fuel [(i : Int)] none a = some (.done [] none (GoHeap.fix less a i)) :=
  Got.Lemmas.HeapAst.run_of_FnRuns rfl rfl rfl (by simp (disch := omega) only [List.map, Got.Lemmas.SortAst.wrap_eq])
    (Got.Lemmas.HeapAst.fix_runs prog Got.Lemmas.HeapAst.prog_down Got.Lemmas.HeapAst.prog_up less a i hi hsz)

/-- any `i`: an index outside the heap panics, as `GoHeap.remove = none` -/
theorem C20_translated_source_heap_Remove_refines_model {α : Type} (less : α → α → Bool) (a : Array α) (i : Nat)
    (hi : i < 2 ^ 62) (hsz : a.size < 2 ^ 62) :
    ∃ f0, ∀ fuel, f0 ≤ fuel →
      h_Remove.run (heapWorld less) prog fuel [(i : Int)] none a =
        some (match GoHeap.remove less a i with | some (x, b) => .done [] (some x) b | none => .panic) := by
  have e : List.map Got.Model.MiniGoSort.wrap [(i : Int)] = [(i : Int)] := by
    simp (disch := omega) only [List.map, Got.Lemmas.SortAst.wrap_eq]
  have h := Got.Lemmas.HeapAst.remove_runs prog Got.Lemmas.HeapAst.prog_down Got.Lemmas.HeapAst.prog_up less a i hi hsz
  refine Got.Lemmas.Evt.mono (run_of_Runs (fn := h_Remove) (args := [(i : Int)]) (x := none) rfl rfl (by rw [e]; exact h))
    fun f hr => ?_
  rw [hr]
  cases GoHeap.remove less a i <;> rfl

/-- headline property on the translated source: heap.Pop AS TRANSLATED, on a non-empty heap under a strict weak order,
    returns a minimal element, removes exactly it, and leaves a heap -/
theorem C20_translated_source_heap_Pop_min {α : Type} (less : α → α → Bool) (tp : TotalPreorder less) (a : Array α)
    (hh : IsHeap less a) (hne : 0 < a.size) (hsz : a.size < 2 ^ 62) :
    ∃ f0, ∀ fuel, f0 ≤ fuel → ∃ x b, popAst fuel less a = some (some (x, b)) ∧ IsHeap less b ∧
      (∀ y ∈ a.toList, less y x = false) ∧ (x :: b.toList).Perm a.toList := by
  obtain ⟨x, b, hp, h1, h2, h3⟩ := C20_heap_pop less tp a hh hne
  exact Got.Lemmas.Evt.mono (C20_translated_source_heap_Pop_refines_model less a hsz) fun fuel h =>
    ⟨x, b, by rw [h, hp], h1, h2, h3⟩

/-- headline property on the translated source: heap.Push AS TRANSLATED keeps the heap invariant and only adds `x` -/
theorem C20_translated_source_heap_Push_heap {α : Type} (less : α → α → Bool) (tp : TotalPreorder less) (a : Array α) (x : α)
    (hh : IsHeap less a) (hsz : a.size + 1 < 2 ^ 62) :
    ∃ f0, ∀ fuel, f0 ≤ fuel → ∃ b, pushAst fuel less a x = some (some b) ∧ IsHeap less b ∧ b.toList.Perm (x :: a.toList) :=
  Got.Lemmas.Evt.mono (C20_translated_source_heap_Push_refines_model less a x hsz)
    fun _ h => ⟨_, h, (C20_heap_push less tp a x hh).1, (C20_heap_push less tp a x hh).2⟩

/-- WeightedSampling over the INTERPRETED container/heap terms is the model `weightedSampling` (the loop glue is the
    hand-written transcription `loopAst`; Push and Pop are the generated terms) -/
theorem C20_translated_source_sampling_refines_model {κ : Type} (less gt : κ → κ → Bool) (sampleNum : Int) (keys : List κ)
    (hn : keys.length + 2 < 2 ^ 62) :
    ∃ f0, ∀ fuel, f0 ≤ fuel →
      weightedSamplingAst fuel less gt sampleNum keys = some (weightedSampling less gt sampleNum keys) := by
  refine Got.Lemmas.Evt.mono (Got.Lemmas.SampleAst.loopAst_refines less gt sampleNum.toNat keys #[] 0 (by simpa using hn))
    fun f h0 => ?_
  unfold weightedSamplingAst weightedSampling
  split
  · rfl
  · split
    · rfl
    · rw [h0]
      cases loop less gt sampleNum.toNat #[] 0 keys <;> rfl

/-- C20 validity for the loop over the translated heap source: `m` pairwise distinct valid indices, no panic -/
theorem C20_translated_source_valid {κ : Type} (less gt : κ → κ → Bool) (m : Nat) (keys : List κ) (h1 : 1 ≤ m)
    (h2 : m ≤ keys.length) (hn : keys.length + 2 < 2 ^ 62) :
    ∃ f0, ∀ fuel, f0 ≤ fuel → ∃ r, weightedSamplingAst fuel less gt (m : Int) keys = some (.ok r) ∧ r.length = m ∧ r.Nodup ∧
      (∀ x ∈ r, x < keys.length) := by
  obtain ⟨r, hr, p1, p2, p3, _⟩ := C20_valid less gt m keys h1 h2
  exact Got.Lemmas.Evt.mono (C20_translated_source_sampling_refines_model less gt (m : Int) keys hn) fun fuel h =>
    ⟨r, by rw [h, hr], p1, p2, p3⟩

/-- **Translator tie, the heap.Interface methods of randx.sampleHeap**: the world built from the descriptions of
    `(*sampleHeap).Len/Less/Swap/Push/Pop` regenerated from /repo/randx/sample.go on every run
    (Got/Generated/AstRandxSampleHeap.lean, semantics Got/Model/MiniGoIface.lean: bounds-checked indexing, parallel
    assignment, `append`, reslice) IS the slice-backed world `heapWorld (itemLess less)` — Less compares the `ki` fields
    in this argument order, Swap exchanges the two elements, Push appends, Pop removes and returns the last element —
    and `h.Get(0)` is `h[0]?`. -/
theorem C20_translated_source_sampleHeap_world {κ : Type} (less : κ → κ → Bool) :
    sampleWorld less = heapWorld (itemLess less) ∧
    ∀ h : Array (Item κ), Got.Model.MiniGoIface.getOf Got.Generated.AstRandxSampleHeap.sampleHeap h 0 = h[0]? :=
  ⟨Got.Lemmas.IfaceAst.sampleWorld_eq less, fun h => Got.Lemmas.IfaceAst.get_eq h 0⟩

/-- the hand-transcribed loop with container/heap from GOROOT interpreted over the interface methods from /repo is the model -/
theorem C20_translated_source_sampling_gen_refines_model {κ : Type} (less gt : κ → κ → Bool) (sampleNum : Int) (keys : List κ)
    (hn : keys.length + 2 < 2 ^ 62) :
    ∃ f0, ∀ fuel, f0 ≤ fuel →
      weightedSamplingGen fuel less gt sampleNum keys = some (weightedSampling less gt sampleNum keys) :=
  Got.Lemmas.Evt.mono (C20_translated_source_sampling_refines_model less gt sampleNum keys hn)
    fun fuel h => by rw [Got.Lemmas.IfaceAst.weightedSamplingGen_eq, h]

/-- The translator accepted the body of WeightedSampling (integer control flow as written; the float key computation,
    the heap calls and the result slice as the abstract statements of Got/Model/MiniGoSampleLoop.lean). -/
theorem C20_sampling_translation_in_fragment : Got.Generated.AstRandxSampling.weightedSamplingNote = "ok" := by decide

/-- **Translator tie, the whole function**: `weightedSamplingFull` runs the body of WeightedSampling as re-described from
    /repo/randx/sample.go on every run (argument check, `make`, the loop with `h.Len() < sampleNum`, `else if ki > h.Get(0).ki`,
    `h.Len() > sampleNum`, the read-out loop), its heap calls being container/heap's Push/Pop as translated from GOROOT, over
    the heap.Interface world built from the translated methods of sampleHeap.  For every Go `int` sampleNum and every key list
    (the float keys `log w − log(−log u)` are the inputs, in index order) it returns — for every sufficiently large fuel —
    exactly the model's result: the index slice or the same panic class.  The only hand-transcribed part of the function
    is "the three float lines compute the key of index i". -/
theorem C20_translated_source_weightedSampling_refines_model {κ : Type} (less gt : κ → κ → Bool) (sampleNum : Int) (keys : List κ)
    (hn : keys.length + 2 < 2 ^ 62) (hm : -9223372036854775808 ≤ sampleNum ∧ sampleNum < 9223372036854775808) :
    ∃ f0, ∀ fuel, f0 ≤ fuel →
      weightedSamplingFull fuel less gt sampleNum keys = some (weightedSampling less gt sampleNum keys) :=
  Got.Lemmas.SampleLoopAst.sampling_run_refines less gt (fun f => genOps f less) (Got.Lemmas.IfaceAst.genOps_spec less)
    sampleNum keys hn hm

/-- the driver (`drv_sample ast`) keeps the keys in an array for constant-time lookup; it computes the same function -/
theorem C20_translated_source_driver_run {κ : Type} (fuel : Nat) (less gt : κ → κ → Bool) (sampleNum : Int) (keys : List κ) :
    weightedSamplingFullA fuel less gt sampleNum keys.toArray = weightedSamplingFull fuel less gt sampleNum keys :=
  weightedSamplingFullA_eq fuel less gt sampleNum keys

/-- C20 TOP-m for the translated source: with a strict total order on pairwise distinct keys, the function AS TRANSLATED
    returns m distinct indices whose keys are all greater than every other key. -/
theorem C20_translated_source_top_m {κ : Type} (less gt : κ → κ → Bool) (st : StrictTotal less) (hgt : ∀ a b, gt a b = less b a)
    (m : Nat) (keys : List κ) (hnd : keys.Nodup) (h1 : 1 ≤ m) (h2 : m ≤ keys.length) (hn : keys.length + 2 < 2 ^ 62) :
    ∃ f0, ∀ fuel, f0 ≤ fuel → ∃ r, weightedSamplingFull fuel less gt (m : Int) keys = some (.ok r) ∧ r.length = m ∧ r.Nodup ∧
      ∀ j, j ∈ r → ∀ j', j' < keys.length → j' ∉ r →
        ∀ kj kj', keys[j]? = some kj → keys[j']? = some kj' → less kj' kj = true := by
  obtain ⟨r, hr, p1, p2, p3⟩ := C20_top_m less gt st hgt m keys hnd h1 h2
  exact Got.Lemmas.Evt.mono (C20_translated_source_weightedSampling_refines_model less gt (m : Int) keys hn (by omega))
    fun fuel h => ⟨r, by rw [h, hr], p1, p2, p3⟩

/-- non-vacuity of the hypotheses, instantiated: two keys, m = 1 -/
example : ∃ fuel, weightedSamplingFull fuel rankLess rankGt 1 [some 5, some 9] = some (weightedSampling rankLess rankGt 1 [some 5, some 9]) := by
  obtain ⟨f0, h⟩ := C20_translated_source_weightedSampling_refines_model rankLess rankGt 1 [some 5, some 9] (by decide) (by decide)
  exact ⟨f0, h f0 (Nat.le_refl _)⟩

example : popAst 50 (fun (x y : Nat) => decide (x < y)) #[0, 1, 5, 7, 3] = some (some (0, #[1, 3, 5, 7])) := by decide +kernel
example : pushAst 50 (fun (x y : Nat) => decide (x < y)) #[1, 3, 5, 7] 0 = some (some #[0, 1, 5, 7, 3]) := by decide +kernel
example : popAst 50 (fun (x y : Nat) => decide (x < y)) #[] = some none := by decide +kernel

end TranslatedSource
