import Got.Lemmas.SortUnique
import Got.Lemmas.SortAstAll
import Got.Lemmas.SortAstUnique
/-
C15 — sortx.SliceBy sorts keys and carries values along; UniqueInt / UniqueString collapse runs.

`SliceBy(keys, values, less)` (sortx/sort.go, the introsort copied into sortx/zfuncversion.go): for ANY less it terminates,
permutes the (key, value) pairs of the common prefix `n = min(len keys, len values)`, touches nothing beyond it, passes only
indices `< n` to less and the swapper, and makes O(n log n) comparisons; for the closure `keys[i] < keys[j]` over a strict weak
order the prefix ends sorted.  `Unique*` (sortx/unique.go) returns the input with every run of equal neighbours collapsed to
its first element.  Models: `Got.Model.Sort`, `Got.Model.SortUnique`.
-/
open Got.Model.Sort Got.Model.SortUnique
open Got.Lemmas.Sort (StrictWeak)

/-- `Unique*` never panics and returns the input with every run of equal adjacent elements collapsed to its
    first element, order kept (`collapseRuns`); the backing array keeps its length. -/
theorem C15_unique {α : Type} [DecidableEq α] (a : Array α) :
    ∃ r b, unique a = some (r, b) ∧ r.toList = collapseRuns a.toList ∧ b.size = a.size := by
  unfold unique
  by_cases h2 : a.size < 2
  · simp only [h2, if_true]
    refine ⟨a, a, rfl, ?_, rfl⟩
    rcases a with ⟨l⟩
    match l, h2 with
    | [], _ => rfl
    | [x], _ => simp [collapseRuns, collapseFrom]
    | _ :: _ :: _, h => simp at h; omega
  · simp only [h2, if_false]
    have h0 : a[0]? = some (a[0]'(by omega)) := Array.getElem?_eq_getElem (by omega)
    obtain ⟨j', a', h1, h3, h4, h5⟩ := Got.Lemmas.SortUnique.uniqueLoop_spec a.size 1 0 a (by omega) (by omega) rfl _ h0
    simp only [h1]
    have hle : j' + 1 ≤ a'.size := by omega
    simp only [hle, if_true]
    refine ⟨_, _, rfl, ?_, h3⟩
    rw [Array.toList_extract, List.extract_eq_take_drop]
    simp only [List.drop_zero, Nat.sub_zero]
    rw [h5]
    rcases a with ⟨l⟩
    match l, h2 with
    | x :: t, _ => simp [collapseRuns]

/-- `collapseRuns` is the library function `List.eraseReps` ("keep the first element of each run") -/
theorem C15_unique_spec_eraseReps {α : Type} [DecidableEq α] (l : List α) : collapseRuns l = l.eraseReps := by
  cases l with
  | nil => rfl
  | cons a t => simp [collapseRuns, List.eraseReps, List.eraseRepsBy, Got.Lemmas.SortUnique.eraseReps_loop]

/-- independent characterisation of `collapseRuns l`: no two neighbours of it are equal, and `l` is obtained back
    by repeating its k-th element `ns[k]+1 ≥ 1` times (so it is exactly the list of run heads of `l`). -/
theorem C15_unique_spec_runs {α : Type} [DecidableEq α] (l : List α) :
    Got.Lemmas.SortUnique.NoAdjEq (collapseRuns l) ∧
    ∃ ns : List Nat, ns.length = (collapseRuns l).length ∧
      l = (List.zipWith (fun n x => List.replicate (n + 1) x) ns (collapseRuns l)).flatten := by
  cases l with
  | nil => exact ⟨trivial, [], rfl, rfl⟩
  | cons x t =>
    refine ⟨Got.Lemmas.SortUnique.collapseFrom_noAdjEq x t, ?_⟩
    obtain ⟨ns, h1, h2⟩ := Got.Lemmas.SortUnique.collapseFrom_runs x t
    exact ⟨ns, by simpa [collapseRuns] using h1, h2⟩

/-- sorted (non-decreasing) input gives a strictly increasing result, for any antisymmetric `le` -/
theorem C15_unique_sorted_strict {α : Type} [DecidableEq α] (le : α → α → Prop)
    (antisymm : ∀ x y, le x y → le y x → x = y) (a : Array α) (hsorted : List.Pairwise le a.toList) :
    ∃ r b, unique a = some (r, b) ∧ List.Pairwise (fun x y => le x y ∧ x ≠ y) r.toList := by
  obtain ⟨r, b, h1, h2, _⟩ := C15_unique a
  exact ⟨r, b, h1, h2 ▸ (C15_unique_spec_runs a.toList).1.strict antisymm
    (hsorted.sublist (Got.Lemmas.SortUnique.collapseRuns_sublist _))⟩

/-- UniqueInt on a sorted []int: strictly increasing -/
theorem C15_unique_int_sorted (a : Array Int) (hsorted : List.Pairwise (· ≤ ·) a.toList) :
    ∃ r b, unique a = some (r, b) ∧ List.Pairwise (· < ·) r.toList := by
  obtain ⟨r, b, h1, h2⟩ := C15_unique_sorted_strict (· ≤ ·) (fun x y h1 h2 => Int.le_antisymm h1 h2) a hsorted
  exact ⟨r, b, h1, h2.imp (fun ⟨h, hne⟩ => by omega)⟩

/-- a non-empty input gives a non-empty result starting with the first element -/
theorem C15_unique_nonempty {α : Type} [DecidableEq α] (a : Array α) (h : a.size ≥ 1) :
    ∃ r b, unique a = some (r, b) ∧ r.size ≥ 1 ∧ r[0]? = a[0]? := by
  obtain ⟨r, b, h1, h2, _⟩ := C15_unique a
  refine ⟨r, b, h1, ?_⟩
  rcases a with ⟨l⟩
  cases l with
  | nil => simp at h
  | cons x t =>
    have : r.toList = x :: collapseFrom x t := h2
    rcases r with ⟨rl⟩
    simp only at this
    subst this
    simp

example : ∃ r b, unique #[1, 1, 2, 2, 2, 3, 1, 1] = some (r, b) ∧ r.toList = [1, 2, 3, 1] := by
  obtain ⟨r, b, h1, h2, _⟩ := C15_unique #[1, 1, 2, 2, 2, 3, 1, 1]
  exact ⟨r, b, h1, by rw [h2]; decide⟩
example : List.Pairwise (· ≤ ·) (#[(1 : Int), 1, 2, 5, 5]).toList := by decide

/-- For every less function — a function of the current contents, the whole call history and the two indices, so
    also inconsistent ones — `SliceBy(keys, values, less)` terminates (`sliceBy` is a total function) and, with
    `n = min(len keys, len values)`:
    * the (key, value) pairs at equal indices `< n` after the call are a permutation of the original ones,
    * both slices keep their length and everything at an index `≥ n` is untouched,
    * every index passed to `less` or to the swapper is `< n` (so neither `reflect.Swapper` nor an indexing
      less closure can panic). -/
theorem C15_perm_pairing_prefix {K V : Type} (less : LessFn K V) (keys : Array K) (vals : Array V) :
    let n := min keys.size vals.size
    let r := sliceBy less keys vals
    ((r.keys.toList.take n).zip (r.vals.toList.take n)).Perm ((keys.toList.take n).zip (vals.toList.take n)) ∧
    r.keys.size = keys.size ∧ r.vals.size = vals.size ∧
    (∀ k, n ≤ k → r.keys[k]? = keys[k]? ∧ r.vals[k]? = vals[k]?) ∧
    (∀ e ∈ r.log, match e with
      | .less i j _ => i < n ∧ j < n
      | .swap i j => i < n ∧ j < n) := by
  intro n r
  have st := Got.Lemmas.Sort.sliceBy_steps less keys vals
  have hsz := st.sizes
  have hperm := st.zip_perm (Nat.min_le_left _ _) (Nat.min_le_right _ _)
  refine ⟨?_, hsz.1, hsz.2, fun k hk => st.outside k (Or.inr hk), ?_⟩
  · have h1 := Array.perm_iff_toList_perm.1 hperm
    rw [Array.toList_zip, Array.toList_zip, List.zip_eq_zip_take_min,
      List.zip_eq_zip_take_min (l₁ := keys.toList)] at h1
    simp only [Array.length_toList] at h1
    rw [hsz.1, hsz.2] at h1
    exact h1
  · obtain ⟨evs, h1, h2⟩ := st.log
    intro e he
    have he' : e ∈ evs := by
      have : e ∈ evs ++ [] := by
        have h1' : (sliceBy less keys vals).log = evs ++ [] := h1
        rw [← h1']; exact he
      simpa using this
    have := h2 e he'
    cases e with
    | less i j b => exact ⟨this.2.1, this.2.2.2⟩
    | swap i j => exact ⟨this.2.1, this.2.2.2⟩

/-- the statement is not vacuous for an inconsistent less: "everything is less than everything" -/
example : ((sliceBy (fun _ _ _ => true) #[3, 1, 2] #["a", "b"]).keys.size = 3) :=
  (C15_perm_pairing_prefix (fun _ _ _ => true) #[3, 1, 2] #["a", "b"]).2.1

/-- insertionSort_func sorts the range `[a,b)` (any contents, any `a`, `b` within the key slice) -/
theorem C15_sorted_insertionSort {K V : Type} {lt : K → K → Bool} (sw : StrictWeak lt) (a b : Nat) (s : St K V)
    (hb : b ≤ s.keys.size) :
    ∀ i j x y, a ≤ i → i < j → j < b → (insertionSort (stdLess lt) a b s).keys[i]? = some x →
      (insertionSort (stdLess lt) a b s).keys[j]? = some y → lt y x = false :=
  Got.Lemmas.Sort.insertionSort_sorted sw a b s hb

/-- heapSort_func (the fallback when the depth limit is exhausted) sorts the range `[a,b)` -/
theorem C15_sorted_heapSort {K V : Type} {lt : K → K → Bool} (sw : StrictWeak lt) (a b : Nat) (s : St K V)
    (hab : a ≤ b) (hb : b ≤ s.keys.size) :
    ∀ i j x y, a ≤ i → i < j → j < b → (heapSort (stdLess lt) a b s).keys[i]? = some x →
      (heapSort (stdLess lt) a b s).keys[j]? = some y → lt y x = false :=
  Got.Lemmas.Sort.heapSort_sorted sw a b s hab hb

/-- `<` on Int is a strict weak order (non-vacuity of the hypothesis) -/
example : StrictWeak (fun (x y : Int) => decide (x < y)) := StrictWeak.int_lt

/-- doPivot_func on a range of at least 3 elements inside the key slice (it is only called with more than 12), with the
    standard closure over a strict weak order: `lo ≤ midlo < midhi ≤ hi`, and there is a pivot value `p` (found at
    `midlo`) such that `[lo,midlo)` is `≤ p`, `[midlo,midhi)` is equivalent to `p`, `[midhi,hi)` is `≥ p`. -/
theorem C15_doPivot_post {K V : Type} {lt : K → K → Bool} (sw : StrictWeak lt) (lo hi : Nat) (s : St K V)
    (h : lo + 3 ≤ hi) (hsz : hi ≤ s.keys.size) :
    let r := doPivot (stdLess lt) lo hi s
    lo ≤ r.1 ∧ r.1 < r.2.1 ∧ r.2.1 ≤ hi ∧
    ∃ p, r.2.2.keys[r.1]? = some p ∧
      (∀ k x, lo ≤ k → k < r.1 → r.2.2.keys[k]? = some x → lt p x = false) ∧
      (∀ k x, r.1 ≤ k → k < r.2.1 → r.2.2.keys[k]? = some x → lt p x = false ∧ lt x p = false) ∧
      (∀ k x, r.2.1 ≤ k → k < hi → r.2.2.keys[k]? = some x → lt x p = false) := by
  intro r
  obtain ⟨_, ⟨b1, _, _, b4⟩, _⟩ := Got.Lemmas.Sort.doPivot_run (stdLess lt) lo hi s h
  obtain ⟨p, hp, le, ge, hlt⟩ := Got.Lemmas.Sort.doPivot_sem sw lo hi s h hsz
  exact ⟨b1, hlt, b4, p, hp, le.mono (Nat.le_refl _) (Nat.le_of_lt hlt),
    fun k x h1 h2 hx => ⟨le k x (Nat.le_trans b1 h1) h2 hx, ge k x h1 (Nat.lt_of_lt_of_le h2 b4) hx⟩,
    ge.mono (Nat.le_of_lt hlt) (Nat.le_refl _)⟩

/-- After `SliceBy(keys, values, func(i,j) bool { return keys[i] < keys[j] })` with `<` a strict weak order, the first
    `min(len keys, len values)` keys are in non-decreasing order: no later key is less than an earlier one
    (all three paths: insertion sort, quicksort partitioning, heap-sort fallback). -/
theorem C15_sorted {K V : Type} {lt : K → K → Bool} (sw : StrictWeak lt) (keys : Array K) (vals : Array V) :
    let n := min keys.size vals.size
    let r := sliceBy (stdLess lt) keys vals
    ∀ i j x y, i < j → j < n → r.keys[i]? = some x → r.keys[j]? = some y → lt y x = false := by
  rw [Got.Lemmas.Sort.sliceBy_eq]
  exact fun i j x y =>
    Got.Lemmas.Sort.quickSort_sorted sw _ 0 _ ⟨keys, vals, []⟩ (Nat.min_le_left _ _) i j x y (Nat.zero_le _)

/-- `[]int` keys with `<` -/
theorem C15_sorted_int {V : Type} (keys : Array Int) (vals : Array V) :
    let n := min keys.size vals.size
    let r := sliceBy (stdLess (fun (x y : Int) => decide (x < y))) keys vals
    ∀ i j x y, i < j → j < n → r.keys[i]? = some x → r.keys[j]? = some y → x ≤ y := by
  intro n r i j x y h1 h2 hx hy
  have := C15_sorted StrictWeak.int_lt keys vals i j x y h1 h2 hx hy
  simpa using this

/-- Depth: SliceBy starts quickSort_func with the budget `maxDepth(n) = 2·k`, `k = ⌈lg(n+1)⌉` (the least `k` with
    `n+1 ≤ 2^k`); every partition step — loop iteration or nested call — consumes one unit, so the longest chain of
    partition steps (`quickSortLevels`, an instrumented copy computing the same state) is at most `2·⌈lg(n+1)⌉`.
    The O(n log n) bound on the NUMBER of comparisons is `C15_comparisons` below. -/
theorem C15_depth {K V : Type} (less : LessFn K V) (keys : Array K) (vals : Array V) :
    let n := min keys.size vals.size
    let s0 : St K V := ⟨keys, vals, []⟩
    ∃ k, maxDepth n = 2 * k ∧ n + 1 ≤ 2 ^ k ∧ (∀ k', n + 1 ≤ 2 ^ k' → k ≤ k') ∧
      (quickSortLevels less 0 n (maxDepth n) s0).1 = quickSort less 0 n (maxDepth n) s0 ∧
      (quickSortLevels less 0 n (maxDepth n) s0).2 ≤ 2 * k ∧
      (n > 1 → sliceBy less keys vals = quickSort less 0 n (maxDepth n) s0) := by
  intro n s0
  obtain ⟨k, h1, h2, h3⟩ := Got.Lemmas.Sort.maxDepth_spec n
  have h4 := Got.Lemmas.Sort.quickSortLevels_spec less (maxDepth n) 0 n s0
  exact ⟨k, h1, h2, h3, h4.1, by omega, fun _ => Got.Lemmas.Sort.sliceBy_eq less keys vals⟩

/-- a budget-0 call on a large range is the heap sort -/
theorem C15_depth_heapSort_at_zero {K V : Type} (less : LessFn K V) (a b : Nat) (s : St K V)
    (h : b - a > thrInsertion) : quickSort less a b 0 s = heapSort less a b s := by
  rw [quickSort, if_pos h]

/-- For EVERY less function (any function of contents, call history and indices — also inconsistent ones), the
    number of `less` calls made by `SliceBy(keys, values, less)` is at most `n·(9·L + 7) ≤ 9·n·(L + 1)` with
    `n = min(len keys, len values)` and `L = ⌈lg(n+1)⌉` (the least `L` with `n+1 ≤ 2^L`).
    Accounting (all per-function bounds are read off the model's log and hold for arbitrary less, because every
    loop of the Go code is bounded by its indices): one doPivot_func on `m > 12` elements ≤ `2m + 3 + K ≤ 3m` (pivot choice
    `K` = 12 for the ninther, `m > 40`, else 3; first scan + partition loop ≤ m, duplicate probes ≤ 3, protect loop ≤ m); at most `2L` partition levels
    over disjoint ranges; heapSort_func on `m` elements ≤ `(3m+2)·⌈lg(m+1)⌉ ≤ 3mL + 2m`; the tail on `m ≤ 12`
    elements ≤ `m(m-1)/2 + m ≤ 7m`.  (The check's oracle monitors the sharper `4·n·(lg n + 2)` for consistent
    orders; worst observed `3.36·n·(lg n + 2)`.) -/
theorem C15_comparisons {K V : Type} (less : LessFn K V) (keys : Array K) (vals : Array V) :
    let n := min keys.size vals.size
    ∃ L, n + 1 ≤ 2 ^ L ∧ (∀ k', n + 1 ≤ 2 ^ k' → L ≤ k') ∧
      lessCount (sliceBy less keys vals).log ≤ n * (9 * L + 7) ∧
      lessCount (sliceBy less keys vals).log ≤ 9 * n * (L + 1) := by
  intro n
  obtain ⟨L, h1, h2, h3⟩ := Got.Lemmas.Sort.maxDepth_spec n
  -- `quickSort_run` with the budget `maxDepth n = 2·L`: `3·(2·L) + 3·L + 7`
  have hc : lessCount (sliceBy less keys vals).log ≤ n * (9 * L + 7) := by
    have := (Got.Lemmas.Sort.quickSort_run less 0 n (maxDepth n) ⟨keys, vals, []⟩).2 L (by omega)
    rw [← Got.Lemmas.Sort.sliceBy_eq less keys vals, show 3 * maxDepth n + 3 * L + 7 = 9 * L + 7 by omega] at this
    simpa [Got.Lemmas.Sort.cnt, lessCount] using this
  refine ⟨L, h2, h3, hc, Nat.le_trans hc ?_⟩
  have e : 9 * n * (L + 1) = n * (9 * L + 9) := by
    rw [Nat.mul_comm 9 n, Nat.mul_assoc, Nat.mul_add 9 L 1]
  rw [e]
  exact Nat.mul_le_mul_left _ (by omega)

/-- two per-function bounds of that accounting, on `lessCount`, for any less: doPivot_func on a range of `m ≥ 3` elements makes
    at most `2m + 3 + 12` Less calls, heapSort_func on `m < 2^k` elements at most `(3m+2)·k`. -/
theorem C15_comparisons_doPivot_heapSort {K V : Type} (less : LessFn K V) (a b k : Nat) (s : St K V) :
    (a + 3 ≤ b → lessCount (doPivot less a b s).2.2.log ≤ lessCount s.log + 2 * (b - a) + 15) ∧
    (b - a < 2 ^ k → lessCount (heapSort less a b s).log ≤ lessCount s.log + (3 * (b - a) + 2) * k) := by
  constructor
  · intro h
    have := (Got.Lemmas.Sort.doPivot_run less a b s h).1.count
    unfold Got.Lemmas.Sort.cnt at this
    split at this <;> omega
  · intro h
    exact Got.Lemmas.Sort.heapSort_cost less a b k s h

/- The translated source.  `Got/Generated/AstSortxSort.lean` holds the MiniGoSort terms (deep embedding
`Got/Model/MiniGoSort.lean`) that tools/srcfacts/minigo_sort.go regenerates on EVERY run from /repo/sortx/zfuncversion.go
(insertionSort_func, siftDown_func, heapSort_func, medianOfThree_func, doPivot_func, quickSort_func) and /repo/sortx/sort.go
(maxDepth), so the theorems below are re-checked against what the code says now.
`F.run (sortWorld less) prog fuel args s` interprets the generated term `F` (calls resolved in the generated program `prog`)
with `data.Less`/`data.Swap` acting on the model state `s : St K V` exactly like the model (same log);
`some (results, s')` = it terminated within `fuel`.
"refines_model": for every fuel above some bound the interpretation returns exactly the model function's final state —
both slices AND the complete Less/Swap log — so every C15 theorem about the model function is a theorem about the
translated source.  Index hypotheses `< 2^62`: indices are within slice lengths, and slice lengths below 2^62 are an
assumption of the development — 2^62 rather than 2^63 so that `lo+hi`, `2*root+1`, `first+child+1` stay below 2^63 and the
embedding's 64-bit `wrap` is the identity on them.
`sliceByAst` = SliceBy with maxDepth and quickSort_func interpreted, the glue (`min` of the lengths, `length <= 1` guard)
transcribed by hand (Got/Model/SortAstWorld.lean); the driver mode `drv_sort ast` prints it for every case of the
correspondence. -/
section TranslatedSource
open Got.Model.MiniGoSort Got.Model.SortAst
open Got.Lemmas.SortAst (run_of_FnRuns_nat forall_lt_cons callees)

/-- The translator accepted all seven functions: every construct of their current source is inside the MiniGoSort
    fragment (otherwise the generated body is empty and the note names the construct). -/
theorem C15_translation_in_fragment :
    Got.Generated.AstSortxSort.notes = ["ok", "ok", "ok", "ok", "ok", "ok", "ok"] := by decide

/-- **Translator tie, medianOfThree_func**: the translated source computes the model's `medianOfThree`. -/
theorem C15_translated_source_medianOfThree_refines_model {K V : Type} (less : LessFn K V) (m1 m0 m2 : Nat)
    (h1 : m1 < 2 ^ 62) (h0 : m0 < 2 ^ 62) (h2 : m2 < 2 ^ 62) (s : St K V) :
    ∃ f0, ∀ fuel, f0 ≤ fuel →
      Got.Generated.AstSortxSort.medianOfThree_func.run (sortWorld less) Got.Generated.AstSortxSort.prog fuel
        [(m1 : Int), (m0 : Int), (m2 : Int)] s = some ([], medianOfThree less m1 m0 m2 s) :=
  run_of_FnRuns_nat (ns := [m1, m0, m2]) (vs := []) rfl rfl
    (forall_lt_cons h1 (forall_lt_cons h0 (forall_lt_cons h2 nofun)))
    (Got.Lemmas.SortAst.medianOfThree_runs _ less m1 m0 m2 h1 h0 h2 s)

example : (Got.Generated.AstSortxSort.medianOfThree_func.run (sortWorld (stdLess (fun (x y : Int) => decide (x < y))))
    Got.Generated.AstSortxSort.prog 20 [0, 1, 2] ({ keys := #[5, 3, 1], vals := #["a", "b", "c"], log := [] } : St Int String)).map
      (fun r => (r.2.keys, r.2.vals)) = some (#[3, 1, 5], #["b", "c", "a"]) := by decide

/-- **Translator tie, maxDepth**: the translated source returns the model's `maxDepth n` (and touches nothing), in any world. -/
theorem C15_translated_source_maxDepth_refines_model {σ : Type} (W : World σ) (n : Nat) (hn : n < 2 ^ 62) (w : σ) :
    ∃ f0, ∀ fuel, f0 ≤ fuel →
      Got.Generated.AstSortxSort.maxDepth.run W Got.Generated.AstSortxSort.prog fuel [(n : Int)] w =
        some ([((maxDepth n : Nat) : Int)], w) :=
  run_of_FnRuns_nat (ns := [n]) rfl rfl
    (forall_lt_cons hn nofun)
    (Got.Lemmas.SortAst.maxDepth_runs W _ n hn w)

/-- **Translator tie, insertionSort_func** (two nested `for` loops, `j > a && data.Less(j, j-1)`). -/
theorem C15_translated_source_insertionSort_refines_model {K V : Type} (less : LessFn K V) (a b : Nat)
    (ha : a < 2 ^ 62) (hb : b < 2 ^ 62) (s : St K V) :
    ∃ f0, ∀ fuel, f0 ≤ fuel →
      Got.Generated.AstSortxSort.insertionSort_func.run (sortWorld less) Got.Generated.AstSortxSort.prog fuel
        [(a : Int), (b : Int)] s = some ([], insertionSort less a b s) :=
  run_of_FnRuns_nat (ns := [a, b]) (vs := []) rfl rfl
    (forall_lt_cons ha (forall_lt_cons hb nofun))
    (Got.Lemmas.SortAst.insertionSort_runs _ less a b ha hb s)

/-- **Translator tie, siftDown_func** (`for { … break … return … }`). -/
theorem C15_translated_source_siftDown_refines_model {K V : Type} (less : LessFn K V) (lo hi first : Nat)
    (hlo : lo < 2 ^ 62) (hhi : hi < 2 ^ 62) (hf : first + hi < 2 ^ 62) (s : St K V) :
    ∃ f0, ∀ fuel, f0 ≤ fuel →
      Got.Generated.AstSortxSort.siftDown_func.run (sortWorld less) Got.Generated.AstSortxSort.prog fuel
        [(lo : Int), (hi : Int), (first : Int)] s = some ([], siftDown less hi first lo s) :=
  run_of_FnRuns_nat (ns := [lo, hi, first]) (vs := []) rfl rfl
    (forall_lt_cons hlo (forall_lt_cons hhi (forall_lt_cons (Nat.lt_of_le_of_lt (Nat.le_add_right first hi) hf) nofun)))
    (Got.Lemmas.SortAst.siftDown_runs _ less lo hi first hlo hf s)

/-- **Translator tie, heapSort_func** (truncated `(hi-1)/2`, two descending loops, calls of siftDown_func resolved in the
    generated program). -/
theorem C15_translated_source_heapSort_refines_model {K V : Type} (less : LessFn K V) (a b : Nat)
    (hab : a ≤ b) (hb : b < 2 ^ 62) (s : St K V) :
    ∃ f0, ∀ fuel, f0 ≤ fuel →
      Got.Generated.AstSortxSort.heapSort_func.run (sortWorld less) Got.Generated.AstSortxSort.prog fuel
        [(a : Int), (b : Int)] s = some ([], heapSort less a b s) :=
  run_of_FnRuns_nat (ns := [a, b]) (vs := []) rfl rfl
    (forall_lt_cons (Nat.lt_of_le_of_lt hab hb) (forall_lt_cons hb nofun))
    ((callees less).heap a b s hab hb)

/-- headline property on the translated source: insertionSort_func as translated sorts the range -/
theorem C15_translated_source_insertionSort_sorted {K V : Type} {lt : K → K → Bool} (sw : StrictWeak lt) (a b : Nat)
    (s : St K V) (ha : a < 2 ^ 62) (hb : b ≤ s.keys.size) (hb62 : b < 2 ^ 62) :
    ∃ f0, ∀ fuel, f0 ≤ fuel → ∃ s',
      Got.Generated.AstSortxSort.insertionSort_func.run (sortWorld (stdLess lt)) Got.Generated.AstSortxSort.prog fuel
        [(a : Int), (b : Int)] s = some ([], s') ∧
      ∀ i j x y, a ≤ i → i < j → j < b → s'.keys[i]? = some x → s'.keys[j]? = some y → lt y x = false :=
  Got.Lemmas.Evt.mono (C15_translated_source_insertionSort_refines_model (stdLess lt) a b ha hb62 s) fun _ h =>
    ⟨_, h, C15_sorted_insertionSort sw a b s hb⟩

/-- headline property on the translated source: heapSort_func as translated sorts the range -/
theorem C15_translated_source_heapSort_sorted {K V : Type} {lt : K → K → Bool} (sw : StrictWeak lt) (a b : Nat)
    (s : St K V) (hab : a ≤ b) (hb : b ≤ s.keys.size) (hb62 : b < 2 ^ 62) :
    ∃ f0, ∀ fuel, f0 ≤ fuel → ∃ s',
      Got.Generated.AstSortxSort.heapSort_func.run (sortWorld (stdLess lt)) Got.Generated.AstSortxSort.prog fuel
        [(a : Int), (b : Int)] s = some ([], s') ∧
      ∀ i j x y, a ≤ i → i < j → j < b → s'.keys[i]? = some x → s'.keys[j]? = some y → lt y x = false :=
  Got.Lemmas.Evt.mono (C15_translated_source_heapSort_refines_model (stdLess lt) a b hab hb62 s) fun _ h =>
    ⟨_, h, C15_sorted_heapSort sw a b s hab hb⟩

section
open Got.Generated.AstSortxSort
/-- non-vacuity of the hypotheses: `<` on Int, a 5-element state, the whole range -/
example : ∃ f0, ∀ f, f0 ≤ f → ∃ s', heapSort_func.run (sortWorld (stdLess (fun (x y : Int) => decide (x < y)))) prog f
    [((0 : Nat) : Int), ((5 : Nat) : Int)]
    ({ keys := #[5, 3, 9, 1, 3], vals := #["a", "b", "c", "d", "e"], log := [] } : St Int String) = some ([], s') ∧
    ∀ i j x y, 0 ≤ i → i < j → j < 5 → s'.keys[i]? = some x → s'.keys[j]? = some y →
      (fun (x y : Int) => decide (x < y)) y x = false :=
  C15_translated_source_heapSort_sorted StrictWeak.int_lt 0 5 _ (by decide) (by decide) (by decide)
end

/-- headline property on the translated source, ANY less: heapSort_func as translated permutes the (key, value) pairs,
    keeps lengths, touches nothing outside `[a,b)` and passes only indices of `[a,b)` to Less/Swap -/
theorem C15_translated_source_heapSort_perm_pairing {K V : Type} (less : LessFn K V) (a b : Nat) (s : St K V)
    (hab : a ≤ b) (hbk : b ≤ s.keys.size) (hbv : b ≤ s.vals.size) (hb62 : b < 2 ^ 62) :
    ∃ f0, ∀ fuel, f0 ≤ fuel → ∃ s',
      Got.Generated.AstSortxSort.heapSort_func.run (sortWorld less) Got.Generated.AstSortxSort.prog fuel
        [(a : Int), (b : Int)] s = some ([], s') ∧
      (s'.keys.zip s'.vals).Perm (s.keys.zip s.vals) ∧
      s'.keys.size = s.keys.size ∧ s'.vals.size = s.vals.size ∧
      (∀ k, k < a ∨ b ≤ k → s'.keys[k]? = s.keys[k]? ∧ s'.vals[k]? = s.vals[k]?) ∧
      ∃ evs, s'.log = evs ++ s.log ∧ ∀ e ∈ evs, match e with
        | .less i j _ => a ≤ i ∧ i < b ∧ a ≤ j ∧ j < b
        | .swap i j => a ≤ i ∧ i < b ∧ a ≤ j ∧ j < b :=
  Got.Lemmas.Evt.mono (C15_translated_source_heapSort_refines_model less a b hab hb62 s) fun _ h =>
    ⟨_, h, (Got.Lemmas.Sort.heapSort_steps less a b s hab).summary hbk hbv⟩

example : (Got.Generated.AstSortxSort.insertionSort_func.run (sortWorld (stdLess (fun (x y : Int) => decide (x < y))))
    Got.Generated.AstSortxSort.prog 50 [0, 4] ({ keys := #[5, 3, 9, 1], vals := #[0, 1, 2, 3], log := [] } : St Int Nat)).map
      (fun r => (r.2.keys, r.2.vals)) = some (#[1, 3, 5, 9], #[3, 1, 0, 2]) := by decide

example : (sliceByAst 200 (stdLess (fun (x y : Int) => decide (x < y))) #[5, 3, 9, 1, 4] #["a", "b", "c", "d"]).map
    (fun r => (r.keys, r.vals, lessCount r.log)) = some (#[1, 3, 5, 9, 4], #["d", "b", "a", "c"], 5) := by decide

/-- **Translator tie, doPivot_func** (ninther / median-of-three pivot choice through calls of medianOfThree_func,
    `int(uint(lo+hi)>>1)`, the four scan loops, the two `for { … break … }` loops, the bool local `protect`, the three
    duplicate probes, two results): the translated source returns the model's `(midlo, midhi)` and final state. -/
theorem C15_translated_source_doPivot_refines_model {K V : Type} (less : LessFn K V) (lo hi : Nat)
    (h : lo + 3 ≤ hi) (hhi : hi < 2 ^ 62) (s : St K V) :
    ∃ f0, ∀ fuel, f0 ≤ fuel →
      Got.Generated.AstSortxSort.doPivot_func.run (sortWorld less) Got.Generated.AstSortxSort.prog fuel
        [(lo : Int), (hi : Int)] s =
      some ([(((doPivot less lo hi s).1 : Nat) : Int), (((doPivot less lo hi s).2.1 : Nat) : Int)], (doPivot less lo hi s).2.2) :=
  Got.Lemmas.SortAst.doPivot_translated less lo hi h hhi s

/-- `C15_doPivot_post` for the translated source: with the standard closure over a strict weak order the
    translated doPivot_func returns `lo ≤ midlo < midhi ≤ hi` and leaves `[lo,midlo) ≤ p`, `[midlo,midhi) ~ p`,
    `[midhi,hi) ≥ p` for the pivot value `p` found at `midlo`. -/
theorem C15_translated_source_doPivot_post {K V : Type} {lt : K → K → Bool} (sw : StrictWeak lt) (lo hi : Nat) (s : St K V)
    (h : lo + 3 ≤ hi) (hsz : hi ≤ s.keys.size) (hhi : hi < 2 ^ 62) :
    ∃ f0, ∀ fuel, f0 ≤ fuel → ∃ (mlo mhi : Nat) (s' : St K V),
      Got.Generated.AstSortxSort.doPivot_func.run (sortWorld (stdLess lt)) Got.Generated.AstSortxSort.prog fuel
        [(lo : Int), (hi : Int)] s = some ([(mlo : Int), (mhi : Int)], s') ∧
      lo ≤ mlo ∧ mlo < mhi ∧ mhi ≤ hi ∧
      ∃ p, s'.keys[mlo]? = some p ∧
        (∀ k x, lo ≤ k → k < mlo → s'.keys[k]? = some x → lt p x = false) ∧
        (∀ k x, mlo ≤ k → k < mhi → s'.keys[k]? = some x → lt p x = false ∧ lt x p = false) ∧
        (∀ k x, mhi ≤ k → k < hi → s'.keys[k]? = some x → lt x p = false) :=
  Got.Lemmas.Evt.mono (C15_translated_source_doPivot_refines_model (stdLess lt) lo hi h hhi s) fun _ hrun =>
    ⟨_, _, _, hrun, C15_doPivot_post sw lo hi s h hsz⟩

/-- **Translator tie, quickSort_func** (loop `for b-a > 12`, depth budget, heapSort_func fallback, doPivot_func, recursion on
    the smaller side, where the function calls itself through the generated program, gap pass and insertionSort_func tail). -/
theorem C15_translated_source_quickSort_refines_model {K V : Type} (less : LessFn K V)
    (a b d : Nat) (hab : a ≤ b) (hb : b < 2 ^ 62) (hd : d < 2 ^ 62) (s : St K V) :
    ∃ f0, ∀ fuel, f0 ≤ fuel →
      Got.Generated.AstSortxSort.quickSort_func.run (sortWorld less) Got.Generated.AstSortxSort.prog fuel
        [(a : Int), (b : Int), (d : Int)] s = some ([], quickSort less a b d s) :=
  run_of_FnRuns_nat (ns := [a, b, d]) (vs := []) rfl rfl
    (forall_lt_cons (Nat.lt_of_le_of_lt hab hb) (forall_lt_cons hb (forall_lt_cons hd nofun)))
    (Got.Lemmas.SortAst.quickSort_runs _ less (callees less) a b d hab hb hd s)

/-- **Translator tie, whole call**: SliceBy with the translated maxDepth and quickSort_func interpreted (and through their
    calls all seven translated functions) is the model's `sliceBy` — final slices and the complete Less/Swap log —
    whenever `min(len keys, len values) < 2^62`.  Hence every C15 theorem about `sliceBy` is a theorem about the
    translated source; three of them are restated below. -/
theorem C15_translated_source_sliceBy_refines_model {K V : Type} (less : LessFn K V) (keys : Array K) (vals : Array V)
    (hn : min keys.size vals.size < 2 ^ 62) :
    ∃ f0, ∀ fuel, f0 ≤ fuel → sliceByAst fuel less keys vals = some (sliceBy less keys vals) := by
  unfold sliceByAst sliceBy
  by_cases h1 : min keys.size vals.size ≤ 1
  · exact ⟨0, fun fuel _ => by simp only [h1, if_true]⟩
  · have e1 := C15_translated_source_maxDepth_refines_model (sortWorld less) _ hn (⟨keys, vals, []⟩ : St K V)
    have e2 := C15_translated_source_quickSort_refines_model less 0 _ _ (Nat.zero_le _) hn
      (Got.Lemmas.SortAst.maxDepth_small _ hn) (⟨keys, vals, []⟩ : St K V)
    exact Got.Lemmas.Evt.mono (Got.Lemmas.Evt.and e1 e2) fun fuel ⟨e1, e2⟩ => by
      simp only [h1, if_false]
      rw [e1]
      simp only
      rw [Int.ofNat_zero] at e2
      rw [e2]

/-- `C15_perm_pairing_prefix` for the translated source, ANY less function: it terminates, permutes the (key, value) pairs of the common
    prefix, keeps lengths and everything beyond the prefix, and passes only indices `< n` to less and to the swapper. -/
theorem C15_translated_source_perm_pairing_prefix {K V : Type} (less : LessFn K V) (keys : Array K) (vals : Array V)
    (hn : min keys.size vals.size < 2 ^ 62) :
    ∃ f0, ∀ fuel, f0 ≤ fuel → ∃ r, sliceByAst fuel less keys vals = some r ∧
      let n := min keys.size vals.size
      ((r.keys.toList.take n).zip (r.vals.toList.take n)).Perm ((keys.toList.take n).zip (vals.toList.take n)) ∧
      r.keys.size = keys.size ∧ r.vals.size = vals.size ∧
      (∀ k, n ≤ k → r.keys[k]? = keys[k]? ∧ r.vals[k]? = vals[k]?) ∧
      (∀ e ∈ r.log, match e with
        | .less i j _ => i < n ∧ j < n
        | .swap i j => i < n ∧ j < n) := by
  exact Got.Lemmas.Evt.mono (C15_translated_source_sliceBy_refines_model less keys vals hn)
    fun fuel h => ⟨_, h, C15_perm_pairing_prefix less keys vals⟩

/-- `C15_sorted` for the translated source: with `keys[i] < keys[j]` over a strict weak order the common prefix ends sorted. -/
theorem C15_translated_source_sorted {K V : Type} {lt : K → K → Bool} (sw : StrictWeak lt) (keys : Array K) (vals : Array V)
    (hn : min keys.size vals.size < 2 ^ 62) :
    ∃ f0, ∀ fuel, f0 ≤ fuel → ∃ r, sliceByAst fuel (stdLess lt) keys vals = some r ∧
      ∀ i j x y, i < j → j < min keys.size vals.size → r.keys[i]? = some x → r.keys[j]? = some y → lt y x = false := by
  exact Got.Lemmas.Evt.mono (C15_translated_source_sliceBy_refines_model (stdLess lt) keys vals hn)
    fun fuel h => ⟨_, h, C15_sorted sw keys vals⟩

/-- number of comparisons for the translated source, ANY less: at most `9·n·(⌈lg(n+1)⌉ + 1)` calls of `data.Less`. -/
theorem C15_translated_source_comparisons {K V : Type} (less : LessFn K V) (keys : Array K) (vals : Array V)
    (hn : min keys.size vals.size < 2 ^ 62) :
    ∃ f0, ∀ fuel, f0 ≤ fuel → ∃ r, sliceByAst fuel less keys vals = some r ∧
      ∃ L, min keys.size vals.size + 1 ≤ 2 ^ L ∧ (∀ k', min keys.size vals.size + 1 ≤ 2 ^ k' → L ≤ k') ∧
        lessCount r.log ≤ 9 * min keys.size vals.size * (L + 1) := by
  obtain ⟨L, h1, h2, _, h4⟩ := C15_comparisons less keys vals
  exact Got.Lemmas.Evt.mono (C15_translated_source_sliceBy_refines_model less keys vals hn)
    fun fuel h => ⟨_, h, L, h1, h2, h4⟩

/-- non-vacuity of the hypotheses: a 14-element call (large enough for doPivot_func and the recursion) -/
example : ∃ fuel, sliceByAst fuel (stdLess (fun (x y : Int) => decide (x < y)))
    #[14, 13, 12, 11, 10, 9, 8, 7, 6, 5, 4, 3, 2, 1] #[0, 1, 2, 3, 4, 5, 6, 7, 8, 9, 10, 11, 12, 13] =
    some (sliceBy (stdLess (fun (x y : Int) => decide (x < y)))
      #[14, 13, 12, 11, 10, 9, 8, 7, 6, 5, 4, 3, 2, 1] #[0, 1, 2, 3, 4, 5, 6, 7, 8, 9, 10, 11, 12, 13]) := by
  obtain ⟨f0, h⟩ := C15_translated_source_sliceBy_refines_model (stdLess (fun (x y : Int) => decide (x < y)))
    #[14, 13, 12, 11, 10, 9, 8, 7, 6, 5, 4, 3, 2, 1] #[0, 1, 2, 3, 4, 5, 6, 7, 8, 9, 10, 11, 12, 13] (by decide)
  exact ⟨f0, h f0 (Nat.le_refl _)⟩

/- `Got/Generated/AstSortxUnique.lean` holds the MiniGoSlice terms (Got/Model/MiniGoSlice.lean: one slice with Go's index and
reslice run-time checks, int locals) regenerated from /repo/sortx/unique.go on every run.  `F.run fuel a` =
`some (some (returned slice, backing array))`, `some none` = panic, `none` = out of fuel. -/

/-- The translator accepted both functions. -/
theorem C15_unique_translation_in_fragment : Got.Generated.AstSortxUnique.notes = ["ok", "ok"] := by decide

/-- **Translator tie, UniqueInt**: interpreting the translated source — bounds-checked `a[i] != a[j]`, `a[j+1] = a[i]`,
    `a = a[:j+1]` — returns exactly the model's `unique a` (returned slice and backing array, no panic), for every
    slice of fewer than 2^62 elements of any type with decidable equality. -/
theorem C15_translated_source_uniqueInt_refines_model {α : Type} [DecidableEq α] (a : Array α) (hsz : a.size < 2 ^ 62) :
    ∃ f0, ∀ fuel, f0 ≤ fuel → Got.Generated.AstSortxUnique.uniqueInt.run fuel a = some (unique a) :=
  Got.Lemmas.SortAstUnique.unique_refines _ Got.Lemmas.SortAstUnique.uniqueInt_body a hsz

/-- **Translator tie, UniqueString** (same body, re-translated separately). -/
theorem C15_translated_source_uniqueString_refines_model {α : Type} [DecidableEq α] (a : Array α) (hsz : a.size < 2 ^ 62) :
    ∃ f0, ∀ fuel, f0 ≤ fuel → Got.Generated.AstSortxUnique.uniqueString.run fuel a = some (unique a) :=
  Got.Lemmas.SortAstUnique.unique_refines _ Got.Lemmas.SortAstUnique.uniqueString_body a hsz

/-- `C15_unique` for the translated source: UniqueInt and UniqueString as translated never panic and both return the input
    with every run of equal adjacent elements collapsed to its first element; the backing array keeps its length. -/
theorem C15_translated_source_unique {α : Type} [DecidableEq α] (a : Array α) (hsz : a.size < 2 ^ 62) :
    ∃ f0, ∀ fuel, f0 ≤ fuel → ∃ r b,
      Got.Generated.AstSortxUnique.uniqueInt.run fuel a = some (some (r, b)) ∧
      Got.Generated.AstSortxUnique.uniqueString.run fuel a = some (some (r, b)) ∧
      r.toList = collapseRuns a.toList ∧ b.size = a.size := by
  obtain ⟨r, b, hu, hr, hb⟩ := C15_unique a
  exact Got.Lemmas.Evt.mono (Got.Lemmas.Evt.and (C15_translated_source_uniqueInt_refines_model a hsz)
    (C15_translated_source_uniqueString_refines_model a hsz)) fun fuel ⟨h1, h2⟩ =>
      ⟨r, b, h1.trans (congrArg some hu), h2.trans (congrArg some hu), hr, hb⟩

example : Got.Generated.AstSortxUnique.uniqueInt.run 20 (#[1, 1, 2] : Array Nat) = some (some (#[1, 2], #[1, 2, 2])) := by
  decide

end TranslatedSource
