import Got.Lemmas.SearchAst
/-
C14 — sortx.Search returns the first match or the complement of the insertion point.

`search` is the model of the Go function (Got/Model/Search.lean); it returns the result together with the log of every
predicate evaluation.

`C14_Consistent n less equal b` is "the list is sorted consistently with the predicates": `less` holds exactly
on the prefix `[0,b)` (so `b` is the insertion point), and an element equal to the target is never in the
less-prefix and everything between the insertion point and it is equal too.
-/
open Got.Model.Search Got.Lemmas.Search Got.Lemmas.SearchAst

def C14_Consistent (n : Int) (less equal : Int → Bool) (b : Int) : Prop :=
  0 ≤ b ∧ b ≤ n ∧
  (∀ k, 0 ≤ k → k < n → (less k = true ↔ k < b)) ∧
  (∀ k, 0 ≤ k → k < n → equal k = true → b ≤ k ∧ ∀ j, b ≤ j → j ≤ k → equal j = true)

/-- Termination for ARBITRARY predicates (even inconsistent ones): the Go loop `for i+1 != j` always exits. -/
theorem C14_terminates (n : Int) (less equal : Int → Bool) : (search n less equal).isSome = true := by
  by_cases hn : 0 < n
  · obtain ⟨j, lg, -, -, h⟩ := search_eq less equal hn
    rw [h]; rfl
  · simp [search, Int.not_lt.mp hn]

/-- An empty (or negative-length) list gives -1. -/
theorem C14_empty (n : Int) (less equal : Int → Bool) (h : n ≤ 0) : search n less equal = some (-1, []) := by
  simp [search, h]

/-- Main result: on a consistent (sorted) input the answer is the insertion point `b` itself when the
    element there equals the target, and the bitwise complement `^b = -b-1` otherwise. -/
theorem C14_result (n : Int) (less equal : Int → Bool) (b : Int) (hn : 0 < n)
    (hc : C14_Consistent n less equal b) (r : Int) (log : List Probe)
    (hs : search n less equal = some (r, log)) :
    (b < n ∧ equal b = true → r = b) ∧ (¬ (b < n ∧ equal b = true) → r = -b - 1) := by
  obtain ⟨hb0, hbn, hless, _⟩ := hc
  obtain ⟨j, lg, hp, -, h⟩ := search_eq less equal hn
  obtain rfl : j = b := hp.result (fun k h1 h2 => hless k (by omega) h2) (by omega) hbn
  rw [h] at hs
  cases hs
  split
  · next hm => exact ⟨fun _ => rfl, fun h => absurd hm h⟩
  · next hm => exact ⟨fun h => absurd h hm, fun _ => rfl⟩

/-- If some element equals the target, the result is the index of the FIRST such element. -/
theorem C14_first_match (n : Int) (less equal : Int → Bool) (b : Int) (hn : 0 < n)
    (hc : C14_Consistent n less equal b) (r : Int) (log : List Probe)
    (hs : search n less equal = some (r, log))
    (k : Int) (hk0 : 0 ≤ k) (hkn : k < n) (hek : equal k = true) :
    0 ≤ r ∧ r ≤ k ∧ equal r = true ∧ ∀ m, 0 ≤ m → m < r → equal m = false := by
  have hres := C14_result n less equal b hn hc r log hs
  obtain ⟨hb0, hbn, hless, heq⟩ := hc
  have hm := (match_iff hb0 heq).1 ⟨k, hk0, hkn, hek⟩
  obtain rfl := hres.1 hm
  refine ⟨hb0, (heq k hk0 hkn hek).1, hm.2, fun m hm0 hmr => ?_⟩
  cases hem : equal m with
  | false => rfl
  | true => have := (heq m hm0 (by omega) hem).1; omega

/-- The result is negative exactly when no element equals the target, and then it is the complement of the
    insertion point (inserting at `^r = -r-1` keeps the list sorted: everything before is less, nothing after is). -/
theorem C14_absent (n : Int) (less equal : Int → Bool) (b : Int) (hn : 0 < n)
    (hc : C14_Consistent n less equal b) (r : Int) (log : List Probe)
    (hs : search n less equal = some (r, log)) :
    (r < 0 ↔ ∀ k, 0 ≤ k → k < n → equal k = false) ∧ (r < 0 → -r - 1 = b) := by
  have hres := C14_result n less equal b hn hc r log hs
  obtain ⟨hb0, hbn, hless, heq⟩ := hc
  by_cases hm : b < n ∧ equal b = true
  · have hr := hres.1 hm
    exact ⟨⟨fun h => by omega, fun h => by have := h b hb0 hm.1; simp [hm.2] at this⟩, fun h => by omega⟩
  · have hr := hres.2 hm
    refine ⟨⟨fun _ k hk0 hkn => ?_, fun _ => by omega⟩, fun _ => by omega⟩
    cases hk : equal k with
    | false => rfl
    | true => exact absurd ((match_iff hb0 heq).1 ⟨k, hk0, hkn, hk⟩) hm

/-- The predicates are evaluated only at valid indices `0 ≤ k < n` — for ARBITRARY predicates. -/
theorem C14_probes_in_range (n : Int) (less equal : Int → Bool) (r : Int) (log : List Probe)
    (hs : search n less equal = some (r, log)) : ∀ p ∈ log, 0 ≤ idx p ∧ idx p < n := by
  by_cases hn : 0 < n
  · obtain ⟨j, lg, hp, -, h⟩ := search_eq less equal hn
    have hlg' : ∀ p ∈ lg, 0 ≤ idx p ∧ idx p < n := fun p hm => ⟨by have := (hp.probes p hm).2.1; omega, (hp.probes p hm).2.2⟩
    rw [h] at hs
    cases hs
    split
    · intro p hm
      rcases List.mem_append.mp hm with h | h
      · exact hlg' p h
      · simp at h; subst h; have := hp.lo; simp only [idx]; omega
    · exact hlg'
  · rw [C14_empty n less equal (by omega)] at hs
    cases hs; simp

/-- O(log n): at most ⌈lg(n+1)⌉ evaluations of `less` (stated as: any `c` with `n+1 ≤ 2^c` bounds them) and at
    most one evaluation of `equal` — for ARBITRARY predicates. -/
theorem C14_probe_count (n : Int) (less equal : Int → Bool) (r : Int) (log : List Probe)
    (hs : search n less equal = some (r, log)) (c : Nat) (hc : n + 1 ≤ (2 : Int) ^ c) :
    countLess log ≤ c ∧ log.length ≤ countLess log + 1 := by
  by_cases hn : 0 < n
  · obtain ⟨j, lg, hp, -, h⟩ := search_eq less equal hn
    have hcnt := hp.count c (by omega)
    -- the loop's log consists of `less` probes only
    have hlen : countLess lg = lg.length := by rw [countLess, List.filter_eq_self.mpr fun p hm => (hp.probes p hm).1]
    rw [h] at hs
    cases hs
    split
    · have h1 : countLess [Probe.equal j] = 0 := rfl
      rw [countLess_append, List.length_append, List.length_singleton]
      omega
    · omega
  · rw [C14_empty n less equal (by omega)] at hs
    cases hs; exact ⟨Nat.zero_le _, Nat.zero_le _⟩

/-- The Go midpoint expression `int(uint(i+j)>>1)` computed on 64-bit words equals the model's `(i+j)/2`
    whenever `0 ≤ i+j` (which the range invariant guarantees inside the loop: `-1 ≤ i`, `i+1 < j`): the reason why
    the model may compute on `Int`.  The translator tie gets the same fact for the embedding's `wrap` arithmetic from
    `SearchAst.mid_int`. -/
theorem C14_mid_bitvec (i j : BitVec 64) (h0 : 0 ≤ i.toInt + j.toInt) :
    ((i + j) >>> 1).toInt = (i.toInt + j.toInt) / 2 := mid_bitvec i j h0

/-- Instantiation ("a list sorted consistently with the supplied predicates"): for a list of integers sorted
    in non-decreasing order and a target `x`, the predicates `less k = l[k] < x`, `equal k = l[k] = x` are
    consistent with insertion point `b` = number of elements `< x`. -/
theorem C14_sorted_list_consistent (l : List Int) (x : Int) (hs : l.Pairwise (· ≤ ·)) :
    C14_Consistent l.length (fun k => decide (l.getD k.toNat 0 < x)) (fun k => decide (l.getD k.toNat 0 = x))
      ((l.filter (· < x)).length) := by
  have hb : (l.filter (· < x)).length ≤ l.length := List.length_filter_le _ _
  have nat : ∀ k : Int, 0 ≤ k → k < l.length → ∃ m : Nat, ∃ hm : m < l.length, k = m ∧ l.getD k.toNat 0 = l[m] := by
    intro k h0 hk
    obtain ⟨m, rfl⟩ := Int.eq_ofNat_of_zero_le h0
    have hm : m < l.length := Int.ofNat_lt.1 hk
    exact ⟨m, hm, rfl, by rw [Int.toNat_natCast, List.getD_eq_getElem?_getD, List.getElem?_eq_getElem hm, Option.getD_some]⟩
  refine ⟨Int.natCast_nonneg _, Int.ofNat_le.2 hb, fun k h0 hk => ?_, fun k h0 hk hek => ?_⟩
  · obtain ⟨m, hm, rfl, e⟩ := nat k h0 hk
    rw [decide_eq_true_eq, e, lt_iff_lt_filter_length l x hs m hm, Int.ofNat_lt]
  · obtain ⟨m, hm, rfl, e⟩ := nat k h0 hk
    rw [decide_eq_true_eq, e] at hek
    have h1 := mt (lt_iff_lt_filter_length l x hs m hm).2 (Int.not_lt.2 (Int.le_of_eq hek.symm))
    refine ⟨Int.ofNat_le.2 (Nat.le_of_not_lt h1), fun j hbj hjk => ?_⟩
    obtain ⟨i, hi, rfl, e'⟩ := nat j (Int.le_trans (Int.natCast_nonneg _) hbj) (Int.lt_of_le_of_lt hjk hk)
    rw [decide_eq_true_eq, e']
    -- `l[i]` is not below `x` (it is past the prefix) and not above `l[m] = x` (sorted)
    have h2 := mt (lt_iff_lt_filter_length l x hs i hi).1 (Nat.not_lt.2 (Int.ofNat_le.1 hbj))
    have h3 : l[i] ≤ l[m] := by
      rcases Nat.lt_or_eq_of_le (Int.ofNat_le.1 hjk) with h | h
      · exact List.pairwise_iff_getElem.mp hs i m hi hm h
      · subst h; exact Int.le_refl _
    exact Int.le_antisymm (hek ▸ h3) (Int.not_lt.1 h2)

/-- Non-vacuity: a concrete sorted list satisfies the hypotheses, and the model returns the documented answers
    (first of a run of equals; complement of the insertion point). -/
example : C14_Consistent ([1, 3, 3, 3, 7, 9] : List Int).length
    (fun k => decide (([1, 3, 3, 3, 7, 9] : List Int).getD k.toNat 0 < 3))
    (fun k => decide (([1, 3, 3, 3, 7, 9] : List Int).getD k.toNat 0 = 3))
    ((([1, 3, 3, 3, 7, 9] : List Int).filter (· < 3)).length) :=
  C14_sorted_list_consistent [1, 3, 3, 3, 7, 9] 3 (by decide)

example : (([1, 3, 3, 3, 7, 9] : List Int).filter (· < 3)).length = 1 := by decide

example : (search 6 (fun k => decide (([1, 3, 3, 3, 7, 9] : List Int).getD k.toNat 0 < 3))
    (fun k => decide (([1, 3, 3, 3, 7, 9] : List Int).getD k.toNat 0 = 3))).map (·.1) = some 1 := by
  simp +decide [search, loop]

example : (search 6 (fun k => decide (([1, 3, 3, 3, 7, 9] : List Int).getD k.toNat 0 < 8))
    (fun k => decide (([1, 3, 3, 3, 7, 9] : List Int).getD k.toNat 0 = 8))).map (·.1) = some (-6) := by
  simp +decide [search, loop, compl]

/-
`Got.Generated.AstSortx.search` is the MiniGo term that tools/srcfacts regenerates from /repo/sortx/search.go on every
run (go/ast + go/types → Got/Model/MiniGo.lean); the three theorems below are therefore re-checked against what the
code says now.  `fnsOf less equal` supplies the two predicate parameters, `callOf` renders a model probe as a call. -/

/-- The translator accepted the function: every construct of the current `sortx.Search` is inside the MiniGo
    fragment (otherwise the generated body is empty and this note names the construct). -/
theorem C14_translation_in_fragment : Got.Generated.AstSortx.searchNote = "ok" := by decide

/-- **Translator tie.** For every 64-bit `count` and all predicates, interpreting the translated source of
    `sortx.Search` (64-bit wrap-around arithmetic, unsigned shift, short-circuit `||`) yields exactly the result and
    exactly the sequence of predicate calls of the model `search` that all other C14 theorems are about — with any
    fuel ≥ count + 12 (the interpreter's fuel only bounds the number of statements executed). -/
theorem C14_translated_source_refines_model (count : Int)
    (hc : -9223372036854775808 ≤ count ∧ count < 9223372036854775808) (less equal : Int → Bool)
    (r : Int) (log : List Probe) (hs : search count less equal = some (r, log))
    (fuel : Nat) (hf : count.toNat + 12 ≤ fuel) :
    Got.Generated.AstSortx.search.run (fnsOf less equal) fuel [count] = some (.ret r (log.map callOf)) :=
  search_ast_refines count hc less equal r log hs fuel hf

/-- Hence the property for the translated source itself: on an input sorted consistently with the predicates
    (insertion point `b`), the code as translated returns `b` if the element there equals the target and `^b`
    otherwise, and calls the predicates only at valid indices. -/
theorem C14_translated_source_result (n : Int) (hn : 0 < n) (h64 : n < 9223372036854775808)
    (less equal : Int → Bool) (b : Int) (hc : C14_Consistent n less equal b) :
    ∃ r calls, (∀ fuel, n.toNat + 12 ≤ fuel →
        Got.Generated.AstSortx.search.run (fnsOf less equal) fuel [n] = some (.ret r calls)) ∧
      (b < n ∧ equal b = true → r = b) ∧ (¬ (b < n ∧ equal b = true) → r = -b - 1) ∧
      (∀ c ∈ calls, 0 ≤ c.2 ∧ c.2 < n) := by
  have ht := C14_terminates n less equal
  cases hs : search n less equal with
  | none => simp [hs] at ht
  | some p =>
    obtain ⟨r, log⟩ := p
    refine ⟨r, log.map callOf, ?_, ?_, ?_, ?_⟩
    · intro fuel hf
      exact search_ast_refines n ⟨by omega, h64⟩ less equal r log hs fuel hf
    · exact (C14_result n less equal b hn hc r log hs).1
    · exact (C14_result n less equal b hn hc r log hs).2
    · intro c hcm
      obtain ⟨p, hp, rfl⟩ := List.mem_map.mp hcm
      have := C14_probes_in_range n less equal r log hs p hp
      cases p <;> simpa [callOf, idx] using this

/-- non-vacuity / sanity: the interpreter run on the generated term, on a concrete sorted list -/
example : (Got.Generated.AstSortx.search.run
    (fnsOf (fun k => decide (([1, 3, 3, 3, 7, 9] : List Int).getD k.toNat 0 < 3))
           (fun k => decide (([1, 3, 3, 3, 7, 9] : List Int).getD k.toNat 0 = 3))) 40 [6]) =
    some (.ret 1 [("f0", 2), ("f0", 0), ("f0", 1), ("f1", 1)]) := by decide
