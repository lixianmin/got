import Got.Lemmas.AtomicsAst
import Got.Lemmas.AtomicsAstMutex
/-
C17 — loom atomics: TryLock excludes, Flag / AddIf64 lose no update, Count is truthful.

`Mutex.TryLock` (loom/mutex.go) returns true only when the caller has become the sole holder, and Unlock releases such a lock
like any other; concurrent `AddFlag`/`RemoveFlag` calls (loom/flag.go) each take effect atomically; `AddIf64` (loom/atomic.go)
adds its delta only to a value that satisfied the predicate at the instant of the update; `Mutex.Count` = waiters + holder.
Models: `Got.Model.Atomics` (transition functions `stepM`, `stepF`, `stepA`; `count`).
-/
open Got.Model.Atomics Got.Spec.Atomics Got.Lemmas.Atomics

/-- Mutual exclusion, for every number of goroutines and every interleaving of TryLock steps, Unlock by holders and the
    transcribed sync.Mutex steps (fast/slow-path CAS, spinning, wake-up, starvation hand-off), from any unlocked
    initial word: at most one goroutine is inside the critical section, the locked bit tells whether there is one, and
    a hand-off in transit implies an unlocked word in starvation mode (which TryLock refuses). -/
theorem C17_trylock_excl (w0 : Word) (h0 : isLocked w0 = false) (acts : List MAct) :
    let s := runM (initM w0) acts
    s.holders.length ≤ 1 ∧ isLocked s.word = !s.holders.isEmpty ∧
    (s.handoff = true → isStarving s.word = true ∧ isLocked s.word = false) := by
  have h := runM_inv _ acts (initM_inv w0 h0)
  exact ⟨h.le_one, h.locked_iff, h.handoff⟩

/-- A successful TryLock step (either CAS) happens only when the word shows not locked, not starving and not woken, when
    nobody holds the mutex and no hand-off is in transit; it sets exactly the locked bit and makes the caller the holder.
    A failing CAS changes neither the word nor the holders. -/
theorem C17_trylock_success (w0 : Word) (h0 : isLocked w0 = false) (acts : List MAct) (t : Nat) :
    let s := runM (initM w0) acts
    (s.pc t = .cas1 →
      let s' := stepM s (.tryCas1 t)
      (s.word = 0 → s.holders = [] ∧ s.handoff = false ∧ s'.holders = [t] ∧ s'.word = s.word ||| mLocked ∧
                     s'.res t = some true) ∧
      (s.word ≠ 0 → s'.holders = s.holders ∧ s'.word = s.word ∧ s'.res t = s.res t)) ∧
    (∀ old, s.pc t = .cas2 old →
      let s' := stepM s (.tryCas2 t)
      (s.word = old → (s.word &&& (mLocked ||| mStarving ||| mWoken) != 0) = false ∧ s.holders = [] ∧
                       s.handoff = false ∧ s'.holders = [t] ∧ s'.word = s.word ||| mLocked ∧ s'.res t = some true) ∧
      (s.word ≠ old → s'.holders = s.holders ∧ s'.word = s.word ∧ s'.res t = some false)) := by
  intro s
  have h : MInv s := runM_inv _ acts (initM_inv w0 h0)
  constructor
  · intro hpc
    constructor
    · intro hw
      have hn := holders_nil_of_unlocked h (hw ▸ zero_flags.1)
      have hf : s.handoff = false := handoff_false_of h (Or.inl (hw ▸ zero_flags.2))
      refine ⟨hn, hf, ?_, ?_, ?_⟩ <;> simp [stepM, hpc, hw, hn, upd_same, mLocked_eq]
    · intro hw
      have hw' : ¬ s.word = 0#32 := hw
      refine ⟨?_, ?_, ?_⟩ <;> simp [stepM, hpc, hw']
  · intro old hpc
    constructor
    · intro hw
      have hm := h.cas2 t old hpc
      have hf := tryCas2_flags old hm
      have hn := holders_nil_of_unlocked h (hw ▸ hf.1)
      have hh : s.handoff = false := handoff_false_of h (Or.inl (hw ▸ hf.2.1))
      refine ⟨by rw [hw]; exact hm, hn, hh, ?_, ?_, ?_⟩ <;> simp [stepM, hpc, hw, hn, upd_same]
    · intro hw
      refine ⟨?_, ?_, ?_⟩ <;> simp [stepM, hpc, hw, upd_same]

/-- No other step reports a TryLock success: `res t` becomes `some true` only through one of the two successful CASes. -/
theorem C17_trylock_true_only_by_cas (s : MSt) (a : MAct) (t : Nat)
    (h : (stepM s a).res t = some true) :
    s.res t = some true ∨ (a = .tryCas1 t ∧ s.pc t = .cas1 ∧ s.word = 0) ∨
      (∃ old, a = .tryCas2 t ∧ s.pc t = .cas2 old ∧ s.word = old) := by
  have m := stepM_move s a
  generalize stepM s a = s' at h m
  rcases m with rfl | m
  · exact Or.inl h
  · -- only the four TryLock moves that return write `res`, and only the caller's entry
    cases m with
    | cas1Win u hpc hw =>
      rcases of_upd_eq h with ⟨rfl, _⟩ | h
      · exact Or.inr (Or.inl ⟨rfl, hpc, hw⟩)
      · exact Or.inl h
    | cas2Win u old hpc hw =>
      rcases of_upd_eq h with ⟨rfl, _⟩ | h
      · exact Or.inr (Or.inr ⟨old, rfl, hpc, hw⟩)
      · exact Or.inl h
    | loadRefuse u | cas2Fail u =>
      rcases of_upd_eq h with ⟨_, hv⟩ | h
      · cases hv
      · exact Or.inl h
    | _ => exact Or.inl h

/-- A mutex held through TryLock (or any other way) is released by the ordinary Unlock transition
    `AddInt32(&state, -mutexLocked)`: afterwards nobody holds it and the locked bit is clear. -/
theorem C17_trylock_unlock (w0 : Word) (h0 : isLocked w0 = false) (acts : List MAct) (t : Nat) :
    let s := runM (initM w0) acts
    t ∈ s.holders →
      let s' := stepM s (.unlock t)
      s'.word = s.word - mLocked ∧ s'.holders = [] ∧ isLocked s'.word = false := by
  intro s hmem
  have h : MInv s := runM_inv _ acts (initM_inv w0 h0)
  have hw : (stepM s (.unlock t)).word = s.word - mLocked := by simp [stepM, hmem]
  have hu : isLocked (stepM s (.unlock t)).word = false := by
    rw [hw]; exact sub_locked s.word (holders_of_mem h hmem).2
  exact ⟨hw, holders_nil_of_unlocked (stepM_inv s _ h) hu, hu⟩

/-- non-vacuity: two goroutines race TryLock on a free mutex; the first CAS wins, the loser is refused, Unlock releases -/
example :
    let s := runM (initM 0) [.tryStart 1, .tryStart 2, .tryCas1 1, .tryCas1 2, .tryLoad 2]
    s.holders = [1] ∧ s.res 1 = some true ∧ s.res 2 = some false ∧ s.word = 1#32 ∧
    (stepM s (.unlock 1)).word = 0#32 := by decide

/-- non-vacuity: the load/CAS gap — goroutine 2 loads an unlocked word with a waiter, goroutine 1 takes the lock in the
    gap, goroutine 2's CAS fails -/
example :
    let s := runM (initM 8#32) [.tryStart 1, .tryStart 2, .tryCas1 2, .tryLoad 2, .tryCas1 1, .tryLoad 1, .tryCas2 1, .tryCas2 2]
    s.holders = [1] ∧ s.res 1 = some true ∧ s.res 2 = some false ∧ s.word = 9#32 := by decide

/-- non-vacuity: a starving, unlocked word is refused -/
example :
    let s := runM (initM 12#32) [.tryStart 1, .tryCas1 1, .tryLoad 1]
    s.holders = [] ∧ s.res 1 = some false := by decide

/-- For every number of goroutines, all programs and all interleavings: the flag value is the sequential fold, in CAS
    order, of exactly the calls whose CAS succeeded, and every call appears in that order exactly once when it has
    returned (and not at all while it is pending). -/
theorem C17_flag_atomic (v0 : W64) (acts : List FAct) :
    let s := runF (initF v0) acts
    s.val = s.log.foldl (fun v e => e.2.apply v) v0 ∧
    ∀ t, (s.log.filter (fun e => e.1 == t)).length + (if s.pc t = .idle then 0 else 1) = s.calls t := by
  have h := runF_inv v0 _ acts (initF_inv v0)
  exact ⟨h.val_eq, h.once⟩

/-- A call takes effect only at its successful CAS, atomically on the current value, as `v ↦ v ||| f` resp.
    `v &&& ~~~f`; a failed CAS and the other steps change nothing. -/
theorem C17_flag_step (s : FSt) (a : FAct) :
    (∃ t op, a = .cas t ∧ s.pc t = .cas op s.val ∧
        (stepF s a).val = op.apply s.val ∧ (stepF s a).log = s.log ++ [(t, op)] ∧ (stepF s a).pc t = .idle) ∨
    ((stepF s a).val = s.val ∧ (stepF s a).log = s.log) := by
  have m := stepF_move s a
  generalize stepF s a = s' at m ⊢
  rcases m with rfl | m
  · exact .inr ⟨rfl, rfl⟩
  · cases m with
    | casWin t op hpc => exact .inl ⟨t, op, rfl, hpc, rfl, rfl, upd_same _ _ _⟩
    | _ => exact .inr ⟨rfl, rfl⟩

/-- Adds only: the value is the initial value OR-ed with the flags of all completed calls, so every completed
    AddFlag's bits are present whatever the contention. -/
theorem C17_flag_adds_or (v0 : W64) (acts : List FAct)
    (hadd : ∀ e ∈ (runF (initF v0) acts).log, ∃ f, e.2 = FOp.add f) :
    let s := runF (initF v0) acts
    s.val = orFlags v0 s.log ∧ ∀ e ∈ s.log, ∀ f, e.2 = FOp.add f → s.val &&& f = f := by
  intro s
  have h := runF_inv v0 _ acts (initF_inv v0)
  have hv : s.val = orFlags v0 s.log := by rw [h.val_eq]; exact foldOps_adds v0 _ hadd
  refine ⟨hv, ?_⟩
  intro e he f hf
  rw [hv]
  exact orFlags_contains v0 _ e f he hf

/-- non-vacuity: both goroutines load 0, the first CAS succeeds, the second fails and retries — no bit is lost -/
example :
    let s := runF (initF 0) [.invoke 1 (.add 1), .invoke 2 (.add 2), .load 1, .load 2, .cas 1, .cas 2, .load 2, .cas 2]
    s.val = 3#64 ∧ s.log = [(1, .add 1), (2, .add 2)] ∧ s.pc 1 = .idle ∧ s.pc 2 = .idle := by decide

/-- Any invariant that the guarded update preserves (`pred d v → Inv v → Inv (v + d)`) holds in every reachable state,
    for every number of goroutines and every interleaving; the value is the initial value plus the deltas of the
    successful calls. -/
theorem C17_addif (pred : W64 → W64 → Bool) (Inv : W64 → Prop)
    (hcl : ∀ d v, pred d v = true → Inv v → Inv (v + d)) (v0 : W64) (h0 : Inv v0) (acts : List AAct) :
    let s := runA pred (initA v0) acts
    Inv s.val ∧ s.val = s.added.foldl (· + ·) v0 := by
  have h := runA_inv pred Inv hcl v0 _ acts (initA_inv pred Inv v0 h0)
  exact ⟨h.inv, h.sum⟩

/-- The CAS that adds `delta` succeeds only on a value for which the predicate was evaluated to true: at the instant
    of the update the current value satisfies the predicate. -/
theorem C17_addif_cas_sees_pred (pred : W64 → W64 → Bool) (v0 : W64) (acts : List AAct) (t : Nat) (d e : W64) :
    let s := runA pred (initA v0) acts
    s.pc t = .cas d e → s.val = e →
      pred d s.val = true ∧ (stepA pred s (.cas t)).val = s.val + d ∧ (stepA pred s (.cas t)).res t = some true := by
  intro s hpc hv
  have h := runA_inv pred (fun _ => True) (fun _ _ _ _ => trivial) v0 _ acts (initA_inv pred _ v0 trivial)
  refine ⟨by rw [hv]; exact h.seen t d e hpc, ?_, ?_⟩ <;> simp [stepA, hpc, hv, upd_same]

/-- Instance used by the correspondence check (Got/Drv/Atomics.lean): with the predicate `old + delta <= limit` the counter
    never exceeds the limit, under any contention. -/
theorem C17_addif_limit (limit : Int) (v0 : W64) (h0 : v0.toInt ≤ limit) (acts : List AAct) :
    (runA (limitPred limit) (initA v0) acts).val.toInt ≤ limit := by
  exact (C17_addif (limitPred limit) (fun v => v.toInt ≤ limit) (fun d v hp _ => limitPred_closed limit d v hp) v0 h0 acts).1

/-- non-vacuity: limit 1, two goroutines add 1 to 0: both load 0 and pass the test, one CAS wins, the loser re-tests
    against 1 and gives up -/
example :
    let s := runA (limitPred 1) (initA 0) [.invoke 1 1, .invoke 2 1, .load 1, .load 2, .cas 1, .cas 2, .load 2]
    s.val = 1#64 ∧ s.res 1 = some true ∧ s.res 2 = some false := by decide

/-- Count() = number of waiters (the word shifted right arithmetically) + 1 if the locked bit is set, for every word. -/
theorem C17_count (w : Word) :
    count w = w.toInt / 2 ^ mShift + (if isLocked w then 1 else 0) := by
  have hb : (w &&& mLocked).toInt = if isLocked w then 1 else 0 := by rw [and_mLocked]; split <;> rfl
  unfold count
  simp only [BitVec.toInt_add, BitVec.toInt_sshiftRight, Int.shiftRight_eq_div_pow, hb, mShift_eq]
  have hr := @BitVec.toInt_lt 32 w
  have hl := @BitVec.le_toInt 32 w
  simp at hr hl
  apply Int.bmod_eq_of_le <;> split <;> omega

/-- the former expression `countOld` reported 0 for a held mutex without waiters (state word 1) -/
theorem C17_old_count_counterexample : countOld 1#32 = 0 ∧ count 1#32 = 1 := by decide

/-- non-vacuity / regression values: held + 2 waiters → 3; unheld + 2 waiters → 2 -/
example : count 17#32 = 3 ∧ count 16#32 = 2 ∧ countOld 17#32 = 2 := by decide

/-
The translated source.  `Got.Generated.AstLoomAtomics.addFlag` / `removeFlag` / `addIf64` are the programs that tools/srcfacts (minigo_atomic.go)
re-translates from /repo/loom/flag.go and /repo/loom/atomic.go on every run into the atomic-instruction IR of
Got/Model/AtomicIR.lean; its generic small-step semantics turns them into labelled transition systems
(`Got.Model.AtomicsGen`: `flagStep`/`flagRun`, `addIfStep`/`addIfRun`; client actions `invoke t call` and `tau t` = thread
`t` performs its next atomic access and the local computation up to the following one).  `RelF g s` / `RelA g s aux`
(Got/Lemmas/AtomicsAst.lean): the generated state `g` has the same word as the hand-written state `s` and every thread's
continuation and locals are the image of its hand-written program counter.  `toF s a` / `toA s a` = the hand-written
action (`load t` or `cas t`) that `tau t` is in state `s`. -/

/-- The translator accepted the six functions (otherwise the generated body is empty and the note names the construct).
    AddIf64's guard `if addr == nil { return false }` is not translated: the models assume a non-nil address. -/
theorem C17_translation_in_fragment :
    Got.Generated.AstLoomAtomics.addFlagNote = "ok" ∧ Got.Generated.AstLoomAtomics.removeFlagNote = "ok" ∧
    Got.Generated.AstLoomAtomics.addIf64Note = "ok" ∧ Got.Generated.AstLoomAtomics.tryLockNote = "ok" ∧
    Got.Generated.AstLoomAtomics.countNote = "ok" ∧ Got.Generated.AstLoomAtomics.hasFlagNote = "ok" := by decide

/-- Translator tie, Flag, one step.  Corresponding states stay corresponding: an action of the LTS generated from the
    source of AddFlag/RemoveFlag is exactly the action `toF s a` of the hand-written model `stepF`. -/
theorem C17_translated_source_flag_step : ∀ (g : Got.Model.AtomicIR.GState) (s : FSt) (a : Got.Model.AtomicsGen.CAct FOp),
    Got.Lemmas.AtomicsAst.RelF g s →
    Got.Lemmas.AtomicsAst.RelF (Got.Model.AtomicsGen.flagStep g a) (stepF s (Got.Lemmas.AtomicsAst.toF s a)) :=
  Got.Lemmas.AtomicsAst.simF

/-- No lost update, for the translated source.  After any run of the generated Flag LTS there is a run of the hand-written
    model, action for action, that ends in the corresponding state; the word of the generated LTS is therefore the sequential
    fold, in CAS order, of exactly the calls whose CAS succeeded, each call appearing there exactly once when it has returned
    and not at all while it is pending (`C17_flag_atomic`). -/
theorem C17_translated_source_flag_atomic (v0 : W64) (acts : List (Got.Model.AtomicsGen.CAct FOp)) :
    ∃ facts : List FAct, facts.length = acts.length ∧
      let s := runF (initF v0) facts
      Got.Lemmas.AtomicsAst.RelF (Got.Model.AtomicsGen.flagRun v0 acts) s ∧
      (Got.Model.AtomicsGen.flagRun v0 acts).mem.cell = s.log.foldl (fun v e => e.2.apply v) v0 ∧
      ∀ t, (s.log.filter (fun e => e.1 == t)).length + (if s.pc t = .idle then 0 else 1) = s.calls t := by
  obtain ⟨facts, hl, hr⟩ := Got.Lemmas.AtomicsAst.flagRun_rel v0 acts
  have h := C17_flag_atomic v0 facts
  exact ⟨facts, hl, hr, by rw [hr.cell]; exact h.1, h.2⟩

/-- Translator tie, AddIf64, one step.  An action of the LTS generated from the source of AddIf64 is exactly the action
    `toA s a` of the hand-written model `stepA pred`, for every predicate; `auxA` follows the dead locals `expect`, `update`. -/
theorem C17_translated_source_addif_step : ∀ (pred : W64 → W64 → Bool) (g : Got.Model.AtomicIR.GState) (s : ASt)
    (aux : Nat → W64 × W64) (a : Got.Model.AtomicsGen.CAct W64), Got.Lemmas.AtomicsAst.RelA g s aux →
    Got.Lemmas.AtomicsAst.RelA (Got.Model.AtomicsGen.addIfStep pred g a) (stepA pred s (Got.Lemmas.AtomicsAst.toA s a))
      (Got.Lemmas.AtomicsAst.auxA s aux a) :=
  Got.Lemmas.AtomicsAst.simA

/-- The guarded update, for the translated source.  Any invariant that the guarded update preserves holds of the word
    after every run of the LTS generated from the source of AddIf64. -/
theorem C17_translated_source_addif (pred : W64 → W64 → Bool) (Inv : W64 → Prop)
    (hcl : ∀ d v, pred d v = true → Inv v → Inv (v + d)) (v0 : W64) (h0 : Inv v0)
    (acts : List (Got.Model.AtomicsGen.CAct W64)) :
    Inv (Got.Model.AtomicsGen.addIfRun pred v0 acts).mem.cell := by
  obtain ⟨aacts, aux, hr⟩ := Got.Lemmas.AtomicsAst.addIfRun_rel pred v0 acts
  rw [hr.cell]
  exact (C17_addif pred Inv hcl v0 h0 aacts).1

/-- instance: with the predicate `old + delta <= limit` the counter of the translated source never exceeds the limit. -/
theorem C17_translated_source_addif_limit (limit : Int) (v0 : W64) (h0 : v0.toInt ≤ limit)
    (acts : List (Got.Model.AtomicsGen.CAct W64)) :
    (Got.Model.AtomicsGen.addIfRun (limitPred limit) v0 acts).mem.cell.toInt ≤ limit :=
  C17_translated_source_addif (limitPred limit) (fun v => v.toInt ≤ limit) (fun d v hp _ => limitPred_closed limit d v hp) v0 h0 acts

/-- non-vacuity: the generated LTSs really run.  Flag: both goroutines load 0, the first CAS succeeds, the second fails
    and retries — the word ends as 3 and both calls have returned.  AddIf64 with limit 1: both pass the test on 0, one CAS
    wins, the loser re-tests against 1 and gives up (returns false). -/
example :
    let g := Got.Model.AtomicsGen.flagRun 0 [.invoke 1 (.add 1), .invoke 2 (.add 2), .tau 1, .tau 2, .tau 1, .tau 2, .tau 2, .tau 2]
    g.mem.cell = 3#64 ∧ Got.Model.AtomicIR.isIdle (g.conf 1) = true ∧ Got.Model.AtomicIR.isIdle (g.conf 2) = true ∧
    g.hist.length = 4 := by decide

example :
    let g := Got.Model.AtomicsGen.addIfRun (limitPred 1) 0 [.invoke 1 1, .invoke 2 1, .tau 1, .tau 2, .tau 1, .tau 2, .tau 2]
    g.mem.cell = 1#64 ∧
    g.hist = [(1, .inv 0 [.i64 1]), (2, .inv 0 [.i64 1]), (1, .ret (some (.bool true))), (2, .ret (some (.bool false)))] := by
  decide

/-
`Got.Generated.AstLoomAtomics.tryLock` / `count` are re-translated from /repo/loom/mutex.go on every run (the state word
`(*int32)(unsafe.Pointer(&m.Mutex))` is the IR's `cell32`; named constants are replaced by their values as computed by
go/types; `return <CAS>` is `tmp := <CAS>; return tmp`).  `Got.Model.AtomicsGen.Mx` is the joint system: the TryLock
threads of the *generated* LTS, composed with the hand-written transcription of the sync.Mutex steps (`EnvAct`: Unlock,
Lock fast/slow path, spinning, wake-up, hand-off) as the environment, which stores into the generated LTS's word the word
the transcribed step produces.  `RelM g s`: same word, every thread's configuration is the image of its hand-written pc,
and the result of each thread's last completed TryLock in the generated history is the hand-written `res`. -/

/-- Translator tie, TryLock, one step: invoking TryLock, a thread's next atomic access (`tau t` = the hand-written
    `tryCas1`/`tryLoad`/`tryCas2` step `tauM s t`), and an environment step all keep the generated and the hand-written
    state corresponding. -/
theorem C17_translated_source_trylock_step (g : Got.Model.AtomicIR.GState) (s : MSt) (h : Got.Lemmas.AtomicsAst.RelM g s) :
    (∀ t, Got.Lemmas.AtomicsAst.RelM
        (Got.Model.AtomicIR.step Got.Model.AtomicsGen.mutexProg Got.Model.AtomicsGen.noPred g (.inv t 0 []))
        (stepM s (.tryStart t))) ∧
    (∀ t, Got.Lemmas.AtomicsAst.RelM
        (Got.Model.AtomicIR.step Got.Model.AtomicsGen.mutexProg Got.Model.AtomicsGen.noPred g (.tau t))
        (stepM s (Got.Model.AtomicsGen.tauM s t))) ∧
    (∀ e : Got.Model.AtomicsGen.EnvAct, Got.Lemmas.AtomicsAst.RelM
        { g with mem := { g.mem with cell32 := (stepM s e.toM).word } } (stepM s e.toM)) :=
  ⟨fun t => Got.Lemmas.AtomicsAst.simM_invoke g s t h, fun t => Got.Lemmas.AtomicsAst.simM_tau g s t h,
   fun e => Got.Lemmas.AtomicsAst.simM_env g s e h⟩

/-- Mutual exclusion for the translated TryLock.  After every joint run from an unlocked word (any number of goroutines
    running the generated TryLock, any interleaving with the transcribed Lock/Unlock traffic): the hand-written component is a
    reachable state of `stepM` corresponding to the generated one, so the generated LTS's word has its locked bit set iff
    somebody holds the mutex, at most one goroutine holds it, and the result the generated TryLock returned last to each
    thread is the model's `res` (about which `C17_trylock_success` / `C17_trylock_true_only_by_cas` speak). -/
theorem C17_translated_source_trylock_excl (w0 : Word) (h0 : isLocked w0 = false) (acts : List Got.Model.AtomicsGen.MxAct) :
    let x := Got.Model.AtomicsGen.mxRun w0 acts
    (∃ macts, x.s = runM (initM w0) macts) ∧ Got.Lemmas.AtomicsAst.RelM x.g x.s ∧
    x.s.holders.length ≤ 1 ∧ isLocked x.g.mem.cell32 = !x.s.holders.isEmpty ∧
    ∀ t, Got.Model.AtomicsGen.lastRetB x.g.hist t = x.s.res t := by
  intro x
  obtain ⟨hr, macts, hm⟩ := Got.Lemmas.AtomicsAst.mxRun_rel w0 acts
  have he := C17_trylock_excl w0 h0 macts
  simp only [← hm] at he
  exact ⟨⟨macts, hm⟩, hr, he.1, by rw [hr.word]; exact he.2.1, hr.res⟩

/-- Count is truthful, for the translated source.  For every state word `w`, the LTS generated from the source of
    `Count` — invocation, its one atomic load, the int32 arithmetic, return — returns `count w` = waiters + (1 if locked)
    (`C17_count`). -/
theorem C17_translated_source_count (w : Word) :
    ∃ r : BitVec 64,
      (Got.Model.AtomicsGen.countRun w).hist = [(0, .inv 1 []), (0, .ret (some (.i64 r)))] ∧
      r.toInt = w.toInt / 2 ^ mShift + (if isLocked w then 1 else 0) := by
  obtain ⟨r, hh, hr⟩ := Got.Lemmas.AtomicsAst.count_gen w
  exact ⟨r, hh, by rw [hr]; exact C17_count w⟩

/-- non-vacuity: two goroutines race the generated TryLock on a free mutex; the first CAS wins, the loser's CAS fails, it
    loads a locked word and is refused; then the holder's Unlock (environment) clears the word.  Count on word 17 is 3. -/
example :
    let x := Got.Model.AtomicsGen.mxRun 0 [.invoke 1, .invoke 2, .tau 1, .tau 2, .tau 2]
    x.g.mem.cell32 = 1#32 ∧ Got.Model.AtomicsGen.lastRetB x.g.hist 1 = some true ∧
    Got.Model.AtomicsGen.lastRetB x.g.hist 2 = some false ∧ x.s.holders = [1] ∧
    (Got.Model.AtomicsGen.mxStep x (.env (.unlock 1))).g.mem.cell32 = 0#32 ∧
    (Got.Model.AtomicsGen.countRun 17#32).hist = [(0, .inv 1 []), (0, .ret (some (.i64 3#64)))] := by decide

/-- HasFlag, translated: for every flag word `v` and mask `f`, the LTS generated from the source of `HasFlag`
    (`return (atomic.LoadInt64(addr) & flag) != 0`, read as `tmp := load; return (tmp & flag) != 0`) returns
    `hasFlag v f = (v &&& f != 0)` and leaves the word unchanged. -/
theorem C17_translated_source_hasflag (v f : W64) :
    (Got.Model.AtomicsGen.hasFlagRun v f).hist = [(0, .inv 2 [.i64 f]), (0, .ret (some (.bool (hasFlag v f))))] ∧
    (Got.Model.AtomicsGen.hasFlagRun v f).mem.cell = v := by
  simp [ir_sem, Got.Model.AtomicsGen.hasFlagRun, Got.Model.AtomicsGen.flagProgH, Got.Model.AtomicsGen.flagInit,
    Got.Model.AtomicIR.step, Got.Model.AtomicIR.stepThread, Got.Model.AtomicIR.GState.apply,
    Got.Model.AtomicIR.startThread, Got.Generated.AstLoomAtomics.hasFlag, Got.Model.AtomicIR.upd, hasFlag]
  -- left: `decide (v &&& f = 0) = !(v &&& f != 0)`
  rw [bne, Bool.not_not]; rfl
