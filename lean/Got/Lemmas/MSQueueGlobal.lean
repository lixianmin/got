import Got.Lemmas.MSQueueSolo
/-
System-wide lock-freedom of the Michael–Scott queue model, by a potential: `phi n s = Σ_{t<n} cr s t + (K*n+1) * budget n s`, where
`budget n s = 2 * (n - #{t<n at p5}) + (chain.length - 1 - ti)` bounds the heap-changing steps that can still happen without a
return. Every step of a busy thread returns or strictly decreases `phi`: a step that leaves the heap decreases the thread's `mu`
and leaves the others'; a successful link moves the thread to `p5` (budget −2) and makes the tail lag (+1); a successful helping
swing removes the lag (−1); the last two may raise the `mu` of the other threads, but `Σ mu ≤ K*n < K*n+1`. Invocations do not
raise `phi` (an idle thread holds credit `K`), hence the windowed form `lock_free_window`. With `tau` steps only, every thread
returns at most once, so all-busy schedules are short (for `n = 1` at most `K < F 1` steps, `solo_bound`) and none of length `F n`
is exhibited for `lock_free_global`: the windowed form is the one whose hypotheses are shown jointly satisfiable (`rr_hyps`).
-/
namespace Got.Model.MSQueue
open Got.Spec.Lin

/- The arithmetic of the amortised argument, on variables: `f` is the bound `F n`, `p` the potential, `c` the completed operations,
   `nT` the `tau` steps of a window and `m` the operations asked of it; in `potential_lt` `x ≤ a < b` are the credits and the
   weight of a budget unit, `y ≤ d` the budget. -/

theorem amort_ret {f p p' c c' : Nat} (hp' : p' < f) (hc : c < c') : 1 + p' + f * c ≤ p + f * c' := by
  have := Nat.mul_le_mul_left f hc
  rw [Nat.mul_succ] at this
  omega

theorem amort_dec {f p p' c c' : Nat} (hp : p' < p) (hc : c ≤ c') : 1 + p' + f * c ≤ p + f * c' := by
  have := Nat.mul_le_mul_left f hc
  omega

theorem amort_window {f p p' c c' nT m : Nat} (hA : nT + p' + f * c ≤ p + f * c') (hp : p < f)
    (hlen : m * f ≤ nT) : c + m ≤ c' := by
  apply Nat.le_of_not_lt
  intro hc
  have := Nat.mul_le_mul_left f (Nat.succ_le_of_lt hc)
  rw [Nat.mul_succ, Nat.mul_add, Nat.mul_comm f m] at this
  omega

theorem potential_lt {a b d x y : Nat} (hx : x ≤ a) (hab : a < b) (hy : y ≤ d) : x + b * y < b * (d + 1) := by
  have := Nat.mul_le_mul_left b hy
  rw [Nat.mul_add_one]
  omega

def sumTo (f : Nat → Nat) : Nat → Nat
  | 0 => 0
  | n + 1 => sumTo f n + f n

theorem sumTo_le {f : Nat → Nat} {k : Nat} : ∀ {n : Nat}, (∀ i, i < n → f i ≤ k) → sumTo f n ≤ k * n
  | 0, _ => Nat.le_refl _
  | n + 1, h =>
    Nat.mul_succ .. ▸ Nat.add_le_add (sumTo_le fun i hi => h i (Nat.lt_succ_of_lt hi)) (h n (Nat.lt_succ_self n))

theorem sumTo_mono {f g : Nat → Nat} : ∀ {n : Nat}, (∀ i, i < n → f i ≤ g i) → sumTo f n ≤ sumTo g n
  | 0, _ => Nat.le_refl _
  | n + 1, h => Nat.add_le_add (sumTo_mono fun i hi => h i (Nat.lt_succ_of_lt hi)) (h n (Nat.lt_succ_self n))

theorem sumTo_congr {f g : Nat → Nat} {n : Nat} (h : ∀ i, i < n → f i = g i) : sumTo f n = sumTo g n :=
  Nat.le_antisymm (sumTo_mono fun i hi => Nat.le_of_eq (h i hi))
    (sumTo_mono fun i hi => Nat.le_of_eq (h i hi).symm)

theorem sumTo_lt {f g : Nat → Nat} {u : Nat} : ∀ {n : Nat}, u < n →
    (∀ i, i < n → f i ≤ g i) → f u < g u → sumTo f n < sumTo g n
  | n + 1, hu, h, hd => by
    have h' : ∀ i, i < n → f i ≤ g i := fun i hi => h i (Nat.lt_succ_of_lt hi)
    rcases Nat.lt_succ_iff_lt_or_eq.mp hu with hu | rfl
    · exact Nat.add_lt_add_of_lt_of_le (sumTo_lt hu h' hd) (h n (Nat.lt_succ_self n))
    · exact Nat.add_lt_add_of_le_of_lt (sumTo_mono h') hd

def isRet : LEv → Bool
  | .ret _ _ => true
  | _ => false

def completed (s : State) : Nat := (s.log.filter isRet).length

/-- a schedule of `tau` steps in which every step is taken by a thread that is busy at that moment. -/
def BusySched : State → List Nat → Prop
  | _, [] => True
  | s, t :: ts => busy s t ∧ BusySched (tau s t) ts

instance : (s : State) → (ts : List Nat) → Decidable (BusySched s ts)
  | _, [] => isTrue trivial
  | s, t :: ts =>
    have := instDecidableBusySched (tau s t) ts
    by unfold BusySched; infer_instance

def isP5 : Pc → Bool
  | .p5 _ _ => true
  | _ => false

/-- number of threads `< n` parked at `p5` (node linked, about to swing the tail and return). -/
def nP5 (n : Nat) (s : State) : Nat := sumTo (fun t => if isP5 (s.pc t) then 1 else 0) n

/-- how far the tail is behind the end of the chain (0 or 1 under `Inv`). -/
def lagAmt (h : Heap) : Nat := h.chain.length - 1 - h.ti

/-- upper bound on the number of heap-changing steps before the next return. -/
def budget (n : Nat) (s : State) : Nat := 2 * (n - nP5 n s) + lagAmt s.toHeap

/-- credit of a thread: an idle thread holds `K` (enough to pay for its next operation), a busy
    thread holds its solo measure `mu`. -/
def cr (s : State) (t : Nat) : Nat := if s.pc t = .idle then K else mu s t

def sumCr (n : Nat) (s : State) : Nat := sumTo (cr s) n

def phi (n : Nat) (s : State) : Nat := sumCr n s + (K * n + 1) * budget n s

/-- `phi n s < F n` under `Inv` (`phi_lt_F`): the credits sum to at most `K*n`, below the weight `K*n+1` of a budget unit,
    and the budget is at most `2*n+1` (`budget_le`), so `phi < (K*n+1) * ((2*n+1) + 1)` (`potential_lt`). -/
def F (n : Nat) : Nat := (K * n + 1) * (2 * n + 2)

theorem nP5_le (n : Nat) (s : State) : nP5 n s ≤ n :=
  Nat.le_trans (sumTo_le (k := 1) fun _ _ => ite_le (Nat.le_refl 1) (Nat.zero_le 1)) (Nat.le_of_eq (Nat.one_mul n))

theorem cr_le_K (s : State) (t : Nat) : cr s t ≤ K := by
  unfold cr; split
  · exact Nat.le_refl _
  · exact mu_le_K s t

theorem sumCr_le (n : Nat) (s : State) : sumCr n s ≤ K * n :=
  sumTo_le (fun i _ => cr_le_K s i)

theorem LocalStep.not_p5 {h : Heap} {p p' : Pc} (hs : LocalStep h p p') : isP5 p' = isP5 p ∧ p' ≠ .idle := by
  cases hs <;> exact ⟨rfl, nofun⟩

section
variable {s : State} {t : Nat} {h' : Heap} {p' : Pc} {evs : List LEv}

theorem completed_lift : completed (lift s t h' p' evs) = completed s + (evs.filter isRet).length := by
  unfold completed lift; rw [List.filter_append, List.length_append]

theorem completed_lt (hr : 0 < (evs.filter isRet).length) : completed s < completed (lift s t h' p' evs) := by
  rw [completed_lift]; omega

theorem cr_lift_other (hmu : muPc h' = muPc s.toHeap) {u : Nat} (hne : u ≠ t) : cr (lift s t h' p' evs) u = cr s u := by
  show (if upd s.pc t p' u = .idle then K else muPc h' (upd s.pc t p' u)) = _
  rw [upd_other hne, hmu]; rfl

theorem budget_lift (n : Nat) : budget n (lift s t h' p' evs) = 2 * (n - nP5 n (lift s t h' p' evs)) + lagAmt h' := rfl

theorem nP5_lift (n : Nat) (h : isP5 p' = isP5 (s.pc t)) : nP5 n (lift s t h' p' evs) = nP5 n s := by
  refine sumTo_congr fun i _ => ?_
  show (if isP5 (upd s.pc t p' i) then 1 else 0) = (if isP5 (s.pc i) then 1 else 0)
  by_cases e : i = t
  · subst e; rw [upd_same, h]
  · rw [upd_other e]

theorem nP5_lift_lt {n : Nat} (ht : t < n) (h1 : isP5 (s.pc t) = false) (h2 : isP5 p' = true) :
    nP5 n s < nP5 n (lift s t h' p' evs) := by
  have hlt : (if isP5 (s.pc t) then 1 else 0) < (if isP5 (upd s.pc t p' t) then 1 else 0) := by
    rw [upd_same, h1, h2]; decide
  refine sumTo_lt ht (fun i _ => ?_) hlt
  by_cases e : i = t
  · subst e; exact Nat.le_of_lt hlt
  · show (if isP5 (s.pc i) then 1 else 0) ≤ (if isP5 (upd s.pc t p' i) then 1 else 0)
    rw [upd_other e]; exact Nat.le_refl _

theorem lagAmt_le {s : State} (hI : Inv s) : lagAmt s.toHeap ≤ 1 := by
  have := hI.glob.lag
  unfold lagAmt; omega

theorem budget_le {s : State} (hI : Inv s) (n : Nat) : budget n s ≤ 2 * n + 1 := by
  have := lagAmt_le hI
  unfold budget; omega

theorem phi_lt_F {s : State} (hI : Inv s) (n : Nat) : phi n s < F n :=
  potential_lt (sumCr_le n s) (Nat.lt_succ_self _) (budget_le hI n)

theorem completed_le_tau (s : State) (t : Nat) : completed s ≤ completed (tau s t) := by
  have H := step_spec s (.tau t)
  show _ ≤ completed (step s (.tau t))
  generalize step s (.tau t) = s' at H
  cases H with
  | skip => exact Nat.le_refl _
  | move => rw [completed_lift]; omega

theorem phi_frame (n : Nat) (hmu : muPc h' = muPc s.toHeap) (hlag : lagAmt h' = lagAmt s.toHeap) (hp5 : isP5 p' = isP5 (s.pc t)) :
    (cr (lift s t h' p' evs) t ≤ cr s t → phi n (lift s t h' p' evs) ≤ phi n s) ∧
    (t < n → cr (lift s t h' p' evs) t < cr s t → phi n (lift s t h' p' evs) < phi n s) := by
  have hbud : budget n (lift s t h' p' evs) = budget n s := by
    rw [budget_lift, nP5_lift n hp5, hlag]; rfl
  have hle : cr (lift s t h' p' evs) t ≤ cr s t → ∀ i, i < n → cr (lift s t h' p' evs) i ≤ cr s i := fun hc i _ => by
    by_cases e : i = t
    · subst e; exact hc
    · exact Nat.le_of_eq (cr_lift_other hmu e)
  unfold phi; rw [hbud]
  exact ⟨fun hc => Nat.add_le_add_right (sumTo_mono (hle hc)) _,
    fun ht hc => Nat.add_lt_add_right (sumTo_lt ht (hle (Nat.le_of_lt hc)) hc) _⟩

theorem phi_budget_dec {s s' : State} {n : Nat} (hb : budget n s' + 1 ≤ budget n s) :
    phi n s' < phi n s := by
  have h1 := sumCr_le n s'
  have h2 := Nat.mul_le_mul_left (K * n + 1) hb
  rw [Nat.mul_add_one] at h2
  unfold phi; omega

theorem budget_link (hI : Inv s) {n : Nat} (ht : t < n) (hc : h'.chain.length = s.chain.length + 1) (hti : h'.ti = s.ti)
    (h1 : isP5 (s.pc t) = false) (h2 : isP5 p' = true) : budget n (lift s t h' p' evs) + 1 ≤ budget n s := by
  have e := nP5_lift_lt (h' := h') (evs := evs) ht h1 h2
  have le := nP5_le n (lift s t h' p' evs)
  have hl : s.ti < s.chain.length := List.lt_length_of_getElem? hI.glob.tl
  rw [budget_lift, lagAmt, hc, hti]; unfold budget lagAmt; omega

/-- `CAS(q.tail, tl, x)` takes a unit off the budget if it succeeds and leaves the heap as it is if it fails. -/
theorem phi_swing {n tl x : Nat} (hI' : Inv (lift s t (swing s.toHeap tl x) p' evs)) (ht : t < n)
    (hp5 : isP5 p' = isP5 (s.pc t)) (hd : cr (lift s t (swing s.toHeap tl x) p' evs) t < cr s t) :
    phi n (lift s t (swing s.toHeap tl x) p' evs) < phi n s := by
  unfold swing at hI' hd ⊢
  by_cases h : s.tail = tl
  · rw [if_pos h] at hI' ⊢
    have hl : s.ti + 1 < s.chain.length := List.lt_length_of_getElem? hI'.glob.tl
    refine phi_budget_dec ?_
    rw [budget_lift, nP5_lift n hp5]; dsimp only [budget, lagAmt]; omega
  · rw [if_neg h] at hd ⊢
    exact (phi_frame n rfl rfl hp5).2 ht hd

end

theorem cr_busy {s : State} {t : Nat} (hb : busy s t) : cr s t = mu s t := if_neg hb

theorem ThStep.dichotomy {s : State} (hI : Inv s) {t n : Nat} (ht : t < n) (hb : busy s t) {h' : Heap} {p' : Pc}
    {evs : List LEv} (hs : ThStep s.toHeap t (.tau t) (s.pc t) h' p' evs) :
    completed s < completed (lift s t h' p' evs) ∨ phi n (lift s t h' p' evs) < phi n s := by
  have hd : p' ≠ .idle → cr (lift s t h' p' evs) t < cr s t := fun hp' => by
    rw [cr_busy hb, cr_busy (s := lift s t h' p' evs) fun e => hp' ((upd_same ..).symm.trans e), mu_lift]
    exact hs.mu_lt hI.glob (hI.loc t)
  have hI' := hs.inv hI
  generalize hp : s.pc t = p at hs
  cases hs with
  | loc hs => exact .inr ((phi_frame n rfl rfl (hp ▸ hs.not_p5.1)).2 ht (hd hs.not_p5.2))
  | link => exact .inr (phi_budget_dec (budget_link hI ht (by simp) rfl (by rw [hp]; rfl) rfl))
  | p4h | d5h => exact .inr (phi_swing hI' ht (by rw [hp]; rfl) (hd nofun))
  | obs => exact .inr ((phi_frame n rfl rfl (by rw [hp]; rfl)).2 ht (hd nofun))
  | p5 | empty | take => exact .inl (completed_lt (Nat.succ_pos _))

theorem tau_dichotomy {s : State} (hI : Inv s) {t n : Nat} (ht : t < n) (hb : busy s t) :
    completed s < completed (tau s t) ∨ phi n (tau s t) < phi n s := by
  obtain ⟨h', p', evs, hs, e⟩ := step_spec_busy hI hb
  rw [e]
  exact hs.dichotomy hI ht hb

/-- 1 for a `tau` step, 0 for an invocation: `nTau` counts the `tau` steps of a schedule. -/
def tw : Act → Nat
  | .tau _ => 1
  | _ => 0

def nTau : List Act → Nat
  | [] => 0
  | a :: as => tw a + nTau as

/-- a `tau` step must be taken by a thread `< n` that is busy at that moment; invocations are
    unrestricted (any thread, any time — an ill-timed one is a no-op of the model). -/
def okAct (n : Nat) (s : State) : Act → Prop
  | .tau t => busy s t ∧ t < n
  | _ => True

instance (n : Nat) (s : State) : (a : Act) → Decidable (okAct n s a)
  | .tau _ => by unfold okAct; infer_instance
  | .invPush _ _ => isTrue trivial
  | .invPop _ => isTrue trivial

def Sched (n : Nat) : State → List Act → Prop
  | _, [] => True
  | s, a :: as => okAct n s a ∧ Sched n (step s a) as

instance (n : Nat) : (s : State) → (as : List Act) → Decidable (Sched n s as)
  | _, [] => isTrue trivial
  | s, a :: as =>
    have := instDecidableSched n (step s a) as
    by unfold Sched; infer_instance

/-- an invocation does not raise the potential: the credit `K` of the idle thread pays for any `mu`. -/
theorem invoke_phi (s : State) (n : Nat) {a : Act} (ha : tw a = 0) :
    phi n (step s a) ≤ phi n s ∧ completed (step s a) = completed s := by
  have H := step_spec s a
  generalize step s a = s' at H
  cases H with
  | skip => exact ⟨Nat.le_refl _, rfl⟩
  | move hs =>
    cases a with
    | tau t => cases ha
    | invPush t v | invPop t =>
      generalize hp : s.pc _ = p at hs
      cases hs
      refine ⟨(phi_frame n (by rfl) (by rfl) ?_).1 ?_, completed_lift⟩
      · rw [hp]; rfl
      · show _ ≤ cr s t
        rw [show cr s t = K from if_pos hp]; exact cr_le_K _ _

theorem amortized_step {s : State} (hI : Inv s) {n : Nat} {a : Act} (ha : okAct n s a) :
    tw a + phi n (step s a) + F n * completed s ≤ phi n s + F n * completed (step s a) := by
  have hinv := invoke_phi s n (a := a)
  cases a with
  | invPush t v | invPop t =>
    obtain ⟨h1, h2⟩ := hinv rfl
    rw [h2]; simp only [tw]; omega
  | tau t =>
    obtain ⟨hb, ht⟩ := ha
    show 1 + phi n (tau s t) + F n * completed s ≤ phi n s + F n * completed (tau s t)
    cases tau_dichotomy hI ht hb with
    | inl h => exact amort_ret (phi_lt_F (inv_step hI (.tau t)) n) h
    | inr h => exact amort_dec h (completed_le_tau s t)

theorem amortized (n : Nat) : ∀ (as : List Act) (s : State), Inv s → Sched n s as →
    nTau as + phi n (run s as) + F n * completed s ≤ phi n s + F n * completed (run s as) := by
  intro as
  induction as with
  | nil => intro s _ _; show 0 + phi n s + F n * completed s ≤ phi n s + F n * completed s; omega
  | cons a as ih =>
    intro s hI hs
    have h1 := amortized_step hI hs.1
    have h2 := ih (step s a) (inv_step hI a) hs.2
    show tw a + nTau as + phi n (run (step s a) as) + _ ≤ _ + F n * completed (run (step s a) as)
    omega

/-- **Lock-freedom, system-wide, with interleaved invocations** (from any state satisfying the
    invariant): in every window containing at least `m * F n` `tau` steps — each taken by an
    arbitrary busy thread with id `< n`, interleaved with arbitrary invocations — at least `m`
    operations complete. -/
theorem lock_free_window {s : State} (hI : Inv s) {n : Nat} {as : List Act} (hs : Sched n s as)
    (m : Nat) (hlen : m * F n ≤ nTau as) : completed s + m ≤ completed (run s as) :=
  amort_window (amortized n as s hI hs) (phi_lt_F hI n) hlen

theorem nTau_map_tau : ∀ ts : List Nat, nTau (ts.map .tau) = ts.length
  | [] => rfl
  | t :: ts => by
    show 1 + nTau (ts.map .tau) = ts.length + 1
    rw [nTau_map_tau ts]; omega

theorem sched_map_tau {n : Nat} : ∀ (ts : List Nat) (s : State), (∀ t ∈ ts, t < n) →
    BusySched s ts → Sched n s (ts.map .tau)
  | [], _, _, _ => trivial
  | t :: ts, s, hn, hs =>
    ⟨⟨hs.1, hn t List.mem_cons_self⟩,
     sched_map_tau ts (tau s t) (fun u hu => hn u (List.mem_cons_of_mem _ hu)) hs.2⟩

/-- **Lock-freedom, system-wide**: from every state satisfying the invariant, under ANY interleaving of the steps
    of busy threads with ids `< n`, some operation returns within `F n` steps. -/
theorem lock_free_global {s : State} (hI : Inv s) {ts : List Nat} {n : Nat} (hn : ∀ t ∈ ts, t < n) (hs : BusySched s ts)
    (hlen : F n ≤ ts.length) : completed s < completed (ts.foldl tau s) := by
  have h := lock_free_window hI (sched_map_tau ts _ hn hs) 1 (by rw [nTau_map_tau]; omega)
  rw [run, List.foldl_map] at h
  exact h

def pushPop : List Act := [.invPush 0 1, .invPop 1]

/-- the two threads alternate; both are busy at each of the 8 steps, and the 8th step completes an operation (the Pop returns
    "empty": it read `head.next` before the Push linked its node). -/
example : BusySched (run init pushPop) [0, 1, 0, 1, 0, 1, 0, 1] ∧
    (∀ t ∈ [0, 1, 0, 1, 0, 1, 0, 1], t < 2) ∧
    completed (run init pushPop) = 0 ∧
    completed ([0, 1, 0, 1, 0, 1, 0].foldl tau (run init pushPop)) = 0 ∧
    completed ([0, 1, 0, 1, 0, 1, 0, 1].foldl tau (run init pushPop)) = 1 := by decide

/-- round-robin clients: thread 0 pushes forever, thread 1 pops forever (each re-invokes as soon as
    it is idle, otherwise takes a step). -/
def rr : Nat → State → List Act
  | 0, _ => []
  | k + 1, s =>
    let a0 := if s.pc 0 = .idle then Act.invPush 0 7 else .tau 0
    let a1 := if (step s a0).pc 1 = .idle then Act.invPop 1 else .tau 1
    a0 :: a1 :: rr k (step (step s a0) a1)

/-- ALL hypotheses of `lock_free_window` hold together on a concrete window (n = 2, `F 2 = 162`):
    100 round-robin rounds are a valid schedule with 166 ≥ 162 `tau` steps. -/
theorem rr_hyps : Sched 2 init (rr 100 init) ∧ 1 * F 2 ≤ nTau (rr 100 init) := by
  decide +kernel

/-- ... so the theorem applies (not by evaluation) and yields a completed operation. -/
example : completed init + 1 ≤ completed (run init (rr 100 init)) :=
  lock_free_window inv_init rr_hyps.1 1 rr_hyps.2

end Got.Model.MSQueue
