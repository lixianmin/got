import Got.Lemmas.SortAstQuick
import Got.Lemmas.SortAstHeap
import Got.Lemmas.SortAstPivot
import Got.Lemmas.SortQuick
/-
Translator tie of C15, assembly: the generated program `Got.Generated.AstSortxSort.prog` is a callee table as the
refinement statements of the single functions want it, and the depth budget it is run with is in range.  With it,
doPivot_func as translated, run in `prog`, is the model's `doPivot` (`doPivot_translated`, which C15 restates);
`doPivot_translated_perm` carries over what `doPivot_run` (SortBounds) gives for ANY less function.
-/
namespace Got.Lemmas.SortAst
open Got.Model.MiniGoSort Got.Model.Sort Got.Model.SortAst
open Got.Generated.AstSortxSort Got.Lemmas.Sort

variable {K V : Type}

theorem prog_insertionSort : prog "insertionSort_func" = some insertionSort_func := by rfl
theorem prog_siftDown : prog "siftDown_func" = some siftDown_func := by rfl
theorem prog_heapSort : prog "heapSort_func" = some heapSort_func := by rfl
theorem prog_medianOfThree : prog "medianOfThree_func" = some medianOfThree_func := by rfl
theorem prog_doPivot : prog "doPivot_func" = some doPivot_func := by rfl
theorem prog_quickSort : prog "quickSort_func" = some quickSort_func := by rfl
theorem prog_maxDepth : prog "maxDepth" = some Got.Generated.AstSortxSort.maxDepth := by rfl

theorem callees (less : LessFn K V) : Callees prog less where
  hPi := prog_insertionSort
  hPh := prog_heapSort
  hPd := prog_doPivot
  hPq := prog_quickSort
  heap := fun a b s hab hb => heapSort_runs prog prog_siftDown less a b hab hb s
  pivot := fun lo hi s h hh => doPivot_runs prog prog_medianOfThree less lo hi h hh s

theorem maxDepth_small (n : Nat) (hn : n < B62) : Got.Model.Sort.maxDepth n < B62 := by
  obtain ⟨k, h1, _, h3⟩ := Got.Lemmas.Sort.maxDepth_spec n
  have : k ≤ 62 := h3 62 (by unfold B62 at hn; omega)
  unfold B62; omega

theorem doPivot_translated (less : LessFn K V) (lo hi : Nat) (h : lo + 3 ≤ hi) (hhi : hi < B62) (s : St K V) :
    ∃ f0, ∀ f, f0 ≤ f →
      doPivot_func.run (sortWorld less) prog f [(lo : Int), (hi : Int)] s =
        some ([(((doPivot less lo hi s).1 : Nat) : Int), (((doPivot less lo hi s).2.1 : Nat) : Int)],
          (doPivot less lo hi s).2.2) := by
  exact run_of_FnRuns_nat (ns := [lo, hi]) rfl rfl
    (forall_lt_cons (Nat.lt_of_le_of_lt (Nat.le_trans (Nat.le_add_right lo 3) h) hhi) (forall_lt_cons hhi nofun))
    ((callees less).pivot lo hi s h hhi)

/-- the translated doPivot_func with an ARBITRARY less function on a range `[lo,hi)` of at least three elements inside
    both slices terminates with `lo ≤ midlo < hi`, `lo ≤ midhi ≤ hi`; the (key, value) pairs at equal indices are
    permuted, both slices keep their length, nothing outside `[lo,hi)` is touched, every index passed to Less or Swap
    lies in `[lo,hi)` (the log only grows, by such events), and at most `2·(hi-lo) + 15` comparisons are made -/
theorem doPivot_translated_perm (less : LessFn K V) (lo hi : Nat) (s : St K V)
    (h : lo + 3 ≤ hi) (hbk : hi ≤ s.keys.size) (hbv : hi ≤ s.vals.size) (hhi : hi < B62) :
    ∃ f0, ∀ f, f0 ≤ f → ∃ (mlo mhi : Nat) (s' : St K V),
      doPivot_func.run (sortWorld less) prog f [(lo : Int), (hi : Int)] s = some ([(mlo : Int), (mhi : Int)], s') ∧
      lo ≤ mlo ∧ mlo < hi ∧ lo ≤ mhi ∧ mhi ≤ hi ∧ mlo ≤ mhi ∧
      (s'.keys.zip s'.vals).Perm (s.keys.zip s.vals) ∧
      s'.keys.size = s.keys.size ∧ s'.vals.size = s.vals.size ∧
      (∀ k, k < lo ∨ hi ≤ k → s'.keys[k]? = s.keys[k]? ∧ s'.vals[k]? = s.vals[k]?) ∧
      (∃ evs, s'.log = evs ++ s.log ∧ ∀ e ∈ evs, match e with
        | .less i j _ => lo ≤ i ∧ i < hi ∧ lo ≤ j ∧ j < hi
        | .swap i j => lo ≤ i ∧ i < hi ∧ lo ≤ j ∧ j < hi) ∧
      lessCount s'.log ≤ lessCount s.log + 2 * (hi - lo) + 15 := by
  obtain ⟨⟨st, c1⟩, ⟨b1, b2, b3, b4⟩, c2⟩ := doPivot_run less lo hi s h
  obtain ⟨hperm, hk, hv, hout, hlog⟩ := st.summary hbk hbv
  -- `doPivot_run` counts `+ 3 + 12` with the ninther and `+ 3 + 3` without: 15 covers both
  have hcost : lessCount (doPivot less lo hi s).2.2.log ≤ lessCount s.log + 2 * (hi - lo) + 15 := by
    unfold cnt at c1
    split at c1 <;> omega
  exact Evt.mono (doPivot_translated less lo hi h hhi s) fun f hrun =>
    ⟨_, _, _, hrun, b1, b2, b3, b4, c2, hperm, hk, hv, hout, hlog, hcost⟩

/-- non-vacuity: a concrete run of the generated term (pivot 5 ends at index 3; zones `[0,3)`, `[3,4)`, `[4,5)`) -/
example : (doPivot_func.run (sortWorld (stdLess (fun (x y : Int) => decide (x < y)))) prog 200 [0, 5]
    ({ keys := #[5, 3, 9, 1, 4], vals := #[0, 1, 2, 3, 4], log := [] } : St Int Nat)).map
      (fun r => (r.1, r.2.keys, r.2.vals, lessCount r.2.log)) =
    some ([3, 4], #[1, 3, 4, 5, 9], #[3, 1, 4, 0, 2], 6) := by decide

end Got.Lemmas.SortAst
