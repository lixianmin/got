import Got.Lemmas.SortAstPivotLoops
/-
Translator tie of C15 for doPivot_func.  The proof follows the model's cut into phases (`choosePivot`, `partitionPhase`,
`dupProbe1/2/3`, `dupPhase`, `protectLoop`, final swap): one lemma per phase about the corresponding statements of the
generated term, put together in `doPivot_runs` along `doPivot_body`.
-/
namespace Got.Lemmas.SortAst
open Got.Model.MiniGoSort Got.Model.Sort Got.Model.SortAst
open Got.Generated.AstSortxSort Got.Lemmas.Sort

variable {K V : Type}

/-- a round of `partLoop` or `protectLoop` narrows the gap between the two loop indices: the measure of their inductions -/
theorem round_measure {b c rb rc : Nat} (h1 : b ≤ rb) (h2 : rc ≤ c) (h : rb < rc) : rc - 1 - (rb + 1) < c - b := by
  omega

/-- on numbers alone, so that `omega` does not see the environment facts of the callers -/
theorem round_bounds {l h c : Nat} (hlt : l < h) (hh : h ≤ c) (hc : c < B62) :
    l < B62 ∧ h < B62 ∧ 1 ≤ h ∧ h - 1 < B62 := by
  unfold B62 at *
  omega

def partLoopStmt : Stmt :=
  .loop .tt [ scanUpNotGtStmt, scanDownGtStmt, .ite (.le (.var 8) (.var 9)) [.brk] [],
              .swap (.var 9) (.sub (.var 8) (.lit 1)), .set 9 (.add (.var 9) (.lit 1)), .set 8 (.sub (.var 8) (.lit 1)) ] []

theorem partLoop_runs (P : String → Option Fn) (less : LessFn K V) (pivot : Nat) (hp : pivot < B62)
    {lo hi ml mh m t a prot d : Int} :
    ∀ (n b c : Nat) (env : Env) (s : St K V), c - b = n → c < B62 →
      Frame [lo, hi, ml, mh, m, t, pivot, a, c, b, prot, d] env →
      ∃ env', Frame [lo, hi, ml, mh, m, t, pivot, a, ((partLoop less pivot b c s).2.1 : Nat),
          ((partLoop less pivot b c s).1 : Nat), prot, d] env' ∧
        Seg (sortWorld less) P [partLoopStmt] env s env' (partLoop less pivot b c s).2.2 := by
  intro n
  induction n using Nat.strongRecOn with
  | _ n ih =>
    intro b c env s hn hc h
    have hb1 := scanUpNotGt_fst less pivot c b s
    obtain ⟨env1, g1, hk1⟩ := scanUpNotGt_runs P less pivot c hp hc b s env h
    have hc1 := scanDownGt_fst less pivot (scanUpNotGt less pivot c b s).1 c (scanUpNotGt less pivot c b s).2
    obtain ⟨env2, g2, hk2⟩ := scanDownGt_runs P less pivot (scanUpNotGt less pivot c b s).1 hp
      c env1 (scanUpNotGt less pivot c b s).2 hc g1
    rw [partLoop]
    generalize scanUpNotGt less pivot c b s = rb at *
    generalize scanDownGt less pivot rb.1 c rb.2 = rc at *
    have hseg : Seg (sortWorld less) P [scanUpNotGtStmt, scanDownGtStmt] env s env2 rc.2 := Seg.trans hk1 hk2
    have hle := evalC_le_nat (W := sortWorld less) rc.2 (g2.var 8 rfl) (g2.var 9 rfl)
    split
    · rename_i hge
      exact ⟨env2, g2, Seg.loop_brk rfl
        (hseg _ _ (Runs.ite_leave (hle (decide_eq_true (show rc.1 ≤ rb.1 from hge))) Runs.brk nofun))⟩
    · rename_i hge
      have hlt : rb.1 < rc.1 := Nat.lt_of_not_ge hge
      have hm := round_measure hb1.1 hc1.1 hlt
      have hrc : rc.1 ≤ c := hc1.1
      clear hb1 hc1
      subst hn
      obtain ⟨hrbB, hrcB, h1rc, hrc1B⟩ := round_bounds hlt hrc hc
      have e8 := eval_sub1 (g2.get 8 rfl) hrcB h1rc
      obtain ⟨env3, g3, hk3⟩ := ih ((rc.1 - 1) - (rb.1 + 1)) hm (rb.1 + 1) (rc.1 - 1) _ (rc.2.swap rb.1 (rc.1 - 1))
        rfl hrc1B ((g2.set 9 ((rb.1 + 1 : Nat) : Int)).set 8 ((rc.1 - 1 : Nat) : Int))
      exact ⟨env3, g3, Seg.loop_iter rfl (hseg.trans (Seg.trans
        (Seg.ite (hle (decide_eq_false (show ¬ rc.1 ≤ rb.1 from hge))) Seg.nil)
        (Seg.trans (Seg.swapAt rc.2 (g2.var 9 rfl) e8 hrbB hrc1B)
          (Seg.trans (Seg.set (eval_add1 (g2.get 9 rfl) hrbB))
            (Seg.set (eval_sub1 ((g2.set 9 _).get 8 rfl) hrcB h1rc)))))) Seg.nil hk3⟩

def protectLoopStmt : Stmt :=
  .loop .tt [ scanDownNotLtStmt, scanUpLtStmt 9, .ite (.le (.var 9) (.var 7)) [.brk] [],
              .swap (.var 7) (.sub (.var 9) (.lit 1)), .set 7 (.add (.var 7) (.lit 1)), .set 9 (.sub (.var 9) (.lit 1)) ] []

theorem protectLoop_runs (P : String → Option Fn) (less : LessFn K V) (pivot : Nat) (hp : pivot < B62)
    {lo hi ml mh m t c prot d : Int} :
    ∀ (n a b : Nat) (env : Env) (s : St K V), b - a = n → b < B62 →
      Frame [lo, hi, ml, mh, m, t, pivot, a, c, b, prot, d] env →
      ∃ env', Frame [lo, hi, ml, mh, m, t, pivot, ((protectLoop less pivot a b s).1 : Nat), c,
          ((protectLoop less pivot a b s).2.1 : Nat), prot, d] env' ∧
        Seg (sortWorld less) P [protectLoopStmt] env s env' (protectLoop less pivot a b s).2.2 := by
  intro n
  induction n using Nat.strongRecOn with
  | _ n ih =>
    intro a b env s hn hb h
    have hb1 := scanDownNotLt_fst less pivot a b s
    obtain ⟨env1, g1, hk1⟩ := scanDownNotLt_runs P less pivot a hp b env s hb h
    have ha1 := scanUpLt_fst less pivot (scanDownNotLt less pivot a b s).1 a (scanDownNotLt less pivot a b s).2
    obtain ⟨env2, g2, hk2⟩ := scanUpLt_runs P less 9 (by decide) pivot (scanDownNotLt less pivot a b s).1 hp
      (Nat.lt_of_le_of_lt hb1.1 hb) a (scanDownNotLt less pivot a b s).2 env1 g1 rfl
    rw [protectLoop]
    generalize scanDownNotLt less pivot a b s = rb at *
    generalize scanUpLt less pivot rb.1 a rb.2 = ra at *
    have hseg : Seg (sortWorld less) P [scanDownNotLtStmt, scanUpLtStmt 9] env s env2 ra.2 := Seg.trans hk1 hk2
    have hle := evalC_le_nat (W := sortWorld less) ra.2 (g2.var 9 rfl) (g2.var 7 rfl)
    split
    · rename_i hge
      exact ⟨env2, g2, Seg.loop_brk rfl
        (hseg _ _ (Runs.ite_leave (hle (decide_eq_true (show rb.1 ≤ ra.1 from hge))) Runs.brk nofun))⟩
    · rename_i hge
      have hlt : ra.1 < rb.1 := Nat.lt_of_not_ge hge
      have hm := round_measure ha1.1 hb1.1 hlt
      have hrb : rb.1 ≤ b := hb1.1
      clear hb1 ha1
      subst hn
      obtain ⟨hraB, hrbB, h1rb, hrb1B⟩ := round_bounds hlt hrb hb
      have e9 := eval_sub1 (g2.get 9 rfl) hrbB h1rb
      obtain ⟨env3, g3, hk3⟩ := ih ((rb.1 - 1) - (ra.1 + 1)) hm (ra.1 + 1) (rb.1 - 1) _ (ra.2.swap ra.1 (rb.1 - 1))
        rfl hrb1B ((g2.set 7 ((ra.1 + 1 : Nat) : Int)).set 9 ((rb.1 - 1 : Nat) : Int))
      exact ⟨env3, g3, Seg.loop_iter rfl (hseg.trans (Seg.trans
        (Seg.ite (hle (decide_eq_false (show ¬ rb.1 ≤ ra.1 from hge))) Seg.nil)
        (Seg.trans (Seg.swapAt ra.2 (g2.var 7 rfl) e9 hraB hrb1B)
          (Seg.trans (Seg.set (eval_add1 (g2.get 7 rfl) hraB))
            (Seg.set (eval_sub1 ((g2.set 7 _).get 9 rfl) hrbB h1rb)))))) Seg.nil hk3⟩

/-- the literal `40` of the generated term is the model's threshold (both regenerated from the same source) -/
theorem thrNinther_eq : thrNinther = 40 := by decide

def nintherStmts : List Stmt :=
  [ .set 5 (.divC (.sub (.var 1) (.var 0)) 8),
    .call "medianOfThree_func" [(.var 0), (.add (.var 0) (.var 5)), (.add (.var 0) (.mul (.lit 2) (.var 5)))] [],
    .call "medianOfThree_func" [(.var 4), (.sub (.var 4) (.var 5)), (.add (.var 4) (.var 5))] [],
    .call "medianOfThree_func" [(.sub (.var 1) (.lit 1)), (.sub (.sub (.var 1) (.lit 1)) (.var 5)),
      (.sub (.sub (.var 1) (.lit 1)) (.mul (.lit 2) (.var 5)))] [] ]

def choosePivotStmts : List Stmt :=
  [ .set 2 (.lit 0), .set 3 (.lit 0), .set 4 (.conv (.shrU (.conv (.add (.var 0) (.var 1))) 1)),
    .ite (.lt (.lit 40) (.sub (.var 1) (.var 0))) nintherStmts [],
    .call "medianOfThree_func" [(.var 0), (.var 4), (.sub (.var 1) (.lit 1))] [] ]

/-- `int(uint(a+b) >> 1)` is the midpoint -/
theorem eval_mid {env : Env} {x y a b : Nat} (hx : env.get x = (a : Int)) (hy : env.get y = (b : Int))
    (h : a + b < 9223372036854775808) :
    eval env (.conv (.shrU (.conv (.add (.var x) (.var y))) 1)) = (((a + b) / 2 : Nat) : Int) := by
  simp (disch := omega) only [eval, hx, hy, wrap_eq, Int.reducePow]
  omega

/-- the ninther: Go's `s := (hi-lo)/8`, here `t`, and three medians of three around `lo`, `m`, `hi-1`, each `t` apart -/
theorem ninther_runs (P : String → Option Fn) (hPm : P "medianOfThree_func" = some medianOfThree_func)
    (less : LessFn K V) (lo hi m t : Nat) (hm : m = (lo + hi) / 2) (ht : t = (hi - lo) / 8) (hlo : lo + 3 ≤ hi) (hhi : hi < B62)
    {x2 x3 x5 x6 x7 x8 x9 x10 x11 : Int} (env : Env) (s : St K V)
    (h : Frame [lo, hi, x2, x3, m, x5, x6, x7, x8, x9, x10, x11] env) :
    ∃ env', Frame [lo, hi, x2, x3, m, t, x6, x7, x8, x9, x10, x11] env' ∧
      Seg (sortWorld less) P nintherStmts env s env'
        (medianOfThree less (hi - 1) (hi - 1 - t) (hi - 1 - 2 * t)
          (medianOfThree less m (m - t) (m + t) (medianOfThree less lo (lo + t) (lo + 2 * t) s))) := by
  -- every index that occurs is at most `hi`, hence below `B62` and far from overflow
  obtain ⟨b1, b2, b3, h2t', t1, t2, htm, h1hi⟩ : (lo < B62 ∧ lo + t < B62 ∧ lo + 2 * t < B62) ∧
      (m < B62 ∧ m - t < B62 ∧ m + t < B62) ∧ (hi - 1 < B62 ∧ hi - 1 - t < B62 ∧ hi - 1 - 2 * t < B62) ∧ 2 * t < B62 ∧
      t ≤ hi - 1 ∧ 2 * t ≤ hi - 1 ∧ t ≤ m ∧ 1 ≤ hi := by
    unfold B62 at *
    omega
  clear hm
  have lt63 : ∀ {n : Nat}, n < B62 → n < 9223372036854775808 := fun h => Nat.lt_trans h (by decide)
  have e5 : eval env (.divC (.sub (.var 1) (.var 0)) 8) = (t : Int) :=
    ht ▸ eval_divC (eval_sub (h.var 1 rfl) (h.var 0 rfl) (Nat.le_trans (Nat.le_add_right lo 3) hlo) hhi)
      (Nat.lt_of_le_of_lt (Nat.sub_le _ _) hhi)
  clear ht
  have g := h.set 5 (t : Int)
  have v0 : eval (env.set 5 (t : Int)) (.var 0) = (lo : Int) := g.get 0 rfl
  have v1 : eval (env.set 5 (t : Int)) (.var 1) = (hi : Int) := g.get 1 rfl
  have v4 : eval (env.set 5 (t : Int)) (.var 4) = (m : Int) := g.get 4 rfl
  have v5 : eval (env.set 5 (t : Int)) (.var 5) = (t : Int) := g.get 5 rfl
  have vh := eval_sub v1 (eval_lit (env := env.set 5 (t : Int)) 1) h1hi hhi
  have v2t := eval_mul (eval_lit (env := env.set 5 (t : Int)) 2) v5 (lt63 h2t')
  exact ⟨_, g, Seg.trans (Seg.set e5) (Seg.trans
    (medianOfThree_call P hPm less v0 (eval_add v0 v5 (lt63 b1.2.1)) (eval_add v0 v2t (lt63 b1.2.2)) b1 s)
    (Seg.trans (medianOfThree_call P hPm less v4 (eval_sub v4 v5 htm b2.1) (eval_add v4 v5 (lt63 b2.2.2)) b2 _)
      (medianOfThree_call P hPm less vh (eval_sub vh v5 t1 b3.1) (eval_sub vh v2t t2 b3.1) b3 _)))⟩

/-- `m := int(uint(lo+hi) >> 1)`, the ninther for long ranges, the median of three; the pivot ends at `lo`.
    Go's `s` (variable 5, the `t` of `ninther_runs`) is assigned in the ninther only: whatever it holds afterwards is `t'`. -/
theorem choosePivot_runs (P : String → Option Fn) (hPm : P "medianOfThree_func" = some medianOfThree_func)
    (less : LessFn K V) (lo hi : Nat) (h : lo + 3 ≤ hi) (hhi : hi < B62)
    {x2 x3 x4 x5 x6 x7 x8 x9 x10 x11 : Int} (env : Env) (s : St K V)
    (g : Frame [lo, hi, x2, x3, x4, x5, x6, x7, x8, x9, x10, x11] env) :
    ∃ env' t', Frame [lo, hi, ((0 : Nat) : Int), ((0 : Nat) : Int), (((lo + hi) / 2 : Nat) : Int), t', x6, x7, x8, x9, x10,
        x11] env' ∧
      Seg (sortWorld less) P choosePivotStmts env s env' (choosePivot less lo hi s) := by
  have hlh : lo ≤ hi := Nat.le_trans (Nat.le_add_right lo 3) h
  obtain ⟨m, hm⟩ : ∃ m, m = (lo + hi) / 2 := ⟨_, rfl⟩
  obtain ⟨h1hi, hbs⟩ : 1 ≤ hi ∧ (lo < B62 ∧ m < B62 ∧ hi - 1 < B62) := by
    unfold B62 at *
    omega
  have g3 := (g.set 2 ((0 : Nat) : Int)).set 3 ((0 : Nat) : Int)
  have e4 := eval_mid (g3.get 0 rfl) (g3.get 1 rfl) (Nat.add_lt_add hbs.1 hhi)
  unfold choosePivot
  simp only [thrNinther_eq, divNinther_eq]
  rw [← hm] at e4 ⊢
  have g4 := g3.set 4 (m : Int)
  have hpre : Seg (sortWorld less) P
      [.set 2 (.lit 0), .set 3 (.lit 0), .set 4 (.conv (.shrU (.conv (.add (.var 0) (.var 1))) 1))] env s _ s :=
    Seg.trans (Seg.set (eval_lit 0)) (Seg.trans (Seg.set (eval_lit 0)) (Seg.set e4))
  have hcnd := evalC_lt_nat (W := sortWorld less) s (eval_lit 40)
    (eval_sub (g4.var 1 rfl) (g4.var 0 rfl) hlh hhi)
  -- the final median of three, from any environment that still holds lo, hi, m
  have hlast : ∀ {t' : Int} (env4 : Env) (s4 : St K V),
      Frame [lo, hi, ((0 : Nat) : Int), ((0 : Nat) : Int), m, t', x6, x7, x8, x9, x10, x11] env4 →
      Seg (sortWorld less) P [.call "medianOfThree_func" [(.var 0), (.var 4), (.sub (.var 1) (.lit 1))] []] env4 s4 env4
        (medianOfThree less lo m (hi - 1) s4) := fun env4 s4 q =>
    medianOfThree_call P hPm less (q.var 0 rfl) (q.var 4 rfl)
      (eval_sub (q.var 1 rfl) (eval_lit 1) h1hi hhi) hbs s4
  by_cases hn : hi - lo > 40
  · rw [if_pos hn]
    obtain ⟨env4, q, hk⟩ := ninther_runs P hPm less lo hi m ((hi - lo) / 8) hm rfl h hhi _ s g4
    exact ⟨env4, _, q, hpre.trans (Seg.trans (Seg.ite (b := true) (hcnd (decide_eq_true hn)) hk)
      (hlast env4 _ q))⟩
  · rw [if_neg hn]
    exact ⟨_, _, g4, hpre.trans (Seg.trans (Seg.ite (b := false) (hcnd (decide_eq_false hn)) Seg.nil)
      (hlast _ _ g4))⟩

def partitionStmts : List Stmt :=
  [ .set 6 (.var 0), .set2 7 8 (.add (.var 0) (.lit 1)) (.sub (.var 1) (.lit 1)), scanUpLtStmt 8, .set 9 (.var 7),
    partLoopStmt ]

/-- `pivot := lo; a, c := lo+1, hi-1; for ; a < c && Less(a, pivot); a++ {}; b := a; for { … }`: the rest of the model's
    `partitionPhase` after the pivot has been chosen -/
theorem partition_runs (P : String → Option Fn) (less : LessFn K V) (lo hi : Nat) (h : lo + 3 ≤ hi) (hhi : hi < B62)
    {ml mh m t p0 a0 c0 b0 prot d : Int} (env : Env) (s0 : St K V)
    (g : Frame [lo, hi, ml, mh, m, t, p0, a0, c0, b0, prot, d] env) :
    ∃ env', Frame [lo, hi, ml, mh, m, t, lo, ((partitionPhase less lo hi s0).1 : Nat),
        ((partitionPhase less lo hi s0).2.2.1 : Nat), ((partitionPhase less lo hi s0).2.1 : Nat), prot, d] env' ∧
      Seg (sortWorld less) P partitionStmts env (choosePivot less lo hi s0) env' (partitionPhase less lo hi s0).2.2.2 := by
  unfold partitionPhase
  generalize choosePivot less lo hi s0 = s
  dsimp only
  obtain ⟨hlo, h1hi, hh1⟩ : lo < B62 ∧ 1 ≤ hi ∧ hi - 1 < B62 := by
    unfold B62 at *
    omega
  obtain ⟨e1, g1, k1⟩ := scanUpLt_runs P less 8 (by decide) lo (hi - 1) hlo hh1 (lo + 1) s _
    (((g.set 6 (lo : Int)).set 7 ((lo + 1 : Nat) : Int)).set 8 ((hi - 1 : Nat) : Int)) rfl
  generalize scanUpLt less lo (hi - 1) (lo + 1) s = ra at *
  obtain ⟨e2, g2, k2⟩ := partLoop_runs P less lo hlo _ ra.1 (hi - 1) _ ra.2 rfl hh1 (g1.set 9 ((ra.1 : Nat) : Int))
  exact ⟨e2, g2, Seg.trans (Seg.set (g.var 0 rfl)) (Seg.trans
    (Seg.set2 (eval_add1 ((g.set 6 _).get 0 rfl) hlo) (eval_sub1 ((g.set 6 _).get 1 rfl) hhi h1hi))
    (Seg.trans k1 (Seg.trans (Seg.set (g1.var 7 rfl)) k2)))⟩

/-- `if !data.Less(pivot, hi-1) { data.Swap(c, hi-1); c++; dups++ }` -/
def probe1Stmt : Stmt :=
  .ite (.not (.less (.var 6) (.sub (.var 1) (.lit 1))))
    [.swap (.var 8) (.sub (.var 1) (.lit 1)), .set 8 (.add (.var 8) (.lit 1)), .set 11 (.add (.var 11) (.lit 1))] []

/-- `if !data.Less(b-1, pivot) { b--; dups++ }` -/
def probe2Stmt : Stmt :=
  .ite (.not (.less (.sub (.var 9) (.lit 1)) (.var 6)))
    [.set 9 (.sub (.var 9) (.lit 1)), .set 11 (.add (.var 11) (.lit 1))] []

/-- `if !data.Less(m, pivot) { data.Swap(m, b-1); b--; dups++ }` -/
def probe3Stmt : Stmt :=
  .ite (.not (.less (.var 4) (.var 6)))
    [.swap (.var 4) (.sub (.var 9) (.lit 1)), .set 9 (.sub (.var 9) (.lit 1)), .set 11 (.add (.var 11) (.lit 1))] []

/-- with `dups = 0` before -/
theorem dupProbe1_runs (P : String → Option Fn) (less : LessFn K V) (pivot hi c : Nat) (hp : pivot < B62)
    (hhi : hi < B62) (h1 : 1 ≤ hi) (hc : c < B62) {lo ml mh m t a b prot : Int} (env : Env) (s : St K V)
    (h : Frame [lo, hi, ml, mh, m, t, pivot, a, c, b, prot, ((0 : Nat) : Int)] env) :
    ∃ env', Frame [lo, hi, ml, mh, m, t, pivot, a, ((dupProbe1 less pivot hi c s).1 : Nat), b, prot, ((dupProbe1 less pivot hi c s).2.1 : Nat)] env' ∧
      Seg (sortWorld less) P [probe1Stmt] env s env' (dupProbe1 less pivot hi c s).2.2 := by
  have eh : eval env (.sub (.var 1) (.lit 1)) = ((hi - 1 : Nat) : Int) := eval_sub1 (h.get 1 rfl) hhi h1
  have hcnd := evalC_notLess (less := less) s (h.var 6 rfl) eh hp (by unfold B62 at *; omega)
  unfold dupProbe1
  cases hr : less s pivot (hi - 1)
  · rw [hr] at hcnd
    simp only [Bool.not_false, if_true]
    exact ⟨_, (h.set 8 _).set 11 _, Seg.ite (b := true) hcnd (Seg.trans (Seg.swapAt _ (h.var 8 rfl) eh hc
      (by unfold B62 at *; omega)) (Seg.trans (Seg.set (eval_add1 (h.get 8 rfl) hc))
        (Seg.set (eval_add1 (n := 0) ((h.set 8 _).get 11 rfl) (by decide)))))⟩
  · rw [hr] at hcnd
    simp only [Bool.not_true, Bool.false_eq_true, if_false]
    exact ⟨env, h, Seg.ite (b := false) hcnd Seg.nil⟩

theorem dupProbe2_runs (P : String → Option Fn) (less : LessFn K V) (pivot b dups : Nat) (hp : pivot < B62)
    (hb : b < B62) (h1 : 1 ≤ b) (hd : dups < B62) {lo hi ml mh m t a c prot : Int} (env : Env) (s : St K V)
    (h : Frame [lo, hi, ml, mh, m, t, pivot, a, c, b, prot, dups] env) :
    ∃ env', Frame [lo, hi, ml, mh, m, t, pivot, a, c, ((dupProbe2 less pivot b dups s).1 : Nat), prot, ((dupProbe2 less pivot b dups s).2.1 : Nat)] env' ∧
      Seg (sortWorld less) P [probe2Stmt] env s env' (dupProbe2 less pivot b dups s).2.2 := by
  have eb : eval env (.sub (.var 9) (.lit 1)) = ((b - 1 : Nat) : Int) := eval_sub1 (h.get 9 rfl) hb h1
  have hcnd := evalC_notLess (less := less) s eb (h.var 6 rfl) (by unfold B62 at *; omega) hp
  unfold dupProbe2
  cases hr : less s (b - 1) pivot
  · rw [hr] at hcnd
    simp only [Bool.not_false, if_true]
    exact ⟨_, (h.set 9 _).set 11 _, Seg.ite (b := true) hcnd (Seg.trans (Seg.set eb)
      (Seg.set (eval_add1 ((h.set 9 _).get 11 rfl) hd)))⟩
  · rw [hr] at hcnd
    simp only [Bool.not_true, Bool.false_eq_true, if_false]
    exact ⟨env, h, Seg.ite (b := false) hcnd Seg.nil⟩

theorem dupProbe3_runs (P : String → Option Fn) (less : LessFn K V) (pivot m b dups : Nat) (hp : pivot < B62)
    (hm : m < B62) (hb : b < B62) (h1 : 1 ≤ b) (hd : dups < B62) {lo hi ml mh t a c prot : Int} (env : Env) (s : St K V)
    (h : Frame [lo, hi, ml, mh, m, t, pivot, a, c, b, prot, dups] env) :
    ∃ env', Frame [lo, hi, ml, mh, m, t, pivot, a, c, ((dupProbe3 less pivot m b dups s).1 : Nat), prot, ((dupProbe3 less pivot m b dups s).2.1 : Nat)] env' ∧
      Seg (sortWorld less) P [probe3Stmt] env s env' (dupProbe3 less pivot m b dups s).2.2 := by
  have eb : eval env (.sub (.var 9) (.lit 1)) = ((b - 1 : Nat) : Int) := eval_sub1 (h.get 9 rfl) hb h1
  have hcnd := evalC_notLess (less := less) s (h.var 4 rfl) (h.var 6 rfl) hm hp
  unfold dupProbe3
  cases hr : less s m pivot
  · rw [hr] at hcnd
    simp only [Bool.not_false, if_true]
    exact ⟨_, (h.set 9 _).set 11 _, Seg.ite (b := true) hcnd (Seg.trans (Seg.swapAt _ (h.var 4 rfl) eb hm
      (by unfold B62 at *; omega)) (Seg.trans (Seg.set eb) (Seg.set (eval_add1 ((h.set 9 _).get 11 rfl) hd))))⟩
  · rw [hr] at hcnd
    simp only [Bool.not_true, Bool.false_eq_true, if_false]
    exact ⟨env, h, Seg.ite (b := false) hcnd Seg.nil⟩

def dupStmts : List Stmt :=
  [ .setB 10 (.lt (.sub (.var 1) (.var 8)) (.lit 5)),
    .ite (.and (.not (.bvar 10)) (.lt (.sub (.var 1) (.var 8)) (.divC (.sub (.var 1) (.var 0)) 4)))
      [.set 11 (.lit 0), probe1Stmt, probe2Stmt, probe3Stmt, .setB 10 (.lt (.lit 1) (.var 11))] [] ]

theorem dupProbe_runs (P : String → Option Fn) (less : LessFn K V) (pivot hi m b c : Nat) (hp : pivot < B62)
    (hhi : hi < B62) (h1 : 1 ≤ hi) (hm : m < B62) (hb : b < B62) (h2 : 2 ≤ b) (hc : c < B62) {lo ml mh t a prot d0 : Int}
    (env : Env) (s : St K V) (h : Frame [lo, hi, ml, mh, m, t, pivot, a, c, b, prot, d0] env) :
    ∃ env', Frame [lo, hi, ml, mh, m, t, pivot, a, ((dupProbe less pivot hi m b c s).2.1 : Nat), ((dupProbe less pivot hi m b c s).1 : Nat), prot, ((dupProbe less pivot hi m b c s).2.2.1 : Nat)] env' ∧
      Seg (sortWorld less) P [.set 11 (.lit 0), probe1Stmt, probe2Stmt, probe3Stmt] env s env'
        (dupProbe less pivot hi m b c s).2.2.2 := by
  unfold dupProbe
  dsimp only
  obtain ⟨e1, h1', k1⟩ := dupProbe1_runs P less pivot hi c hp hhi h1 hc _ s (h.set 11 ((0 : Nat) : Int))
  have hd1 := dupProbe1_dups_le less pivot hi c s
  generalize dupProbe1 less pivot hi c s = p1 at h1' k1 hd1 ⊢
  obtain ⟨e2, h2', k2⟩ := dupProbe2_runs P less pivot b p1.2.1 hp hb (Nat.le_of_succ_le h2)
    (Nat.lt_of_le_of_lt hd1 (by decide)) e1 p1.2.2 h1'
  have hd2 := dupProbe2_bounds less pivot b p1.2.1 p1.2.2
  generalize dupProbe2 less pivot b p1.2.1 p1.2.2 = p2 at h2' k2 hd2 ⊢
  obtain ⟨hb1, hb2, hd2'⟩ : 1 ≤ p2.1 ∧ p2.1 < B62 ∧ p2.2.1 < B62 := by
    unfold B62 at *
    omega
  obtain ⟨e3, h3', k3⟩ := dupProbe3_runs P less pivot m p2.1 p2.2.1 hp hm hb2 hb1 hd2' e2 p2.2.2 h2'
  exact ⟨e3, h3', Seg.trans (Seg.set (eval_lit 0)) (Seg.trans k1 (Seg.trans k2 k3))⟩

theorem dupProbe_bounds {lo hi b c : Nat} (h : lo + 3 ≤ hi) (hhi : hi < B62) (hcb : c ≤ b)
    (hbc : b ≤ c + 1) (hgo : ¬ hi - c < 5 ∧ hi - c < (hi - lo) / 4) :
    lo < B62 ∧ 1 ≤ hi ∧ (lo + hi) / 2 < B62 ∧ b < B62 ∧ c < B62 ∧ 2 ≤ b := by
  unfold B62 at *
  omega

/-- `protect := hi-c < 5; if !protect && hi-c < (hi-lo)/4 { dups := 0; …three probes…; protect = dups > 1 }`;
    `dups` (variable 11) is assigned inside the `if` only: whatever it holds afterwards is `d'` -/
theorem dupPhase_runs (P : String → Option Fn) (less : LessFn K V) (lo hi b c : Nat) (h : lo + 3 ≤ hi) (hhi : hi < B62)
    (hc : c ≤ hi - 1) (hcb : c ≤ b) (hbc : b ≤ c + 1) {ml mh t a p0 d0 : Int} (env : Env) (s : St K V)
    (g : Frame [lo, hi, ml, mh, (((lo + hi) / 2 : Nat) : Int), t, lo, a, c, b, p0, d0] env) :
    ∃ env' d', Frame [lo, hi, ml, mh, (((lo + hi) / 2 : Nat) : Int), t, lo, a, ((dupPhase less lo hi b c s).2.1 : Nat),
        ((dupPhase less lo hi b c s).1 : Nat), (if (dupPhase less lo hi b c s).2.2.1 then 1 else 0), d'] env' ∧
      Seg (sortWorld less) P dupStmts env s env' (dupPhase less lo hi b c s).2.2.2 := by
  have hB := hhi
  unfold B62 at hhi
  have hch : c ≤ hi ∧ lo ≤ hi := ⟨Nat.le_trans hc (Nat.sub_le _ _), Nat.le_trans (Nat.le_add_right lo 3) h⟩
  have hprot := evalC_lt_nat (W := sortWorld less) s
    (eval_sub (g.var 1 rfl) (g.var 8 rfl) hch.1 hB) (eval_lit (env := env) 5) rfl
  have g10 := g.set 10 (if decide (hi - c < 5) = true then 1 else 0)
  have hpre : Seg (sortWorld less) P [.setB 10 (.lt (.sub (.var 1) (.var 8)) (.lit 5))] env s _ s := Seg.setB hprot
  have hcond : evalC (sortWorld less) (env.set 10 (if decide (hi - c < 5) = true then 1 else 0))
      (.and (.not (.bvar 10)) (.lt (.sub (.var 1) (.var 8)) (.divC (.sub (.var 1) (.var 0)) 4))) s =
      ((!decide (hi - c < 5) && decide (hi - c < (hi - lo) / 4)), s) :=
    evalC_and_pure (evalC_not (evalC_bvar s (g10.get 10 rfl)))
      (evalC_lt_nat s (eval_sub (g10.var 1 rfl) (g10.var 8 rfl) hch.1 hB)
        (eval_divC (eval_sub (g10.var 1 rfl) (g10.var 0 rfl) hch.2 hB)
          (Nat.lt_of_le_of_lt (Nat.sub_le _ _) hB)) rfl)
  unfold dupPhase
  simp only [thrProtect_eq, divDups_eq]
  by_cases hgo : (!decide (hi - c < 5) && decide (hi - c < (hi - lo) / 4)) = true
  · rw [if_pos hgo]
    rw [hgo] at hcond
    have hgo' : ¬ hi - c < 5 ∧ hi - c < (hi - lo) / 4 := by
      rwa [Bool.and_eq_true, Bool.not_eq_true', decide_eq_false_iff_not, decide_eq_true_eq] at hgo
    obtain ⟨hlo, h1hi, hmB, hbB, hcB, hb2⟩ := dupProbe_bounds h hB hcb hbc hgo'
    obtain ⟨env', g', hk⟩ := dupProbe_runs P less lo hi ((lo + hi) / 2) b c hlo hB h1hi hmB hbB hb2 hcB _ s g10
    generalize dupProbe less lo hi ((lo + hi) / 2) b c s = r at g' hk ⊢
    have hlast := evalC_lt_nat (W := sortWorld less) r.2.2.2 (eval_lit (env := env') 1) (g'.var 11 rfl) rfl
    exact ⟨_, _, g'.set 10 (if decide (r.2.2.1 > 1) = true then 1 else 0),
      hpre.trans (Seg.ite hcond (Seg.trans hk (Seg.setB hlast)))⟩
  · rw [if_neg hgo]
    rw [Bool.eq_false_iff.mpr hgo] at hcond
    exact ⟨_, _, g10, hpre.trans (Seg.ite hcond Seg.nil)⟩

theorem protectPhase_runs (P : String → Option Fn) (less : LessFn K V) (pivot a b : Nat) (hp : pivot < B62)
    (hb : b < B62) (prot : Bool) {lo hi ml mh m t c d : Int} (env : Env) (s : St K V)
    (g : Frame [lo, hi, ml, mh, m, t, pivot, a, c, b, (if prot then 1 else 0), d] env) :
    ∃ env' a', Frame [lo, hi, ml, mh, m, t, pivot, a', c,
        (((if prot then protectLoop less pivot a b s else (a, b, s)).2.1 : Nat) : Int), (if prot then 1 else 0), d] env' ∧
      Seg (sortWorld less) P [.ite (.bvar 10) [protectLoopStmt] []] env s env'
        (if prot then protectLoop less pivot a b s else (a, b, s)).2.2 := by
  have hcnd := evalC_bvar (W := sortWorld less) s (g.get 10 rfl)
  cases prot
  · exact ⟨env, _, g, Seg.ite hcnd Seg.nil⟩
  · obtain ⟨env', g', hk⟩ := protectLoop_runs P less pivot hp _ a b env s rfl hb g
    exact ⟨env', _, g', Seg.ite hcnd hk⟩

/-- `data.Swap(pivot, b-1); return b-1, c` -/
theorem final_runs (P : String → Option Fn) (less : LessFn K V) (pivot b c : Nat) (hp : pivot < B62) (hb : b < B62)
    (h1 : 1 ≤ b) {lo hi ml mh m t a prot d : Int} (env : Env) (s : St K V)
    (g : Frame [lo, hi, ml, mh, m, t, pivot, a, c, b, prot, d] env) :
    Runs (sortWorld less) P [.swap (.var 6) (.sub (.var 9) (.lit 1)), .ret [(.sub (.var 9) (.lit 1)), (.var 8)]] env s
      (.ret [((b - 1 : Nat) : Int), (c : Int)] (s.swap pivot (b - 1))) := by
  have eb : eval env (.sub (.var 9) (.lit 1)) = ((b - 1 : Nat) : Int) := eval_sub1 (g.get 9 rfl) hb h1
  refine Seg.swap _ _ ?_
  rw [swap_eq _ (g.var 6 rfl) eb hp (by unfold B62 at *; omega), ← map_eval2 eb (g.var 8 rfl)]
  exact Runs.ret

theorem protect_b_bounds (less : LessFn K V) (pivot a b hi : Nat) (s : St K V) (prot : Bool) (ha : 1 ≤ a) (hb : 1 ≤ b)
    (hbh : b ≤ hi) :
    1 ≤ (if prot then protectLoop less pivot a b s else (a, b, s)).2.1 ∧
      (if prot then protectLoop less pivot a b s else (a, b, s)).2.1 ≤ hi := by
  have := protectLoop_bounds less pivot a b s
  cases prot
  · exact ⟨hb, hbh⟩
  · simp only [if_true]
    omega

theorem pivot_bounds {lo hi a b c d : Nat} (h : lo + 3 ≤ hi) (hhi : hi < B62) (p1 : lo + 1 ≤ a)
    (p3 : c ≤ hi - 1) (p5 : b ≤ c + 1) (q1 : lo + 1 ≤ d) (q2 : d ≤ b) :
    lo < B62 ∧ 1 ≤ a ∧ d < B62 ∧ 1 ≤ d ∧ d ≤ hi := by
  unfold B62 at *
  omega

theorem doPivot_body : doPivot_func.body =
    (choosePivotStmts ++ (partitionStmts ++ (dupStmts ++ [.ite (.bvar 10) [protectLoopStmt] []]))) ++
      [.swap (.var 6) (.sub (.var 9) (.lit 1)), .ret [(.sub (.var 9) (.lit 1)), (.var 8)]] := rfl

theorem doPivot_runs (P : String → Option Fn) (hPm : P "medianOfThree_func" = some medianOfThree_func)
    (less : LessFn K V) (lo hi : Nat) (h : lo + 3 ≤ hi) (hhi : hi < B62) (s : St K V) :
    FnRuns (sortWorld less) P doPivot_func [(lo : Int), (hi : Int)] s
      [(((doPivot less lo hi s).1 : Nat) : Int), (((doPivot less lo hi s).2.1 : Nat) : Int)] (doPivot less lo hi s).2.2 := by
  refine Or.inl ?_
  rw [doPivot_body]
  obtain ⟨env1, t', g1, hk1⟩ := choosePivot_runs P hPm less lo hi h hhi _ s (Frame.init [(lo : Int), (hi : Int)] 10)
  obtain ⟨env2, g2, hk2⟩ := partition_runs P less lo hi h hhi env1 s g1
  obtain ⟨_, p1, p2, p3, p4, p5⟩ := partitionPhase_run less lo hi s h
  obtain ⟨p, hp⟩ : ∃ p, p = partitionPhase less lo hi s := ⟨_, rfl⟩
  rw [← hp] at g2 hk2 p1 p2 p3 p4 p5
  have hp21 : lo + 1 ≤ p.2.1 := Nat.le_trans p1 p2
  obtain ⟨env3, d', g3, hk3⟩ := dupPhase_runs P less lo hi p.2.1 p.2.2.1 h hhi p3 p4 p5 env2 p.2.2.2 g2
  obtain ⟨_, q1, q2, q3, q4⟩ := dupPhase_run less lo hi p.2.1 p.2.2.1 p.2.2.2 h hp21 p3 p4 p5
  obtain ⟨d, hd⟩ : ∃ d, d = dupPhase less lo hi p.2.1 p.2.2.1 p.2.2.2 := ⟨_, rfl⟩
  rw [← hd] at g3 hk3 q1 q2 q3 q4
  obtain ⟨hlo, h1p, hd1B, h1d, hdh⟩ := pivot_bounds h hhi p1 p3 p5 q1 q2
  obtain ⟨env4, a', g4, hk4⟩ := protectPhase_runs P less lo p.1 d.1 hlo hd1B d.2.2.1 env3 d.2.2.2 g3
  have hpb := protect_b_bounds less lo p.1 d.1 hi d.2.2.2 d.2.2.1 h1p h1d hdh
  obtain ⟨pr, hpr⟩ : ∃ pr, pr = (if d.2.2.1 then protectLoop less lo p.1 d.1 d.2.2.2 else (p.1, d.1, d.2.2.2)) := ⟨_, rfl⟩
  rw [← hpr] at g4 hk4 hpb
  have hall := (hk1.trans (hk2.trans (hk3.trans hk4))) _ _
    (final_runs P less lo pr.2.1 d.2.1 hlo (Nat.lt_of_le_of_lt hpb.2 hhi) hpb.1 env4 pr.2.2 g4)
  subst hpr hd hp
  exact hall

end Got.Lemmas.SortAst
