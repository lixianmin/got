import Got.Lemmas.AntsEnabled
import Got.Lemmas.ListFacts
/- ants model: liveness, termination. Every transition other than Send and the clock lowers the measure `work`, so a run without
   Send takes at most `work s` of them (C07_bounded_work) and a quiescent state can be reached (C07_quiescence_reachable). Of
   the invariants only `Inv` and `Supp` are needed. -/
namespace Got.Model.Ants

/-- free but for: every `TMove` / `CMove` edge lowers the rank; `begin` raises it by 8 + 10 (closure) + 1 (timer) < 24 (`wk`) -/
def TPc.rank : TPc → Nat
  | .none => 0 | .done => 0 | .discarded => 0 | .discardCb => 1 | .wgDone => 1 | .onError => 2 | .loopTest => 3
  | .errTest => 4 | .cancel => 5 | .writeDE => 6 | .waitDone => 6 | .decide => 7 | .hook2 => 8 | .select => 9
  | .hook3 => 10 | .sendCl => 11 | .queued => 12 | .enq => 13 | .sendTest => 14

def CPc.rank : CPc → Nat
  | .closed => 0 | .closing _ => 1 | .write _ _ _ => 2 | .hook4 _ _ _ => 3 | .cas _ _ _ => 4 | .hook1 _ _ _ => 5
  | .returned _ _ _ => 6 | .running _ _ => 7 | .taken _ => 8 | .queued => 9 | .none => 10

/-- steps the closure of an attempt can still take, plus one if its context timer is still armed -/
def Att.work (x : Att) : Nat := x.pc.rank + (if x.ctxDone then 0 else 1)

def sumWork (f : Nat → Att) : Nat → Nat
  | 0 => 0
  | n + 1 => sumWork f n + (f n).work

/-- an upper bound on the non-clock transitions still to be taken on behalf of one task: 24 per attempt not yet begun
    (9 dispatcher steps, 10 closure steps, one timer, and slack), the remaining dispatcher stages, and the remaining
    steps of the closures and timers of the attempts begun -/
def wk (R att : Nat) (pc : TPc) (f : Nat → Att) : Nat := (R - att) * 24 + pc.rank + sumWork f att

def Task.work (t : Task) : Nat := wk t.R t.att t.pc t.at_

def work (s : State) : Nat := (s.tasks.map fun k => (s.task k).work).sum

theorem Att.work_lt {x y : Att} (hc : x.ctxDone = y.ctxDone) (h : x.pc.rank < y.pc.rank) : x.work < y.work := by
  unfold Att.work
  rw [hc]
  exact Nat.add_lt_add_right h _

theorem wk_setAt {R att : Nat} {pc pc' : TPc} {f : Nat → Att} {a : Nat} {x : Att} (hlt : a < att)
    (h : pc'.rank + x.work < pc.rank + (f a).work) : wk R att pc' (upd f a x) < wk R att pc f := by
  have := sum_upd_lt (S := sumWork) (g := Att.work) (fun _ => rfl) (fun _ _ => rfl) f a x att hlt
  simp only [wk]
  omega

theorem wk_pc {R att : Nat} {pc pc' : TPc} {f : Nat → Att} (h : pc'.rank < pc.rank) : wk R att pc' f < wk R att pc f := by
  simp only [wk]; omega

/-- a dispatcher / client step lowers the rank of the task's stage, a closure step that of the closure, a timer firing disarms
    the timer, and a new attempt is paid for out of the budget of the attempts not yet begun -/
theorem tstep_work {c : Cfg} {now qlen : Nat} {t t' : Task} {act : Act} (ok : TaskOK t) (hs : act.isSend = false)
    (h : TStep c now qlen t act t') : t'.work < t.work := by
  have hcur : t.pc.pre = false → t.pc ≠ .loopTest → t.cur < t.att := fun h1 h2 => Task.cur_lt (ok.att_pos h1 h2)
  cases h
  case send => cases hs
  case begin hp hlt =>
    simp only [Task.work, Task.setAt, wk, sumWork, upd_same, Att.work, CPc.rank, TPc.rank, hp,
      sum_upd_ge (S := sumWork) (g := Att.work) (fun _ => rfl) (fun _ _ => rfl) _ _ _ _ (Nat.le_refl _)]
    split <;> omega
  case sendCl hp =>
    exact wk_setAt (hcur (by simp [hp, TPc.pre]) (by simp [hp])) (by simp only [Att.work, CPc.rank, TPc.rank, hp]; omega)
  case decideWin hp _ | cancel hp =>
    exact wk_setAt (hcur (by simp [hp, TPc.pre]) (by simp [hp])) (by simp [Att.work, TPc.rank, hp]; try omega)
  case fire hg => exact wk_setAt hg.1 (by simp [Att.work, hg.2.1])
  case wTake hp | wStart hp | wEnd hp | checkDone hp _ | checkLive hp _ | hook1Old hp _ | hook1 hp _ | casWin hp _
      | casLose hp _ | hook4 hp | wWrite hp | wClose hp =>
    -- once the stage is known both ranks are numerals
    exact wk_setAt (lt_of_pc ok hp nofun)
      (Nat.add_lt_add_left (Att.work_lt (by rfl) (by rw [hp]; exact Nat.le_of_ble_eq_true rfl)) _)
  case busyFull hp _ | busyFree hp _ | discardCb hp | enq hp | take hp | giveUp hp _ | hook3 hp | hook2Old hp _
      | hook2 hp _ | decideLose hp _ | writeDE hp | errNil hp _ | errRetry hp _ | onError hp | wgDone hp =>
    exact wk_pc (by rw [hp]; exact Nat.le_of_ble_eq_true rfl)
  case selDoneOld hp _ | selDone hp _ | selCtx hp | waitDone hp => exact wk_pc (by rw [hp.1]; exact Nat.le_of_ble_eq_true rfl)

theorem step_work {c : Cfg} {s s2 : State} {act : Act} (hinv : Inv s) (hsup : Supp s) (hs : act.isSend = false)
    (h : step c s act = some s2) : (if act.isClock then work s2 = work s else work s2 < work s) := by
  cases hck : act.isClock <;> simp only [Bool.false_eq_true, ↓reduceIte]
  · have hw := tstep_work (hinv act.task) hs (step_self hck h)
    have htasks : s2.tasks = s.tasks := by rw [step_tasks h, hs]; rfl
    simp only [work, htasks]
    refine List.sum_map_lt (fun x _ => ?_) (step_mem hsup hck hs h) hw
    rcases step_task_cases h x with e | ⟨rfl, _⟩
    · rw [e]; exact Nat.le_refl _
    · exact Nat.le_of_lt hw
  · cases Step.of_step h with
    | advance => rfl
    | plain hp => cases act <;> first | exact Bool.noConfusion hck | exact Bool.noConfusion hp
    | _ => cases hck

theorem run_work {c : Cfg} (hc : c.old = false) {acts : List Act} {s s2 : State} (hinv : Inv s) (hsup : Supp s)
    (hns : ∀ a, a ∈ acts → a.isSend = false) (h : run c s acts = some s2) :
    (acts.filter (fun a => !a.isClock)).length + work s2 ≤ work s := by
  induction acts generalizing s with
  | nil => simp [run] at h; subst h; simp
  | cons a rest ih =>
    simp only [run] at h
    split at h
    · cases h
    · rename_i s1 hs1
      have h1 := step_work hinv hsup (hns a (by simp)) hs1
      have h2 := ih (inv_step hc hinv hs1) (supp_step hsup hs1) (fun x hx => hns x (by simp [hx])) h
      cases hck : a.isClock <;> simp only [hck, Bool.false_eq_true, ↓reduceIte] at h1 <;>
        simp only [List.filter_cons, hck, Bool.not_false, Bool.not_true, ↓reduceIte, List.length_cons,
          Bool.false_eq_true] <;> omega

theorem not_quiescent_step {c : Cfg} {s : State} (hinv : Inv s) (hsup : Supp s) (hq : ¬ Quiescent c s) :
    ∃ act s1, act.isSend = false ∧ step c s act = some s1 ∧ work s1 < work s := by
  rcases not_quiescent_cases hq with ⟨act, s1, hi, hs⟩ | ⟨k, a, w, hon, hp⟩
  · obtain ⟨hsend, hck⟩ := Act.not_env hi
    have := step_work hinv hsup hsend hs
    simp only [hck, Bool.false_eq_true, ↓reduceIte] at this
    exact ⟨act, s1, hsend, hs, this⟩
  · have hs1 := (Step.wEnd (c := c) (.wEnd (k := k) (v := 0) (e := .nil) hp)).to_step
    exact ⟨_, _, rfl, hs1, step_work hinv hsup (act := .wEnd k a 0 .nil) rfl hs1⟩

/-- let the goroutines of the pool run and let every running handler return -/
theorem reaches_quiescent {c : Cfg} (hc : c.old = false) {s : State} (hinv : Inv s) (hsup : Supp s) :
    ∃ acts s2, run c s acts = some s2 ∧ (∀ a, a ∈ acts → a.isSend = false) ∧ Quiescent c s2 := by
  generalize hn : work s = n
  induction n using Nat.strongRecOn generalizing s with
  | ind n ih =>
    by_cases hq : Quiescent c s
    · exact ⟨[], s, rfl, nofun, hq⟩
    · obtain ⟨act, s1, hsend, hs, hlt⟩ := not_quiescent_step hinv hsup hq
      obtain ⟨acts, s2, hr, hns, hq2⟩ := ih _ (hn ▸ hlt) (inv_step hc hinv hs) (supp_step hsup hs) rfl
      refine ⟨act :: acts, s2, by simp [run, hs, hr], fun x hx => ?_, hq2⟩
      rcases List.mem_cons.mp hx with rfl | h
      · exact hsend
      · exact hns x h

end Got.Model.Ants
