/-
"From some fuel on": the one place where fuel thresholds are added up.  A `Runs` of the translator ties is an
`Evt fun f => exec … f … = some r` (where it is written out as `∃ f0, ∀ f, f0 ≤ f → …`, that is the term with `Evt` unfolded),
and a composition rule for a statement form is `Evt.succ`: one unfolding of `exec (g + 1)` under the equations of the
sub-runs at `g`.  (SampleLoopAst's `Runs` has two fuels, heap operations and interpreter, and its own `Runs.succ` on top of `Evt.succ`.)
-/
namespace Got.Lemmas

def Evt (p : Nat → Prop) : Prop := ∃ f0, ∀ f, f0 ≤ f → p f

namespace Evt
variable {p q : Nat → Prop}

theorem and (hp : Evt p) (hq : Evt q) : Evt fun f => p f ∧ q f :=
  let ⟨a, ha⟩ := hp
  let ⟨b, hb⟩ := hq
  ⟨a + b, fun f hf => ⟨ha f (Nat.le_of_add_right_le hf), hb f (Nat.le_of_add_left_le hf)⟩⟩

theorem succ (hp : Evt p) (h : ∀ g, p g → q (g + 1)) : Evt q :=
  let ⟨a, ha⟩ := hp
  ⟨a + 1, fun f hf => by
    obtain ⟨g, rfl⟩ := Nat.exists_eq_add_one_of_ne_zero (Nat.ne_zero_of_lt hf)
    exact h g (ha g (Nat.le_of_succ_le_succ hf))⟩

theorem mono (hp : Evt p) (h : ∀ g, p g → q g) : Evt q :=
  let ⟨a, ha⟩ := hp
  ⟨a, fun f hf => h f (ha f hf)⟩

theorem upward (hp : Evt p) : Evt fun n => ∀ f, n ≤ f → p f :=
  let ⟨a, ha⟩ := hp
  ⟨a, fun _ hn f hf => ha f (Nat.le_trans hn hf)⟩

theorem triv : Evt fun _ => True := ⟨0, fun _ _ => trivial⟩

theorem always (h : ∀ g, q (g + 1)) : Evt q := succ triv fun g _ => h g

end Evt
end Got.Lemmas
