import Got.Model.Sharding
import Got.Model.MiniGo
import Got.Generated.AstLoom
import Got.Lemmas.SearchAst
/-
loom.convertPowerOfTwo.  The loop of the hand-written model `Got.Model.Sharding.convertPowerOfTwo`, started at a power of two, ends
at the least power of two ≥ n (`convertLoop_spec`, behind C04_shard_in_range_count).  The MiniGo translation that tools/srcfacts
regenerates from /repo on every run (Got/Generated/AstLoom.lean) computes what the model computes, whenever the model
terminates (argument ≤ 2^62).
Positional names: `a0` = sharding, `v0` = result.
-/
namespace Got.Lemmas.Sharding
open Got.Model.Sharding

/-- the loop at `result = 2 ^ i`: the fuel left suffices (`63 ≤ fuel + i`) and the previous power was still below `n` -/
theorem convertLoop_spec (n : Int) (hn : n ≤ 2 ^ 62) :
    ∀ (fuel i : Nat), i ≤ 62 → 63 ≤ fuel + i → (i = 0 ∨ ((2 ^ (i - 1) : Nat) : Int) < n) →
      ∃ e, e ≤ 62 ∧ convertLoop n fuel (2 ^ i) = some (2 ^ e) ∧ n ≤ ((2 ^ e : Nat) : Int) ∧
        (e = 0 ∨ ((2 ^ (e - 1) : Nat) : Int) < n) := by
  intro fuel
  induction fuel with
  | zero => intro i hi hf; omega
  | succ fuel ih =>
    intro i hi hf hprev
    rw [convertLoop]
    split
    · next hlt =>
      have hi61 : i < 62 := Nat.lt_of_le_of_ne hi (by rintro rfl; omega)
      rw [← Nat.pow_succ, if_pos (Nat.pow_lt_pow_right (by decide) (by omega))]
      exact ih (i + 1) hi61 (by omega) (Or.inr hlt)
    · next hlt => exact ⟨i, hi, rfl, by omega, hprev⟩

end Got.Lemmas.Sharding

namespace Got.Lemmas.ShardingAst
open Got.Model.MiniGo Got.Model.Sharding

def W : Stmt := .while (.lt (.var "v0") (.var "a0")) [.assign "v0" (.shl (.var "v0") 1)]

theorem body_shape : Got.Generated.AstLoom.convertPowerOfTwo.body =
    [.decl "v0" (.lit 1), W, .ret (.var "v0")] := rfl

/-- `fuel` is the model's loop fuel, `f` the interpreter's: two units per iteration the model may still make, `+ 3` for what
    runs below that level (the body of an iteration, or the exit test and `ret`).  Any bound of this shape would do. -/
theorem loop_exec (n : Int) :
    ∀ (fuel result r : Nat) (env : Env) (f : Nat),
      convertLoop n fuel result = some r → (result : Int) < 9223372036854775808 →
      env.lookup "v0" = some (result : Int) → env.lookup "a0" = some n →
      2 * fuel + 3 ≤ f →
      exec (fun _ _ => false) f [W, .ret (.var "v0")] env [] = some (.ret (r : Int) []) := by
  intro fuel
  induction fuel with
  | zero => intro result r env f h; simp [convertLoop] at h
  | succ fuel ih =>
    intro result r env f h hr hv ha hf
    obtain ⟨g, rfl⟩ : ∃ g, f = g + 3 := ⟨f - 3, by omega⟩
    unfold convertLoop at h
    split at h
    · rename_i hlt
      split at h
      · rename_i h2
        have hw : wrap ((result : Int) * 2) = ((result * 2 : Nat) : Int) := by
          rw [Got.Lemmas.SearchAst.wrap_of_rng ⟨by omega, by omega⟩]; omega
        have := ih (result * 2) r (("v0", ((result * 2 : Nat) : Int)) :: env) (g + 2) h (by omega)
          rfl ha (by omega)
        rw [← this]
        exact Got.Lemmas.SearchAst.exec_while_true (log' := []) (by simp [evalC, eval, hv, ha, hlt])
          (by simp [exec, eval, hv, hw])
      · simp at h
    · rename_i hge
      simp at h
      subst h
      rw [W, Got.Lemmas.SearchAst.exec_while_false (log' := []) (by simp [evalC, eval, hv, ha, hge])]
      simp [exec, eval, hv]

/-- 140 rounds up 132 = 2 · 64 + 3 (`loop_exec` at the model's loop fuel 64) + 1 for the `decl` in front of the loop -/
theorem convert_ast_refines (n : Int) (hn : -9223372036854775808 ≤ n ∧ n < 9223372036854775808) (r : Nat)
    (h : convertPowerOfTwo n = some r) (fuel : Nat) (hf : 140 ≤ fuel) :
    Got.Generated.AstLoom.convertPowerOfTwo.run (fun _ _ => false) fuel [n] = some (.ret (r : Int) []) := by
  unfold Fn.run
  rw [body_shape]
  obtain ⟨g, rfl⟩ : ∃ g, fuel = g + 1 := ⟨fuel - 1, by omega⟩
  have hw : wrap n = n := Got.Lemmas.SearchAst.wrap_of_rng hn
  have := loop_exec n 64 1 r [("v0", 1), ("a0", n)] g h (by omega) rfl rfl (by omega)
  rw [← this]
  simp [Got.Generated.AstLoom.convertPowerOfTwo, exec, eval, hw, Got.Lemmas.SearchAst.wrap_one]

end Got.Lemmas.ShardingAst
