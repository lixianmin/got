import Got.Lemmas.SortAstSmall
import Got.Lemmas.SortBounds
/-
Translator tie of C15 for quickSort_func and its tail (the gap pass + insertionSort_func), relative to refinement
statements for its callees heapSort_func and doPivot_func (`Callees`).
-/
namespace Got.Lemmas.SortAst
open Got.Model.MiniGoSort Got.Model.Sort Got.Model.SortAst
open Got.Generated.AstSortxSort

variable {K V : Type}

def gapLoopStmt : Stmt :=
  .loop (.lt (.var 5) (.var 1))
    [.ite (.less (.var 5) (.sub (.var 5) (.lit 6))) [.swap (.var 5) (.sub (.var 5) (.lit 6))] []]
    [.set 5 (.add (.var 5) (.lit 1))]

def tailStmt : Stmt :=
  .ite (.lt (.lit 1) (.sub (.var 1) (.var 0)))
    [.set 5 (.add (.var 0) (.lit 6)), gapLoopStmt, .call "insertionSort_func" [(.var 0), (.var 1)] []] []

theorem gapPass_runs (P : String → Option Fn) (less : LessFn K V) (b : Nat) (hb : b < B62) {a d x3 x4 : Int} (i : Nat)
    (s : St K V) :
    ∀ env : Env, Frame [a, b, d, x3, x4, i] env → 6 ≤ i →
      ∃ env' i', Frame [a, b, d, x3, x4, i'] env' ∧ Seg (sortWorld less) P [gapLoopStmt] env s env' (gapPass less b i s) := by
  fun_induction gapPass less b i s with
  | case1 i s hlt r s1 ih =>
    intro env h h6
    have hc := evalC_lt_nat (W := sortWorld less) s (h.var 5 rfl) (h.var 1 rfl)
    have hi : i < B62 := Nat.lt_trans hlt hb
    have e6 := eval_sub (h.var 5 rfl) (eval_lit (env := env) 6) h6 hi
    -- the body is the model's `condSwap` of `i` and `i - 6`
    have hbody : Seg (sortWorld less) P
        [.ite (.less (.var 5) (.sub (.var 5) (.lit 6))) [.swap (.var 5) (.sub (.var 5) (.lit 6))] []] env s env
        (if r = true then s1.swap i (i - gapSwap) else s1) := by
      dsimp only [r, s1]
      simp only [Got.Lemmas.Sort.gapLess_eq, Got.Lemmas.Sort.gapSwap_eq]
      exact condSwap_runs P less s (h.var 5 rfl) e6 hi (Nat.lt_of_le_of_lt (Nat.sub_le _ _) hi)
    obtain ⟨env2, i', h2, hk2⟩ := ih _ (h.set 5 ((i + 1 : Nat) : Int)) (Nat.le_succ_of_le h6)
    exact ⟨env2, i', h2,
      Seg.loop_iter (hc (decide_eq_true hlt)) hbody (Seg.set (eval_add1 (h.get 5 rfl) hi)) hk2⟩
  | case2 i s hlt =>
    intro env h _
    exact ⟨env, _, h, Seg.loop_done (evalC_lt_nat (W := sortWorld less) s (h.var 5 rfl) (h.var 1 rfl)
      (decide_eq_false hlt))⟩

theorem tail_runs (P : String → Option Fn) (hPi : P "insertionSort_func" = some insertionSort_func)
    (less : LessFn K V) (a b : Nat) (hle : a ≤ b) (hb : b < B62) {d x3 x4 x5 : Int} (env : Env) (s : St K V)
    (h : Frame [a, b, d, x3, x4, x5] env) :
    ∃ env', Seg (sortWorld less) P [tailStmt] env s env' (smallSort less a b s) := by
  unfold smallSort
  have hc := evalC_lt_nat (W := sortWorld less) s (eval_lit (env := env) 1)
    (eval_sub (h.var 1 rfl) (h.var 0 rfl) hle hb)
  split
  · rename_i hgt
    obtain ⟨env2, i', h2, hk2⟩ := gapPass_runs P less b hb (a + gapInit) s _
      (Got.Lemmas.Sort.gapInit_eq ▸ h.set 5 ((a + 6 : Nat) : Int))
      (by rw [Got.Lemmas.Sort.gapInit_eq]; exact Nat.le_add_left 6 a)
    exact ⟨env2, Seg.ite (b := true) (hc (decide_eq_true (show 1 < b - a from hgt)))
      (Seg.trans (Seg.set (eval_add (h.var 0 rfl) (eval_lit 6) (by unfold B62 at hb; omega))) (Seg.trans hk2
        (Seg.call0 hPi rfl rfl (map_eval2 (h2.var 0 rfl) (h2.var 1 rfl))
          (insertionSort_runs P less a b (Nat.lt_of_le_of_lt hle hb) hb _))))⟩
  · rename_i hgt
    exact ⟨env, Seg.ite (b := false) (hc (decide_eq_false (show ¬ 1 < b - a from hgt))) Seg.nil⟩

/- The loop threshold `12` of `for b-a > 12` is not fixed here: the generated term carries the literal of the current source
and the model reads the same literal from the regenerated table (`thrInsertion`), so `quickSort_body` (by `rfl`) holds
for whatever the source says and the proof only uses `2 ≤ thrInsertion` (from `thrInsertion_ge5`) and `thrInsertion < 2^63`. -/

def quickLoopStmt : Stmt :=
  .loop (.lt (.lit (thrInsertion : Int)) (.sub (.var 1) (.var 0)))
    [ .ite (.eq (.var 2) (.lit 0)) [.call "heapSort_func" [(.var 0), (.var 1)] [], .ret []] [],
      .set 2 (.sub (.var 2) (.lit 1)),
      .call "doPivot_func" [(.var 0), (.var 1)] [3, 4],
      .ite (.lt (.sub (.var 3) (.var 0)) (.sub (.var 1) (.var 4)))
        [.call "quickSort_func" [(.var 0), (.var 3), (.var 2)] [], .set 0 (.var 4)]
        [.call "quickSort_func" [(.var 4), (.var 1), (.var 2)] [], .set 1 (.var 3)] ] []

theorem quickSort_body : quickSort_func.body = [quickLoopStmt, tailStmt] := rfl

/-- what quickSort_func needs of the program `P` it runs in; the ties of heapSort_func and doPivot_func are fields because
    SortAstHeap and SortAstPivot are not imported here (`callees` in SortAstAll supplies them) -/
structure Callees (P : String → Option Fn) (less : LessFn K V) : Prop where
  hPi : P "insertionSort_func" = some insertionSort_func
  hPh : P "heapSort_func" = some heapSort_func
  hPd : P "doPivot_func" = some doPivot_func
  hPq : P "quickSort_func" = some quickSort_func
  heap : ∀ (a b : Nat) (s : St K V), a ≤ b → b < B62 →
    FnRuns (sortWorld less) P heapSort_func [(a : Int), (b : Int)] s [] (heapSort less a b s)
  pivot : ∀ (lo hi : Nat) (s : St K V), lo + 3 ≤ hi → hi < B62 →
    FnRuns (sortWorld less) P doPivot_func [(lo : Int), (hi : Int)] s
      [(((doPivot less lo hi s).1 : Nat) : Int), (((doPivot less lo hi s).2.1 : Nat) : Int)] (doPivot less lo hi s).2.2

theorem quickCond (less : LessFn K V) {env : Env} {a b : Nat} {d x3 x4 x5 : Int} (h : Frame [a, b, d, x3, x4, x5] env)
    (hab : a ≤ b) (hb : b < B62) (s : St K V) ⦃r : Bool⦄ (hr : decide (thrInsertion < b - a) = r) :
    evalC (sortWorld less) env (.lt (.lit (thrInsertion : Int)) (.sub (.var 1) (.var 0))) s = (r, s) :=
  evalC_lt_nat s (eval_lit thrInsertion) (eval_sub (h.var 1 rfl) (h.var 0 rfl) hab hb) hr

theorem quick_short (P : String → Option Fn) (less : LessFn K V) (C : Callees P less) {env : Env} {a b : Nat}
    {d x3 x4 x5 : Int} (h : Frame [a, b, d, x3, x4, x5] env) (hab : a ≤ b) (hb : b < B62) (s : St K V)
    (hgt : ¬ thrInsertion < b - a) :
    ∃ r, Runs (sortWorld less) P [quickLoopStmt, tailStmt] env s r ∧ Ends r (smallSort less a b s) := by
  obtain ⟨env', hk⟩ := tail_runs P C.hPi less a b hab hb env s h
  exact ⟨.cont env' (smallSort less a b s),
    Seg.loop_done (quickCond less h hab hb s (decide_eq_false hgt)) _ _ hk.run, Or.inr ⟨env', rfl⟩⟩

/-- Induction on the depth budget `d`, along the model's recursion.  One round of the loop uses the hypothesis twice:
    for the nested call `quickSort_func(…, maxDepth)` on the smaller side (a fresh environment `#[a', b', d]`) and for
    the remaining iterations of the same loop (the current environment with `a` or `b` moved).  Hence the statement is
    about `[quickLoopStmt, tailStmt]` from an arbitrary environment, and its result is `Ends r …`: the body returns
    from inside the loop (heapSort_func fallback) or falls off its end. -/
theorem quick_body_runs (P : String → Option Fn) (less : LessFn K V) (C : Callees P less) :
    ∀ (d a b : Nat) (x3 x4 x5 : Int) (env : Env) (s : St K V), Frame [a, b, d, x3, x4, x5] env →
      a ≤ b → b < B62 → d < B62 →
      ∃ r, Runs (sortWorld less) P [quickLoopStmt, tailStmt] env s r ∧ Ends r (quickSort less a b d s) := by
  intro d
  induction d with
  | zero =>
    intro a b x3 x4 x5 env s h hab hb _
    rw [quickSort]
    split
    · rename_i hgt
      have hc : evalC (sortWorld less) env (.lt (.lit (thrInsertion : Int)) (.sub (.var 1) (.var 0))) s = (true, s) :=
        quickCond less h hab hb s (decide_eq_true (show thrInsertion < b - a from hgt))
      refine ⟨.ret [] (heapSort less a b s), ?_, Or.inl rfl⟩
      refine Runs.loop_ret hc (Runs.ite_leave (evalC_eq_nat s (h.var 2 rfl) (eval_lit 0) rfl) ?_ nofun)
      exact Seg.call0 C.hPh rfl rfl (map_eval2 (h.var 0 rfl) (h.var 1 rfl)) (C.heap a b s hab hb) _ _ Runs.ret
    · rename_i hgt
      exact quick_short P less C h hab hb s hgt
  | succ d ih =>
    intro a b x3 x4 x5 env s h hab hb hd
    have hB := hb
    unfold B62 at hb hd
    rw [quickSort]
    have hthr2 := Got.Lemmas.Sort.thrInsertion_ge5
    split
    · rename_i hgt
      have hc : evalC (sortWorld less) env (.lt (.lit (thrInsertion : Int)) (.sub (.var 1) (.var 0))) s = (true, s) :=
        quickCond less h hab hB s (decide_eq_true (show thrInsertion < b - a from hgt))
      have hc0 := evalC_eq_nat (W := sortWorld less) s (h.var 2 rfl) (eval_lit 0)
        (decide_eq_false (Nat.succ_ne_zero d))
      -- maxDepth--
      have h1 := h.set 2 (d : Int)
      -- mlo, mhi := doPivot_func(data, a, b)
      have h3 : a + 3 ≤ b := by omega
      have hdB : d < B62 := Nat.lt_of_succ_lt hd
      obtain ⟨-, ⟨p1, p2, p3, p4⟩, -⟩ := Got.Lemmas.Sort.doPivot_run less a b s h3
      have hpiv := C.pivot a b s h3 hB
      generalize doPivot less a b s = p at *
      obtain ⟨mlo, mhi, s1⟩ := p
      simp only at p1 p2 p3 p4 hpiv ⊢
      have g := (h1.set 3 (mlo : Int)).set 4 (mhi : Int)
      have hcmp := evalC_lt_nat (W := sortWorld less) s1
        (eval_sub (g.var 3 rfl) (g.var 0 rfl) p1 (Nat.lt_trans p2 hB))
        (eval_sub (g.var 1 rfl) (g.var 4 rfl) p4 hB)
      have hpre : Seg (sortWorld less) P [.ite (.eq (.var 2) (.lit 0)) [.call "heapSort_func" [(.var 0), (.var 1)] [], .ret []] [],
          .set 2 (.sub (.var 2) (.lit 1)), .call "doPivot_func" [(.var 0), (.var 1)] [3, 4]] env s _ s1 :=
        Seg.trans (Seg.ite (b := false) hc0 Seg.nil) (Seg.trans (Seg.set (eval_sub1 (h.get 2 rfl) hd (Nat.succ_pos d)))
          (Seg.call (res := [3, 4]) (vs := [(mlo : Int), (mhi : Int)]) C.hPd rfl rfl
            (map_eval2 (h1.var 0 rfl) (h1.var 1 rfl)) hpiv rfl))
      by_cases hside : mlo - a < b - mhi
      · simp only [hside, if_true]
        -- quickSort_func(data, a, mlo, maxDepth); a = mhi
        obtain ⟨r1, hr1, he1⟩ := ih a mlo 0 0 0 _ s1 (Frame.init [(a : Int), (mlo : Int), (d : Int)] 3) p1
          (Nat.lt_trans p2 hB) hdB
        obtain ⟨r2, hr2, he2⟩ := ih mhi b _ _ _ _ (quickSort less a mlo d s1) (g.set 0 (mhi : Int)) p4 hB hdB
        exact ⟨r2, Runs.loop_iter hc (hpre.trans (Seg.ite (b := true) (hcmp (decide_eq_true hside)) (Seg.trans
          (Seg.call0 C.hPq rfl rfl (map_eval3 (g.var 0 rfl) (g.var 3 rfl) (g.var 2 rfl))
            (FnRuns.of_ends (quickSort_body ▸ hr1) he1)) (Seg.set (g.var 4 rfl))))).run Runs.nil hr2, he2⟩
      · simp only [hside, if_false]
        -- quickSort_func(data, mhi, b, maxDepth); b = mlo
        obtain ⟨r1, hr1, he1⟩ := ih mhi b 0 0 0 _ s1 (Frame.init [(mhi : Int), (b : Int), (d : Int)] 3) p4 hB hdB
        obtain ⟨r2, hr2, he2⟩ := ih a mlo _ _ _ _ (quickSort less mhi b d s1) (g.set 1 (mlo : Int)) p1
          (Nat.lt_trans p2 hB) hdB
        exact ⟨r2, Runs.loop_iter hc (hpre.trans (Seg.ite (b := false) (hcmp (decide_eq_false hside)) (Seg.trans
          (Seg.call0 C.hPq rfl rfl (map_eval3 (g.var 4 rfl) (g.var 1 rfl) (g.var 2 rfl))
            (FnRuns.of_ends (quickSort_body ▸ hr1) he1)) (Seg.set (g.var 3 rfl))))).run Runs.nil hr2, he2⟩
    · rename_i hgt
      exact quick_short P less C h hab hB s hgt

theorem quickSort_runs (P : String → Option Fn) (less : LessFn K V) (C : Callees P less) (a b d : Nat)
    (hab : a ≤ b) (hb : b < B62) (hd : d < B62) (s : St K V) :
    FnRuns (sortWorld less) P quickSort_func [(a : Int), (b : Int), (d : Int)] s [] (quickSort less a b d s) := by
  obtain ⟨r, hr, he⟩ := quick_body_runs P less C d a b 0 0 0 _ s (Frame.init [(a : Int), (b : Int), (d : Int)] 3) hab hb hd
  exact FnRuns.of_ends (quickSort_body ▸ hr) he

end Got.Lemmas.SortAst
