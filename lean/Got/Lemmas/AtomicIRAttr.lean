import Lean.Meta.Tactic.Simp.RegisterCommand
/-- The equations of the AtomicIR interpreter (Got/Model/AtomicIR.lean), as a simp set: `simp [ir_sem]` runs a thread of
    a concrete program symbolically. -/
register_simp_attr ir_sem
