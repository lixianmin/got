import Got.Lemmas.MSQueueWitness
import Got.Lemmas.Lts
/-
`lp_sound`: an LP witness yields a Herlihy–Wing linearization of the client-visible history. The linearization is the
*effective* markers of the log in log order: every `lin` marker, and for every Pop that returns nil the last `obs` marker
before its response (found by a right-to-left scan: `scanF`/`scanS`). The extension is the responses of the operations that
are linearised but have not returned (`owed`); pending operations without an effective marker are dropped by `complete`.
-/
namespace Got.Spec.Lin

/-- flags of the right-to-left scan: `f t` = the next event of thread `t` to the right is `ret t nil`. -/
def stepF (e : LEv) (f : Nat → Bool) : Nat → Bool :=
  match e with
  | .ret t r => upd f t (decide (r = .val none))
  | e => upd f e.tid false

/-- the operation record contributed by an event, given the flags to its right. -/
def stepS (e : LEv) (f : Nat → Bool) : List OpRec :=
  match e with
  | .lin t o r => [⟨t, o, r⟩]
  | .obs t => if f t = true then [⟨t, .pop, .val none⟩] else []
  | _ => []

def scanF (f : Nat → Bool) : List LEv → (Nat → Bool)
  | [] => f
  | e :: l => stepF e (scanF f l)

def scanS (f : Nat → Bool) : List LEv → List OpRec
  | [] => []
  | e :: l => stepS e (scanF f l) ++ scanS f l

/-- the linearization of a log: its effective markers, in log order. -/
def lins (l : List LEv) : List OpRec := scanS (fun _ => false) l

theorem scanF_append (f : Nat → Bool) (l₁ l₂ : List LEv) :
    scanF f (l₁ ++ l₂) = scanF (scanF f l₂) l₁ := by
  induction l₁ with
  | nil => rfl
  | cons e l ih => simp only [List.cons_append, scanF, ih]

theorem scanS_append (f : Nat → Bool) (l₁ l₂ : List LEv) :
    scanS f (l₁ ++ l₂) = scanS (scanF f l₂) l₁ ++ scanS f l₂ := by
  induction l₁ with
  | nil => rfl
  | cons e l ih => simp only [List.cons_append, scanS, ih, scanF_append, List.append_assoc]

theorem scanS_snoc (f : Nat → Bool) (l : List LEv) (e : LEv) :
    scanS f (l ++ [e]) = scanS (stepF e f) l ++ stepS e f := by
  rw [scanS_append]; simp [scanS, scanF]

theorem history_append (l₁ l₂ : List LEv) : history (l₁ ++ l₂) = history l₁ ++ history l₂ := by
  unfold history; rw [List.filterMap_append]

theorem proj_append (t : Nat) (X Y : List HEv) : proj t (X ++ Y) = proj t X ++ proj t Y := by
  unfold proj; rw [List.filter_append]

theorem seqHist_append (A B : List OpRec) : seqHist (A ++ B) = seqHist A ++ seqHist B := by
  induction A with
  | nil => rfl
  | cons x A ih => simp only [List.cons_append, seqHist, ih]

def filterT (t : Nat) (S : List OpRec) : List OpRec := S.filter (fun x => decide (x.t = t))

theorem filterT_append (t : Nat) (A B : List OpRec) : filterT t (A ++ B) = filterT t A ++ filterT t B := by
  unfold filterT; rw [List.filter_append]

theorem proj_seqHist (t : Nat) (S : List OpRec) : proj t (seqHist S) = seqHist (filterT t S) := by
  induction S with
  | nil => rfl
  | cons x S ih =>
    by_cases h : x.t = t
    · simp only [seqHist, proj, filterT, List.filter_cons, HEv.tid, h, decide_true, if_true] at ih ⊢
      rw [ih]
    · simp only [seqHist, proj, filterT, List.filter_cons, HEv.tid, h, decide_false] at ih ⊢
      simpa using ih

/-- the response owed to a linearised operation. -/
def owedOf (t : Nat) : TSt → List HEv
  | .done _ r => [.ret t r]
  | _ => []

/-- the invocation of an operation that is not linearised yet. -/
def openOf (t : Nat) : TSt → List HEv
  | .pend o _ => [.inv t o]
  | _ => []

/-- with the flag of the scan set (the next event of the thread is its nil response), a Pop that has seen the queue empty counts
    as linearised at that observation. -/
def TSt.commit (ft : Bool) : TSt → TSt
  | .pend o true => if ft = true then .done o (.val none) else .pend o true
  | st => st

theorem TSt.commit_false (st : TSt) : st.commit false = st := by
  cases st with
  | pend o b => cases b <;> rfl
  | _ => rfl

/-- the thread's history, completed by the response it is owed, is the sequential history of its records plus its open invocation. -/
def ThreadRel (t : Nat) (Ht : List HEv) (St : List OpRec) (st : TSt) : Prop :=
  Ht ++ owedOf t st = seqHist St ++ openOf t st

theorem history_snoc (l : List LEv) (e : LEv) :
    history (l ++ [e]) = history l ++ e.toH.toList :=
  filterMap_snoc LEv.toH l e

theorem filterT_single (t : Nat) (x : OpRec) : filterT t [x] = if x.t = t then [x] else [] := by
  by_cases h : x.t = t <;> simp [filterT, h]

theorem filterT_stepS (t : Nat) (e : LEv) (f : Nat → Bool) :
    filterT t (stepS e f) = if e.tid = t then stepS e f else [] := by
  cases e with
  | inv | ret => exact (ite_self _).symm
  | lin => exact filterT_single t _
  | obs t' =>
    simp only [stepS]
    cases f t'
    · exact (ite_self _).symm
    · exact filterT_single t _

theorem stepF_other {e : LEv} {t : Nat} (h : e.tid ≠ t) (f : Nat → Bool) : stepF e f t = f t := by
  have h' : t ≠ e.tid := fun x => h x.symm
  cases e <;> simp only [stepF] <;> exact upd_other h'

theorem proj_cons_same {t : Nat} {e : HEv} (h : e.tid = t) (H : List HEv) : proj t (e :: H) = e :: proj t H := by
  simp [proj, h]

theorem proj_cons_other {t : Nat} {e : HEv} (h : e.tid ≠ t) (H : List HEv) : proj t (e :: H) = proj t H := by
  simp [proj, h]

theorem proj_single {t : Nat} {e : HEv} (h : e.tid = t) : proj t [e] = [e] := proj_cons_same h []

theorem proj_toH (t : Nat) (e : LEv) : proj t e.toH.toList = if e.tid = t then e.toH.toList else [] := by
  cases e with
  | lin | obs => exact (ite_self _).symm
  | inv | ret =>
    split
    · next h => exact proj_single h
    · next h => refine proj_cons_other ?_ []; exact h

theorem seqHist_single (t : Nat) (o : Op) (r : Res) : seqHist [⟨t, o, r⟩] = [.inv t o, .ret t r] := rfl

/-- for every right context `f` of the scan: `scanS_snoc` changes the context of the prefix, so the induction over the log has to
    carry it. -/
theorem thread_rel {l : List LEv} {w : WSt} (h : wrun l = some w) (t : Nat) :
    ∀ f : Nat → Bool, ThreadRel t (proj t (history l)) (filterT t (scanS f l)) ((w.st t).commit (f t)) := by
  have own : ∀ (l : List LEv) {e : LEv} (f : Nat → Bool) (st : TSt), e.tid = t →
      ThreadRel t (proj t (history l) ++ e.toH.toList) (filterT t (scanS (stepF e f) l) ++ stepS e f) st →
      ThreadRel t (proj t (history (l ++ [e]))) (filterT t (scanS f (l ++ [e]))) st := by
    intro l e f st he hr
    rw [scanS_snoc, filterT_append, history_snoc, proj_append, proj_toH, filterT_stepS, if_pos he, if_pos he]
    exact hr
  refine wrun_thread (t := t)
    (P := fun l st => ∀ f : Nat → Bool, ThreadRel t (proj t (history l)) (filterT t (scanS f l)) (st.commit (f t)))
    (fun _ => rfl) ?other ?inv ?lin ?obs ?ret ?retNil h
  case other =>
    intro l e st he ih f
    rw [scanS_snoc, filterT_append, history_snoc, proj_append, filterT_stepS, proj_toH, if_neg he, if_neg he,
      List.append_nil, List.append_nil, ← stepF_other he f]
    exact ih _
  case inv =>
    intro l o ih f
    have ih' : _ ++ [] = _ ++ [] := ih (stepF (.inv t o) f)
    refine own l f _ rfl (?_ : _ ++ [.inv t o] ++ [] = seqHist (_ ++ []) ++ [.inv t o])
    simp only [List.append_nil] at ih' ⊢; rw [ih']
  case lin =>
    intro l o b r ih _ _ f
    have ih' := ih (stepF (.lin t o r) f)
    rw [show stepF (.lin t o r) f t = false from upd_same .., TSt.commit_false] at ih'
    have ih' : _ ++ [] = _ ++ [HEv.inv t o] := ih'
    refine own l f _ rfl (?_ : _ ++ [] ++ [.ret t r] = seqHist (_ ++ [⟨t, o, r⟩]) ++ [])
    rw [ih', seqHist_append, List.append_nil, List.append_assoc]; rfl
  case obs =>
    intro l b ih f
    have ih' := ih (stepF (.obs t) f)
    rw [show stepF (.obs t) f t = false from upd_same .., TSt.commit_false] at ih'
    have ih' : _ ++ [] = _ ++ [HEv.inv t .pop] := ih'
    refine own l f _ rfl ?_
    show ThreadRel t (_ ++ []) (_ ++ if f t = true then [⟨t, .pop, .val none⟩] else []) (if f t = true then _ else _)
    cases f t with
    | true =>
      show _ ++ [] ++ [.ret t (.val none)] = seqHist (_ ++ [⟨t, .pop, .val none⟩]) ++ []
      rw [ih', seqHist_append, List.append_nil, List.append_assoc]; rfl
    | false =>
      show _ ++ [] ++ [] = seqHist (_ ++ []) ++ [.inv t .pop]
      simpa only [List.append_nil] using ih'
  case ret =>
    intro l o r ih f
    have ih' : _ ++ [HEv.ret t r] = _ ++ [] := ih (stepF (.ret t r) f)
    refine own l f _ rfl (?_ : _ ++ [.ret t r] ++ [] = seqHist (_ ++ []) ++ [])
    simpa only [List.append_nil] using ih'
  case retNil =>
    intro l ih f
    have ih' := ih (stepF (.ret t (.val none)) f)
    rw [show stepF (.ret t (.val none)) f t = true by simp only [stepF, upd_same, decide_true]] at ih'
    have ih' : _ ++ [HEv.ret t (.val none)] = _ ++ [] := ih'
    refine own l f _ rfl (?_ : _ ++ [.ret t (.val none)] ++ [] = seqHist (_ ++ []) ++ [])
    simpa only [List.append_nil] using ih'

theorem runOps_append {σ : Type} (spec : SeqSpec σ) (s : σ) (A B : List OpRec) :
    spec.runOps s (A ++ B) = (spec.runOps s A).bind (fun s' => spec.runOps s' B) := by
  induction A generalizing s with
  | nil => rfl
  | cons x A ih =>
    simp only [List.cons_append, SeqSpec.runOps]
    split
    · exact ih _
    · rfl

theorem legal_scan {l : List LEv} {w : WSt} (h : wrun l = some w) :
    ∀ f : Nat → Bool, FifoSpec.runOps [] (scanS f l) = some w.q := by
  revert l w
  refine @wrun_induction _ ?_ ?_
  · intro f; rfl
  · intro l w e w' _ ih he f
    rw [scanS_snoc, runOps_append, ih]
    show FifoSpec.runOps w.q (stepS e f) = some w'.q
    cases he with
    | inv | ret | retNil => rfl
    | lin _ h2 => exact if_pos h2
    | obs _ h2 =>
      simp only [stepS]
      split
      · rw [h2]; rfl
      · rfl

/-- `complete` on the subhistory of a single thread: drop a trailing invocation. -/
def completeT : List HEv → List HEv
  | [] => []
  | .inv t o :: Y => if Y.isEmpty then [] else .inv t o :: completeT Y
  | .ret t r :: Y => .ret t r :: completeT Y

theorem any_eq_not_isEmpty_filter {α : Type} (p : α → Bool) (l : List α) :
    l.any p = !(l.filter p).isEmpty := by
  induction l with
  | nil => rfl
  | cons e l ih => cases h : p e <;> simp [h, ih]

theorem any_tid_iff (t : Nat) (H : List HEv) :
    H.any (fun e => decide (e.tid = t)) = !(proj t H).isEmpty :=
  any_eq_not_isEmpty_filter _ H

theorem proj_complete (t : Nat) (X : List HEv) : proj t (complete X) = completeT (proj t X) := by
  induction X with
  | nil => rfl
  | cons e X ih =>
    cases e with
    | ret t' r =>
      by_cases h : t' = t
      · subst h
        rw [complete, proj_cons_same (t := t') (e := .ret t' r) rfl, proj_cons_same (t := t') (e := .ret t' r) rfl, ih]; rfl
      · have h' : (HEv.ret t' r).tid ≠ t := h
        rw [complete, proj_cons_other h', proj_cons_other h', ih]
    | inv t' o =>
      by_cases h : t' = t
      · subst h
        rw [complete, any_tid_iff, proj_cons_same (t := t') (e := .inv t' o) rfl (H := X)]
        cases hY : (proj t' X).isEmpty with
        | true =>
          simp only [Bool.not_true, Bool.false_eq_true, if_false]
          rw [ih]
          have : proj t' X = [] := List.isEmpty_iff.mp hY
          rw [this]; rfl
        | false =>
          simp only [Bool.not_false, if_true]
          rw [proj_cons_same (t := t') (e := .inv t' o) rfl, ih]
          simp only [completeT, hY, Bool.false_eq_true, if_false]
      · have h' : (HEv.inv t' o).tid ≠ t := h
        rw [complete, proj_cons_other h']
        split
        · rw [proj_cons_other h', ih]
        · exact ih

theorem completeT_seqHist_append (S : List OpRec) (R : List HEv) : completeT (seqHist S ++ R) = seqHist S ++ completeT R := by
  induction S with
  | nil => rfl
  | cons x S ih =>
    simp only [seqHist, List.cons_append, completeT, List.isEmpty_cons, Bool.false_eq_true, if_false, ih]

/-- the responses owed to linearised operations, kept along the log: a `lin` marker adds one, the thread's response settles it. -/
def owedStep (X : List HEv) : LEv → List HEv
  | .lin t _ r => X ++ [.ret t r]
  | .ret t _ => X.filter (fun e => !decide (e.tid = t))
  | _ => X

def owed (l : List LEv) : List HEv := l.foldl owedStep []

theorem owed_snoc (l : List LEv) (e : LEv) : owed (l ++ [e]) = owedStep (owed l) e := by
  unfold owed; rw [List.foldl_append]; rfl

theorem proj_settle_same (t : Nat) (X : List HEv) : proj t (X.filter (fun e => !decide (e.tid = t))) = [] := by
  unfold proj; rw [List.filter_filter, List.filter_eq_nil_iff]
  intro e _; cases decide (e.tid = t) <;> simp

theorem proj_settle_other {t t' : Nat} (h : t' ≠ t) (X : List HEv) :
    proj t (X.filter (fun e => !decide (e.tid = t'))) = proj t X := by
  unfold proj; rw [List.filter_filter]
  apply List.filter_congr
  intro e _
  by_cases he : e.tid = t
  · simp [he, Ne.symm h]
  · simp [he]

theorem owedStep_other {e : LEv} {t : Nat} (h : e.tid ≠ t) (X : List HEv) : proj t (owedStep X e) = proj t X := by
  cases e with
  | inv | obs => rfl
  | lin t' o r => show proj t (X ++ [.ret t' r]) = _; rw [proj_append, proj_cons_other (e := .ret t' r) h]; exact List.append_nil _
  | ret t' r => exact proj_settle_other h X

theorem owed_isRet (l : List LEv) : ∀ e, e ∈ owed l → e.isRet = true := by
  refine Got.Lemmas.Lts.foldl_inv (P := fun X : List HEv => ∀ e, e ∈ X → e.isRet = true) (fun X e ih x hx => ?_) l nofun
  cases e with
  | inv | obs => exact ih x hx
  | lin => exact (List.mem_append.mp hx).elim (ih x) fun hx => List.mem_singleton.mp hx ▸ rfl
  | ret => exact ih x (List.mem_filter.mp hx).1

theorem owed_spec {l : List LEv} {w : WSt} (h : wrun l = some w) (t : Nat) : proj t (owed l) = owedOf t (w.st t) := by
  refine wrun_thread (t := t) (P := fun l st => proj t (owed l) = owedOf t st) rfl ?other ?inv ?lin ?obs ?ret ?retNil h
  case other => intro l e st he ih; rw [owed_snoc, owedStep_other he]; exact ih
  case inv => intro l o ih; rw [owed_snoc]; exact ih
  case lin =>
    intro l o b r ih _ _
    rw [owed_snoc]
    show proj t (owed l ++ [.ret t r]) = _
    rw [proj_append, ih, proj_single (t := t) (e := .ret t r) rfl]; rfl
  case obs => intro l b ih; rw [owed_snoc]; exact ih
  case ret => intro l o r _; rw [owed_snoc]; exact proj_settle_same t _
  case retNil => intro l _; rw [owed_snoc]; exact proj_settle_same t _

theorem equiv_thread {l : List LEv} {w : WSt} (h : wrun l = some w) (t : Nat) :
    proj t (complete (history l ++ owed l)) = proj t (seqHist (lins l)) := by
  have hrel := thread_rel h t (fun _ => false)
  rw [TSt.commit_false] at hrel
  rw [proj_complete, proj_append, proj_seqHist, owed_spec h t, hrel, completeT_seqHist_append]
  -- `completeT` drops the invocation still open
  cases w.st t <;> exact List.append_nil _

theorem isRetOf_tid {t : Nat} {e : HEv} (h : e.isRetOf t = true) : e.tid = t := by
  cases e with
  | inv _ _ => cases h
  | ret t' r => simpa [HEv.isRetOf, HEv.tid] using h

theorem isInvOf_tid {t : Nat} {e : HEv} (h : e.isInvOf t = true) : e.tid = t := by
  cases e with
  | ret _ _ => cases h
  | inv t' r => simpa [HEv.isInvOf, HEv.tid] using h

theorem countP_proj {p : HEv → Bool} {t : Nat} (hp : ∀ e, p e = true → e.tid = t) (X : List HEv) :
    (proj t X).countP p = X.countP p := by
  unfold proj
  rw [List.countP_filter]
  apply List.countP_congr
  intro e _
  constructor
  · intro h; rw [Bool.and_eq_true] at h; exact h.1
  · intro h; rw [Bool.and_eq_true]; exact ⟨h, decide_eq_true (hp e h)⟩

theorem nRet_proj (t : Nat) (X : List HEv) : nRet t (proj t X) = nRet t X :=
  countP_proj (fun _ => isRetOf_tid) X

theorem nInv_proj (t : Nat) (X : List HEv) : nInv t (proj t X) = nInv t X :=
  countP_proj (fun _ => isInvOf_tid) X

theorem nRet_nInv_seqHist (t : Nat) (S : List OpRec) :
    nRet t (seqHist S) = (filterT t S).length ∧ nInv t (seqHist S) = (filterT t S).length := by
  induction S with
  | nil => exact ⟨rfl, rfl⟩
  | cons x S ih =>
    unfold nRet nInv at ih ⊢
    simp only [seqHist, List.countP_cons, HEv.isRetOf, HEv.isInvOf, ih, filterT, List.filter_cons]
    by_cases h : x.t = t <;> simp [h]

theorem filterT_idem (t : Nat) (S : List OpRec) : filterT t (filterT t S) = filterT t S := by
  unfold filterT; rw [List.filter_filter]; simp

theorem nRet_append (t : Nat) (A B : List HEv) : nRet t (A ++ B) = nRet t A + nRet t B := List.countP_append

theorem nInv_append (t : Nat) (A B : List HEv) : nInv t (A ++ B) = nInv t A + nInv t B := List.countP_append

theorem openOf_nRet (t : Nat) (st : TSt) : nRet t (openOf t st) = 0 := by cases st <;> rfl

theorem owedOf_nInv (t : Nat) (st : TSt) : nInv t (owedOf t st) = 0 := by cases st <;> rfl

/-- in any scan, the records of a thread number at least its responses and at most its invocations. -/
theorem counts {l : List LEv} {w : WSt} (h : wrun l = some w) (f : Nat → Bool) (t : Nat) :
    nRet t (history l) ≤ (filterT t (scanS f l)).length ∧
    (filterT t (scanS f l)).length ≤ nInv t (history l) := by
  have h1 := congrArg (nRet t) (thread_rel h t f)
  have h2 := congrArg (nInv t) (thread_rel h t f)
  rw [nRet_append, nRet_append, nRet_proj, (nRet_nInv_seqHist ..).1, filterT_idem, openOf_nRet] at h1
  rw [nInv_append, nInv_append, nInv_proj, (nRet_nInv_seqHist ..).2, filterT_idem, owedOf_nInv] at h2
  omega

theorem realtime {l : List LEv} {w : WSt} (h : wrun l = some w) (t k t' k' : Nat)
    (hp : RetBeforeInv (history l) t k t' k') : RetBeforeInv (seqHist (lins l)) t k t' k' := by
  obtain ⟨X₁, X₂, hX, h1, h2⟩ := hp
  -- split the log where the history splits: the part of `lins l` that falls to the prefix is the scan of the prefix with the flags of the
  -- suffix as right context (`counts`)
  unfold history at hX
  obtain ⟨l₁, l₂, hl, hl1, _⟩ := List.filterMap_eq_append_iff.mp hX
  subst hl
  obtain ⟨w₁, hw₁⟩ := wrun_prefix h
  have hc := counts hw₁ (scanF (fun _ => false) l₂) t
  have hc' := counts hw₁ (scanF (fun _ => false) l₂) t'
  rw [show history l₁ = X₁ from hl1] at hc hc'
  refine ⟨seqHist (scanS (scanF (fun _ => false) l₂) l₁), seqHist (scanS (fun _ => false) l₂), ?_, ?_, ?_⟩
  · unfold lins; rw [scanS_append, seqHist_append]
  · rw [(nRet_nInv_seqHist ..).1]; omega
  · rw [(nRet_nInv_seqHist ..).2]; omega

/-- **LP soundness**: a log whose markers replay legally (an LP witness) has a linearizable history. -/
theorem lp_sound {l : List LEv} (h : LinWitness l) : Linearizable FifoSpec (history l) := by
  unfold LinWitness at h
  cases hw : wrun l with
  | none => rw [hw] at h; cases h
  | some w =>
    refine ⟨owed l, lins l, owed_isRet l, ?_, equiv_thread hw, realtime hw⟩
    unfold Legal
    show (FifoSpec.runOps [] (scanS (fun _ => false) l)).isSome = true
    rw [legal_scan hw]; rfl

end Got.Spec.Lin
