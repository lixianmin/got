import Lean.Meta.Tactic.Simp.RegisterCommand
/-- The classifications of `TPc` that `CurOK` tests (Got/Lemmas/Ants.lean), with the propositional lemmas that dispose of a
    test once its argument is a constructor. The set also unfolds `CurOK` and `Task.cur`, so `t.cur` comes out as `t.att - 1`. -/
register_simp_attr pc_tests
/-- The same for the stage of an attempt's closure: `AttOK` and the classifications of `CPc` it tests. -/
register_simp_attr cpc_tests
