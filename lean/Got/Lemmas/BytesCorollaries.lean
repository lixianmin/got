import Got.Lemmas.BytesStream
/-
Consequences of the refinement for the C13 property theorems.  The FIFO law (`Fifo`, read off by `Fifo.init_law`) is for
runs without Seek and Reset: `BufSeekFree` and `StrSeekFree` exclude both.
-/
namespace Got.Lemmas.Bytes
open Got.Model.Bytes Got.Spec.Bytes

theorem bufferSpec_no_panic {g g' : Ghost} {op : Buffer.Op} {out : Buffer.Out}
    (h : BufferSpec g op out g') : ∀ why, out ≠ .panic why := by
  rintro why rfl
  cases op with
  | seek o w =>
    simp only [BufferSpec] at h
    split at h <;> exact Buffer.Out.noConfusion h.1
  | _ => exact Buffer.Out.noConfusion h.1

theorem bufferSpecRun_no_panic : ∀ (ops : List Buffer.Op) (g g' : Ghost) (outs : List Buffer.Out),
    BufferSpecRun g ops outs g' → ∀ out ∈ outs, ∀ why, out ≠ .panic why
  | [], _, _, [], _, _, hmem => nomatch hmem
  | _ :: ops, _, g', _ :: os, ⟨g1, hs, hr⟩, out, hmem => by
    rcases List.mem_cons.1 hmem with rfl | hm
    · exact bufferSpec_no_panic hs
    · exact bufferSpecRun_no_panic ops g1 g' os hr out hm

theorem streamSpec_no_panic {g g' : Ghost} {op : Stream.Op} {out : Stream.Out}
    (h : StreamSpec g op out g') : ∀ why, out ≠ .panic why := by
  rintro why rfl
  cases op with
  | read | readByte | seek =>
    simp only [StreamSpec] at h
    split at h <;> exact Stream.Out.noConfusion h.1
  | _ => exact Stream.Out.noConfusion h.1

theorem streamSpecRun_no_panic : ∀ (ops : List Stream.Op) (g g' : Ghost) (outs : List Stream.Out),
    StreamSpecRun g ops outs g' → ∀ out ∈ outs, ∀ why, out ≠ .panic why
  | [], _, _, [], _, _, hmem => nomatch hmem
  | _ :: ops, _, g', _ :: os, ⟨g1, hs, hr⟩, out, hmem => by
    rcases List.mem_cons.1 hmem with rfl | hm
    · exact streamSpec_no_panic hs
    · exact streamSpecRun_no_panic ops g1 g' os hr out hm

theorem buffer_seek_frame (b : Buffer) (o w : Int) :
    (b.seek o w).1.buf = b.buf ∧ (b.seek o w).1.cap = b.cap ∧ (b.seek o w).1.isNil = b.isNil := by
  simp only [Buffer.seek, apply_ite Prod.fst, apply_ite Buffer.buf, apply_ite Buffer.cap, apply_ite Buffer.isNil, ite_self,
    and_self]

theorem stream_seek_frame (s : Stream) (o w : Int) : (s.seek o w).1.buf = s.buf := by
  simp only [Stream.seek, apply_ite Prod.fst, apply_ite Stream.buf, ite_self]

/-- between `g` and `g'` the bytes `w` were written and the bytes `r` were read, with no other change to the history and
    the consumed part of it -/
def Fifo (g : Ghost) (w r : List Byte) (g' : Ghost) : Prop :=
  g'.W = g.W ++ w ∧ g'.W.take g'.c = g.W.take g.c ++ r ∧ g'.Wf

namespace Fifo

theorem refl {g : Ghost} (hwf : g.Wf) : Fifo g [] [] g :=
  ⟨(List.append_nil _).symm, (List.append_nil _).symm, hwf⟩

theorem trans {g g1 g2 : Ghost} {w1 r1 w2 r2 : List Byte} (h1 : Fifo g w1 r1 g1) (h2 : Fifo g1 w2 r2 g2) :
    Fifo g (w1 ++ w2) (r1 ++ r2) g2 :=
  ⟨by rw [h2.1, h1.1, List.append_assoc], by rw [h2.2.1, h1.2.1, List.append_assoc], h2.2.2⟩

theorem appends {g g' : Ghost} {p : List Byte} (hwf : g.Wf) (h : g.Appends p g') : Fifo g p [] g' := by
  obtain ⟨hW, hc, _, hr⟩ := h
  refine ⟨hW, ?_, Nat.le_trans hr (Nat.le_of_eq hc.symm), ?_⟩
  · rw [hW, hc, List.append_nil, List.take_append_of_le_length hwf.2]
  · rw [hW, hc, List.length_append]; exact Nat.le_trans hwf.2 (Nat.le_add_right _ _)

theorem compacts {g g' : Ghost} (hwf : g.Wf) (h : g.Compacts g') : Fifo g [] [] g' :=
  appends hwf ⟨by rw [h.1, List.append_nil], h.2⟩

theorem consume (g : Ghost) (k : Nat) (hwf : g.Wf) : Fifo g [] (g.unread.take k) (g.consume k) := by
  refine ⟨(List.append_nil _).symm, ?_, wf_consume hwf k⟩
  simp only [Ghost.consume, List.take_add, Ghost.unread, ← List.take_eq_take_min]

theorem init_law {g' : Ghost} {w r : List Byte} (h : Fifo Ghost.init w r g') : r ++ g'.unread = w := by
  obtain ⟨hW, hT, _⟩ := h
  simp only [Ghost.init, List.nil_append, List.take_nil] at hW hT
  rw [← hT, ← hW]
  exact List.take_append_drop _ _

end Fifo

def bufWrites : List Buffer.Op → List Byte
  | [] => []
  | .write p :: ops => p ++ bufWrites ops
  | _ :: ops => bufWrites ops

def bufReads : List Buffer.Out → List Byte
  | [] => []
  | .read d _ :: os => d ++ bufReads os
  | .next d :: os => d ++ bufReads os
  | _ :: os => bufReads os

def BufSeekFree : Buffer.Op → Prop
  | .seek _ _ => False
  | .reset => False
  | _ => True

theorem bufWrites_cons (op : Buffer.Op) (ops : List Buffer.Op) :
    bufWrites (op :: ops) = bufWrites [op] ++ bufWrites ops := by
  cases op <;> simp [bufWrites]

theorem bufReads_cons (o : Buffer.Out) (os : List Buffer.Out) : bufReads (o :: os) = bufReads [o] ++ bufReads os := by
  cases o <;> simp [bufReads]

theorem bufferSpec_fifo {g g1 : Ghost} {op : Buffer.Op} {o : Buffer.Out} (hwf : g.Wf) (hfree : BufSeekFree op)
    (h : BufferSpec g op o g1) : Fifo g (bufWrites [op]) (bufReads [o]) g1 := by
  cases op with
  | write p => obtain ⟨rfl, happ⟩ := h; simpa [bufWrites, bufReads] using Fifo.appends hwf happ
  | read k => obtain ⟨rfl, rfl⟩ := h; simpa [bufWrites, bufReads] using Fifo.consume g k hwf
  | next n => obtain ⟨rfl, rfl⟩ := h; simpa [bufWrites, bufReads] using Fifo.consume g n.toNat hwf
  | seek o w => exact hfree.elim
  | reset => exact hfree.elim
  | tidy => obtain ⟨rfl, hc, _⟩ := h; exact Fifo.compacts hwf hc
  | grow n => obtain ⟨rfl, hc⟩ := h; exact Fifo.compacts hwf hc

theorem buffer_fifo_gen : ∀ (ops : List Buffer.Op) (g g' : Ghost) (outs : List Buffer.Out), g.Wf →
    (∀ op ∈ ops, BufSeekFree op) → BufferSpecRun g ops outs g' → Fifo g (bufWrites ops) (bufReads outs) g'
  | [], _, _, [], hwf, _, h => by cases h; exact Fifo.refl hwf
  | op :: ops, g, g', o :: os, hwf, hfree, ⟨g1, hs, hr⟩ => by
    have h1 := bufferSpec_fifo hwf (hfree op (by simp)) hs
    rw [bufWrites_cons, bufReads_cons]
    exact h1.trans (buffer_fifo_gen ops g1 g' os h1.2.2 (fun o ho => hfree o (by simp [ho])) hr)

def strWrites : List Stream.Op → List Byte
  | [] => []
  | op :: ops => op.payload.getD [] ++ strWrites ops

def strReads : List Stream.Out → List Byte
  | [] => []
  | .read d _ :: os => d ++ strReads os
  | .byte b .nil :: os => b :: strReads os
  | _ :: os => strReads os

def StrSeekFree : Stream.Op → Prop
  | .seek _ _ => False
  | .reset => False
  | _ => True

theorem StrSeekFree.valid {op : Stream.Op} (h : StrSeekFree op) : StreamOpValid op := by
  cases op with
  | seek o w => exact h.elim
  | _ => trivial

theorem strReads_cons (o : Stream.Out) (os : List Stream.Out) : strReads (o :: os) = strReads [o] ++ strReads os := by
  cases o with
  | byte b e => cases e <;> simp [strReads]
  | _ => simp [strReads]

theorem streamSpec_fifo {g g1 : Ghost} {op : Stream.Op} {o : Stream.Out} (hwf : g.Wf) (hfree : StrSeekFree op)
    (h : StreamSpec g op o g1) : Fifo g (op.payload.getD []) (strReads [o]) g1 := by
  have hwrite : ∀ p : List Byte, (o = .err .nil ∧ g.Appends p g1 ∧ g1.r = g.r) → Fifo g p (strReads [o]) g1 := by
    rintro p ⟨rfl, happ, _⟩
    exact Fifo.appends hwf happ
  cases op with
  | read k =>
    simp only [StreamSpec] at h
    split at h
    · obtain ⟨rfl, rfl⟩ := h; exact Fifo.refl hwf
    · obtain ⟨rfl, rfl⟩ := h; simpa [strReads, Stream.Op.payload] using Fifo.consume g k hwf
  | readByte =>
    have hc := Fifo.consume g 1 hwf
    simp only [StreamSpec] at h
    split at h
    · obtain ⟨rfl, rfl⟩ := h; exact Fifo.refl hwf
    · next x xs hu => obtain ⟨rfl, rfl⟩ := h; simpa [strReads, Stream.Op.payload, hu] using hc
  | seek o w => exact hfree.elim
  | reset => exact hfree.elim
  | tidy => obtain ⟨rfl, hc, _⟩ := h; exact Fifo.compacts hwf hc
  | _ => exact hwrite _ h

theorem stream_fifo_gen : ∀ (ops : List Stream.Op) (g g' : Ghost) (outs : List Stream.Out), g.Wf →
    (∀ op ∈ ops, StrSeekFree op) → StreamSpecRun g ops outs g' → Fifo g (strWrites ops) (strReads outs) g'
  | [], _, _, [], hwf, _, h => by cases h; exact Fifo.refl hwf
  | op :: ops, g, g', o :: os, hwf, hfree, ⟨g1, hs, hr⟩ => by
    have h1 := streamSpec_fifo hwf (hfree op (by simp)) hs
    rw [strWrites, strReads_cons]
    exact h1.trans (stream_fifo_gen ops g1 g' os h1.2.2 (fun o ho => hfree o (by simp [ho])) hr)

end Got.Lemmas.Bytes
