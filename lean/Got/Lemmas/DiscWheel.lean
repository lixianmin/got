import Got.Model.WheelEvents
import Got.Lemmas.Wheel
import Got.Lemmas.DisciplineOnce
/-
C18 for loom.Wheel: the event trace of the plain field `wheelData.c` of every object `c` (Got/Model/WheelEvents.lean) is
accepted by the publication-discipline monitor.

The field is written once, by the constructor, before `c` is stored into a slot cell (`c < nextChan` from then on).
What a state demands afterwards (`need`): the slot cell that holds `c` carries the write (the only writer of slot cells
after NewWheel is the ticker, which wrote the field just before its swap released the cell); a requester whose slot load
returned `c` is ordered after it (it acquired that cell); so is the ticker about to `close(c.c)` (it is the writer itself,
or acquired the cell in its swap).
-/
namespace Got.Lemmas.DiscWheel
open Got.Model.Wheel Got.Model.Discipline Got.Model.WheelEvents Got.Lemmas.Wheel Got.Lemmas.Discipline

def need (c : Nat) (s : State) : Once :=
  ⟨c < s.nextChan,
   fun u => (∃ t, u = reqThr t ∧ s.rpc t = .reloadPos ∧ s.rdata t = c) ∨ (u = tickerThr ∧ s.tpc = .close ∧ s.tlast = c),
   fun a => ∃ i, i < s.n ∧ a = slotObj i ∧ s.slot i = c⟩

theorem tlast_lt {s : State} (hT : TInv s) (h : s.tpc = .close) : s.tlast < s.nextChan := by
  rw [hT.tlast_eq h, hT.next_eq, swp, if_pos h]; omega

theorem rpc_upd {s : State} {t : Nat} {x : RPc} {P : Nat → Prop} (hx : x = .reloadPos → P t)
    (hoth : ∀ u, s.rpc u = .reloadPos → P u) : ∀ u, upd s.rpc t x u = .reloadPos → P u := by
  intro u hu
  by_cases hut : u = t
  · subst hut; rw [upd_same] at hu; exact hx hu
  · rw [upd_other hut] at hu; exact hoth u hu

theorem sim_end {c : Nat} {s s' : State} {q : Once} (hnc : s'.nextChan = s.nextChan) (hn : s'.n = s.n)
    (hslot : s'.slot = s.slot) (hW : q.W ↔ c < s.nextChan)
    (hr : ∀ t, s'.rpc t = .reloadPos → s'.rdata t = c → q.K (reqThr t))
    (ht : s'.tpc = .close → s'.tlast = c → q.K tickerThr) (hC : ∀ a, (need c s).C a → q.C a) :
    q.Sim [] (need c s') :=
  .nil (by rw [hW]; exact hnc ▸ Iff.rfl)
    (fun _ u hu => hu.elim (fun ⟨t, e, h1, h2⟩ => e ▸ hr t h1 h2) fun ⟨e, h1, h2⟩ => e ▸ ht h1 h2)
    (fun _ a ⟨i, hi, e, h⟩ => hC a ⟨i, hn ▸ hi, e, hslot ▸ h⟩)

theorem K_req {c : Nat} {s : State} {t : Nat} (h1 : s.rpc t = .reloadPos) (h2 : s.rdata t = c) :
    (need c s).K (reqThr t) := .inl ⟨t, rfl, h1, h2⟩

theorem K_tick {c : Nat} {s : State} (h1 : s.tpc = .close) (h2 : s.tlast = c) : (need c s).K tickerThr :=
  .inr ⟨rfl, h1, h2⟩

theorem sim_tick {c : Nat} {s : State} (hT : TInv s) (hR : ∀ t, RInv s t) :
    (need c s).Sim (evTick c s) (need c (tickStep fixed s)) := by
  have hn := hT.npos
  unfold evTick
  -- `.acq` adds a disjunct to `K`, `.rel` one to `C` (DisciplineOnce.lean): hence the `.inl`s in the arguments of `sim_end`
  cases ht : s.tpc with
  | loadPos =>
    simp only [tickStep, ht, fixed, Bool.false_eq_true, ↓reduceIte]
    exact .acq _ _ (sim_end rfl rfl rfl .rfl (fun _ h1 h2 => .inl (K_req (s := s) h1 h2)) nofun fun _ h => h)
  | storePos =>
    simp only [tickStep, ht, fixed, Bool.false_eq_true, ↓reduceIte]
    exact .rel _ _ (sim_end rfl rfl rfl .rfl (fun _ => K_req (s := s)) nofun fun _ h => .inl h)
  | swapSlot =>
    have htp : s.tpos < s.n := by
      rw [hT.tpos_eq (by simp [ht])]; exact Nat.mod_lt _ hn
    simp only [tickStep, ht, fixed, Bool.false_eq_true, ↓reduceIte]
    by_cases hc : s.nextChan = c
    · -- the fresh object IS c: constructor write, then the swap publishes it
      subst hc
      simp only [↓reduceIte, List.cons_append, List.nil_append]
      refine .wr _ (Nat.lt_irrefl _) (.acq _ _ (.rel _ _ (.nil ⟨fun _ => trivial, fun _ => Nat.lt_succ_self _⟩
        (fun _ u hu => .inl (hu.elim (fun ⟨t, _, h1, h2⟩ => absurd ((hR t).alloc h1) (h2 ▸ Nat.lt_irrefl _)) fun h => h.1))
        fun _ a ⟨i, hi, e, (h : upd s.slot s.tpos s.nextChan i = s.nextChan)⟩ => .inr ⟨?_, .inl rfl⟩)))
      by_cases hi' : i = s.tpos
      · rw [e, hi']
      · rw [upd_other hi'] at h
        exact absurd (hT.slot_lt hi) (h ▸ Nat.lt_irrefl _)
    · simp only [hc, ↓reduceIte, List.nil_append]
      refine .acq _ _ (.rel _ _ (.nil ⟨fun (h : c < s.nextChan + 1) => show c < s.nextChan by omega, Nat.lt_succ_of_lt⟩
        (fun _ u hu => hu.elim (fun ⟨t, e, h1, h2⟩ => .inl (.inl ⟨t, e, h1, h2⟩))
          fun ⟨e, _, h2⟩ => .inr ⟨e, s.tpos, htp, rfl, h2⟩)
        fun _ a ⟨i, hi, e, (h : upd s.slot s.tpos s.nextChan i = c)⟩ => .inl ⟨i, hi, e, ?_⟩))
      by_cases hi' : i = s.tpos
      · subst hi'; rw [upd_same] at h; exact absurd h hc
      · rwa [upd_other hi'] at h
  | close =>
    simp only [tickStep, ht]
    by_cases hc : s.tlast = c
    · simp only [hc, ↓reduceIte]
      exact .rd _ (hc ▸ tlast_lt hT ht) (.inr ⟨rfl, ht, hc⟩)
        (sim_end rfl rfl rfl .rfl (fun _ => K_req (s := s)) nofun fun _ h => h)
    · simp only [hc, ↓reduceIte]
      exact sim_end rfl rfl rfl .rfl (fun _ => K_req (s := s)) nofun fun _ h => h

theorem sim_req {c : Nat} {s : State} (t : Nat) (hT : TInv s) (hR : ∀ t, RInv s t) :
    (need c s).Sim (evReq c t s) (need c (reqStep fixed t s)) := by
  have hn := hT.npos
  unfold evReq
  cases hp : s.rpc t with
  | idle => simp only [reqStep, hp]; exact .refl _
  | loadPos =>
    simp only [reqStep, hp]
    exact .acq _ _ (sim_end rfl rfl rfl .rfl (rpc_upd nofun fun _ h1 h2 => .inl (K_req (s := s) h1 h2)) (fun h1 h2 => .inl (K_tick (s := s) h1 h2)) fun _ h => h)
  | loadSlot =>
    have hi : (s.rpos t + s.rk t) % s.n < s.n := Nat.mod_lt _ hn
    simp only [reqStep, hp, fixed, ↓reduceIte]
    refine .acq _ _ (sim_end rfl rfl rfl .rfl ?_ (fun h1 h2 => .inl (K_tick (s := s) h1 h2)) fun _ h => h)
    -- the load of the slot cell acquires what the swap (or NewWheel) released
    refine rpc_upd (fun _ (hd : upd s.rdata t _ t = c) => .inr ⟨rfl, _, hi, rfl, by rwa [upd_same] at hd⟩)
      fun u h1 (h2 : upd s.rdata t _ u = c) => ?_
    by_cases hut : u = t
    · subst hut; rw [hp] at h1; cases h1
    · rw [upd_other hut] at h2; exact .inl (K_req h1 h2)
  | reloadPos =>
    simp only [reqStep, hp]
    by_cases hc : s.rpos t = s.pos
    · simp only [hc, ↓reduceIte]
      have fin : Once.Sim ⟨c < s.nextChan, fun u => (need c s).K u ∨ (u = reqThr t ∧ (need c s).C posObj), (need c s).C⟩ []
          (need c (complete t (s.rdata t) s)) :=
        sim_end rfl rfl rfl .rfl (rpc_upd nofun fun _ h1 h2 => .inl (K_req (s := s) h1 h2))
          (fun h1 h2 => .inl (K_tick (s := s) h1 h2)) fun _ h => h
      by_cases hd : s.rdata t = c
      · -- fetchWheelData returns c: the caller reads data.c
        simp only [hd, and_self, ↓reduceIte]
        exact .acq _ _ (.rd _ (hd ▸ ((hR t).alloc hp)) (.inl (K_req hp hd)) fin)
      · simp only [hd, and_false, ↓reduceIte]
        exact .acq _ _ fin
    · simp only [hc, false_and, ↓reduceIte]
      exact .acq _ _ (sim_end rfl rfl rfl .rfl (rpc_upd nofun fun _ h1 h2 => .inl (K_req (s := s) h1 h2)) (fun h1 h2 => .inl (K_tick (s := s) h1 h2)) fun _ h => h)

theorem sim_invoke {c : Nat} {s : State} (t : Nat) (d : Int) : (need c s).Sim [] (need c (invokeStep t d s)) := by
  unfold invokeStep
  cases hp : s.rpc t with
  | idle =>
    simp only []
    split
    · exact .refl _
    · exact sim_end rfl rfl rfl .rfl (rpc_upd nofun fun _ => K_req (s := s)) (K_tick (s := s))
        fun _ h => h
  | loadPos | loadSlot | reloadPos => exact .refl _

theorem sim_step {c : Nat} {s : State} (a : Act) (hT : TInv s) (hR : ∀ t, RInv s t) :
    (need c s).Sim (evStep c s a) (need c (step fixed s a)) := by
  cases a with
  | tick => exact sim_tick hT hR
  | invoke t _ | reset t _ _ => exact sim_invoke t _
  | req t => exact sim_req t hT hR

theorem sim_prefix (n step c : Nat) : Once.Sim ⟨False, fun _ => False, fun _ => False⟩ (creatorPrefix n c) (need c (init n step)) := by
  unfold creatorPrefix
  have e : ∀ l : List Ev, l = l ++ [] := fun l => (List.append_nil l).symm  -- the `l.map … ++ evs` of `Sim.rels`
  by_cases hc : c < n
  · simp only [hc, ↓reduceIte, List.cons_append, List.nil_append]
    rw [e (List.map _ _)]
    exact .wr _ id (.rels _ _ _ (.nil ⟨fun _ => trivial, fun _ => hc⟩ (fun _ _ h => h.elim (fun ⟨_, _, h, _⟩ => nomatch h)
      fun ⟨_, h, _⟩ => nomatch h) fun _ _ ⟨i, hi, e, _⟩ => .inr ⟨rfl, i, List.mem_range.mpr hi, e⟩))
  · simp only [hc, ↓reduceIte, List.nil_append]
    rw [e (List.map _ _)]
    exact .rels _ _ _ (.nil ⟨fun h => absurd h hc, False.elim⟩ (fun h => absurd h hc) fun h => absurd h hc)

/-- For every execution of the wheel (any number of requesters, NewTimer/AfterFunc/Reset, every interleaving with
    the ticker) and every wheelData object `c`, the accesses to its plain field obey the publication discipline. -/
theorem chan_accepted (n step : Nat) (hn : 0 < n) (acts : List Act) (c : Nat) :
    accepts (chanEvents n step c acts) = true := by
  obtain ⟨m0, hr0, h0⟩ := sim_prefix n step c Mon.init (Once.met_init id)
  obtain ⟨m1, hr1⟩ := run_once (tr := chanTrace c) (J := Inv) (fun _ => rfl) (fun _ _ _ => rfl)
    (fun s a h => inv_step h a) (need c) (fun s a h => sim_step a h.t h.r) acts (init n step) m0 (inv_init n step hn) h0
  exact accepts_of_run ((run_append_some _ hr0).trans hr1)

/-- non-vacuity: an execution in which requester 7 obtains object 1 while a tick is in flight and reads its field,
    and the ticker later closes it: the trace of object 1 contains the creator's write and both reads -/
example :
    chanEvents 2 10 1 ([.invoke 7 0, .req 7, .tick, .tick, .tick, .req 7, .req 7, .req 7, .req 7, .req 7] ++
        [.tick] ++ fullTick) =
      [.wr 1, .rel 1 1, .rel 1 2, .acq 9 0, .acq 0 0, .rel 0 0, .acq 0 1, .rel 0 1, .acq 9 1, .acq 9 0, .acq 9 0,
       .acq 9 2, .acq 9 0, .rd 9, .acq 0 0, .rel 0 0, .acq 0 2, .rel 0 2, .rd 0] := by
  decide

end Got.Lemmas.DiscWheel
