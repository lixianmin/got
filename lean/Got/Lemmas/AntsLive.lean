import Got.Lemmas.AntsEnabled
import Got.Lemmas.AntsQueues
/- ants model: liveness, the invariants and the quiescent states. An attempt that was begun and whose handler has not been
   invoked is in one of three places (`uninvoked_located`, from `NoneOK`, `LiveInv`): its dispatcher is at `sendCl`, it is in
   `innerCallbackChan`, or an inner worker holds it and is about to call the handler. What a quiescent state looks like
   (C07_quiescent_invocations, C07_quiescent_shape); on states satisfying the invariants `Quiescent` agrees with `idle`. -/
namespace Got.Model.Ants

/-- an attempt that was begun and whose closure has not been handed to `sendInnerCallback` yet is the current attempt
    of a dispatcher standing before that send -/
def NoneOK (t : Task) : Prop := ∀ a, a < t.att → (t.at_ a).pc = .none → t.pc = .sendCl ∧ a + 1 = t.att

theorem noneOK_default : NoneOK {} := by
  intro a ha; simp at ha

theorem noneOK_setAt {t : Task} (hn : NoneOK t) {a b : Nat} {x : Att} (hb : b < t.att)
    (hpc : (upd t.at_ a x b).pc = .none) (hx : x.pc = .none → (t.at_ a).pc = .none) :
    t.pc = .sendCl ∧ b + 1 = t.att := by
  by_cases hba : b = a
  · rw [hba, upd_same] at hpc; exact hn b hb (hba ▸ hx hpc)
  · rw [upd_other hba] at hpc; exact hn b hb hpc

theorem noneOK_tstep {c : Cfg} {now qlen : Nat} {t t' : Task} {act : Act} (hn : NoneOK t)
    (h : TStep c now qlen t act t') : NoneOK t' := by
  intro b hb hpc
  cases h
  case begin hp _ =>
    -- the fresh attempt is the only one not yet submitted
    by_cases hba : b = t.att
    · exact ⟨rfl, by rw [hba]⟩
    · simp only [setAt_at_, upd_other hba] at hpc
      exact absurd (hn b (by have : b < t.att + 1 := hb; omega) hpc).1 (by rw [hp]; exact nofun)
  case sendCl hp =>
    by_cases hbc : b = t.cur
    · rw [hbc] at hpc; simp at hpc
    · simp only [setAt_at_, upd_other hbc] at hpc
      exact absurd (Task.cur_eq (hn b hb hpc).2).symm hbc
  case decideWin hp _ | cancel hp => exact absurd (noneOK_setAt hn hb hpc id).1 (by rw [hp]; exact nofun)
  case fire => exact noneOK_setAt hn hb hpc id
  case wTake | wStart | wEnd | checkDone | checkLive | hook1Old | hook1 | casWin | casLose | hook4 | wWrite | wClose =>
    exact noneOK_setAt hn hb hpc (fun e => CPc.noConfusion e)
  -- the other transitions keep the attempt records and do not start from `sendCl`
  case send hp | busyFull hp _ | busyFree hp _ | discardCb hp | enq hp | take hp | giveUp hp _ | hook3 hp | hook2Old hp _
      | hook2 hp _ | decideLose hp _ | writeDE hp | errNil hp _ | errRetry hp _ | onError hp | wgDone hp =>
    exact TPc.noConfusion (hp.symm.trans (hn b hb hpc).1)
  case selDoneOld hp _ | selDone hp _ | selCtx hp | waitDone hp =>
    exact TPc.noConfusion (hp.1.symm.trans (hn b hb hpc).1)

/-- stages of a client goroutine inside `Send` before the task has been put into `taskChan` -/
def TPc.early : TPc → Bool
  | .none | .sendTest | .discardCb | .discarded | .enq => true
  | _ => false

theorem tstep_early {c : Cfg} {now qlen : Nat} {t t' : Task} {act : Act} (h : TStep c now qlen t act t')
    (he : t'.pc.early = false) : t.pc.early = false ∨ ∃ k, act = .enq k := by
  rcases tstep_pc h with ⟨e, _⟩ | ⟨k, m⟩
  · exact .inl (e ▸ he)
  · generalize t.pc = p, t'.pc = p' at m he
    cases m
    case enq => exact .inr ⟨_, rfl⟩
    all_goals first | exact .inl rfl | cases he

/-- the converse of `QueueInv`: a task / closure in stage `queued` really is in its channel; plus `NoneOK`, and the pool
    size is positive as soon as some task got past the enqueue -/
structure LiveInv (c : Cfg) (s : State) : Prop where
  none : ∀ k, NoneOK (s.task k)
  cq : ∀ k a, ((s.task k).at_ a).pc = .queued → (k, a) ∈ s.innerQ
  tq : ∀ k, (s.task k).pc = .queued → k ∈ s.taskQ
  npos : ∀ k, (s.task k).pc.early = false → 0 < c.N

theorem liveInv_init (c : Cfg) : LiveInv c init := by
  constructor
  · intro k; exact noneOK_default
  · intro k a h; simp [init] at h
  · intro k h; simp [init] at h
  · intro k h; simp [init, TPc.early] at h

theorem liveInv_step {c : Cfg} {s s2 : State} {act : Act} (hinv : Inv s) (hl : LiveInv c s)
    (h : step c s act = some s2) : LiveInv c s2 := by
  constructor
  · intro k
    rcases step_task_cases h k with e | ⟨rfl, ht⟩
    · rw [e]; exact hl.none k
    · exact noneOK_tstep (hl.none _) ht
  · intro k' a' hpc
    rcases (step_cl_queued hinv h (k', a')).1 hpc with ⟨hold, hn⟩ | ⟨rfl, ha⟩
    · have hm := hl.cq k' a' hold
      rcases step_innerQ h with ⟨_, _, e⟩ | ⟨k, a, w, rfl, e⟩ | ⟨_, _, e⟩
      · rw [e]; exact List.mem_append_left _ hm
      · rw [e] at hm
        exact (List.mem_cons.mp hm).resolve_left fun e' => by cases e'; exact hn w rfl
      · rw [e]; exact hm
    · rcases step_innerQ h with ⟨_, e1, e⟩ | ⟨_, _, _, e1, _⟩ | ⟨n1, _, _⟩
      · cases e1; rw [e]; exact List.mem_append_right _ (by rw [show a' = _ from ha]; exact .head _)
      · cases e1
      · exact absurd rfl (n1 _)
  · intro k' hpc
    rcases (step_queued h k').1 hpc with ⟨hold, hn⟩ | rfl
    · have hm := hl.tq k' hold
      rcases step_taskQ h with ⟨_, _, _, e⟩ | ⟨k, rfl, _, e⟩ | ⟨_, _, e⟩
      · rw [e]; exact List.mem_append_left _ hm
      · rw [e] at hm
        exact (List.mem_cons.mp hm).resolve_left fun e' => hn (e' ▸ rfl)
      · rw [e]; exact hm
    · rcases step_taskQ h with ⟨_, e1, _, e⟩ | ⟨_, e1, _⟩ | ⟨n1, _, _⟩
      · cases e1; rw [e]; exact List.mem_append_right _ (.head _)
      · cases e1
      · exact absurd rfl (n1 _)
  · intro k' he
    rcases step_task_cases h k' with e | ⟨rfl, ht⟩
    · rw [e] at he; exact hl.npos k' he
    · rcases tstep_early ht he with h1 | ⟨k, rfl⟩
      · exact hl.npos _ h1
      · rcases step_taskQ h with ⟨_, _, hlt, _⟩ | ⟨_, e1, _⟩ | ⟨n1, _, _⟩
        · omega
        · cases e1
        · exact absurd rfl (n1 k)

/-- the invariants of the reachable states together (`live_reachable`) -/
structure Live (c : Cfg) (s : State) : Prop where
  inv : Inv s
  slots : SlotInv c s
  queues : QueueInv s
  supp : Supp s
  tasks : TasksInv s
  disp : dispatching s ≤ c.N
  live : LiveInv c s

theorem live_init (c : Cfg) : Live c init :=
  ⟨inv_init, slotInv_init c, queueInv_init, supp_init, tasksInv_init, by simp [dispatching, init], liveInv_init c⟩

theorem live_step {c : Cfg} (hc : c.old = false) {s s2 : State} {act : Act} (hi : Live c s)
    (h : step c s act = some s2) : Live c s2 :=
  ⟨inv_step hc hi.inv h, slotInv_step hi.inv hi.slots h, queueInv_step hi.inv hi.queues h, supp_step hi.supp h,
    tasksInv_step hi.tasks h, disp_step hi.tasks hi.disp h, liveInv_step hi.inv hi.live h⟩

theorem live_run {c : Cfg} (hc : c.old = false) {acts : List Act} {s s2 : State} (hi : Live c s)
    (h : run c s acts = some s2) : Live c s2 :=
  run_inv (fun _ _ _ hp hs => live_step hc hp hs) hi h

theorem live_reachable {c : Cfg} (hc : c.old = false) {s : State} (h : Reachable c s) : Live c s := by
  obtain ⟨acts, ha⟩ := h
  exact live_run hc (live_init c) ha

theorem queueInv_reachable {c : Cfg} (hc : c.old = false) {s : State} (h : Reachable c s) : QueueInv s :=
  (live_reachable hc h).queues

theorem liveInv_reachable {c : Cfg} (hc : c.old = false) {s : State} (h : Reachable c s) : LiveInv c s :=
  (live_reachable hc h).live

theorem Quiescent.stuck {c : Cfg} {s : State} (hq : Quiescent c s) : Stuck c s := hq.1

/-- no inner worker holds a closure: it could take its next step, and no handler is running -/
theorem quiescent_no_slot {c : Cfg} {s : State} (hq : Quiescent c s) (k a : Nat) :
    ((s.task k).at_ a).pc.slot? = none := by
  have hb := hq.stuck.busy k a
  cases hpc : ((s.task k).at_ a).pc <;> simp only [hpc, CPc.busy, Bool.true_eq_false] at hb
  case running w hon => exact absurd hpc (hq.2 k a w hon)
  all_goals rfl

theorem quiescent_slots_free {c : Cfg} {s : State} (hL : Live c s) (hq : Quiescent c s) (w : Nat) : s.slot w = none := by
  cases hs : s.slot w with
  | none => rfl
  | some p =>
    have := hL.slots.back w p.1 p.2 (by rw [hs])
    rw [quiescent_no_slot hq] at this; cases this

theorem TPc.pre_of_early {p : TPc} (h : p.early = true) : p.pre = true := by
  cases p <;> first | rfl | cases h

theorem not_early_of_att {s : State} (hinv : Inv s) {k : Nat} (h : 1 ≤ (s.task k).att) : (s.task k).pc.early = false :=
  Bool.eq_false_iff.2 fun he => nomatch ((hinv k).not_pre h).symm.trans (TPc.pre_of_early he)

/-- `innerCallbackChan` is empty: all inner workers are free, so its head could be received -/
theorem quiescent_innerQ {c : Cfg} {s : State} (hL : Live c s) (hq : Quiescent c s) : s.innerQ = [] := by
  cases hq1 : s.innerQ with
  | nil => rfl
  | cons p rest =>
    exfalso
    obtain ⟨k1, a1⟩ := p
    have hpc1 := hL.queues.iq k1 a1 (by rw [hq1]; simp)
    have hlt1 := lt_of_pc (hL.inv k1) hpc1 nofun
    have hN : 0 < c.N := hL.live.npos k1 (not_early_of_att hL.inv (by omega))
    exact hq.stuck.not_step rfl (.wTake (.wTake hpc1) hq1 hN (quiescent_slots_free hL hq 0))

theorem quiescent_closed {c : Cfg} {s : State} (hL : Live c s) (hq : Quiescent c s) (k a : Nat)
    (ha : a < (s.task k).att) : ((s.task k).at_ a).pc = .closed := by
  have hns := quiescent_no_slot hq k a
  have hiq := quiescent_innerQ hL hq
  cases hpc : ((s.task k).at_ a).pc <;> simp only [hpc, CPc.slot?] at hns <;> (try cases hns)
  case none =>
    exfalso
    obtain ⟨hp, hcur⟩ := hL.live.none k a ha hpc
    have hc : (s.task k).cur = a := Task.cur_eq hcur
    have hN : 0 < c.N := hL.live.npos k (by rw [hp]; rfl)
    exact hq.stuck.not_step rfl (.sendCl (.sendCl ⟨hp, hc ▸ hpc⟩) (by rw [hiq]; exact hN))
  case queued =>
    have := hL.live.cq k a hpc
    rw [hiq] at this; cases this
  case closed => rfl

theorem sumStarts_all (f : Nat → Att) (n : Nat) (h : ∀ a, a < n → (f a).starts = 1) : sumStarts f n = n := by
  induction n with
  | zero => rfl
  | succ m ih => simp [sumStarts, ih (fun a ha => h a (by omega)), h m (by omega)]

theorem quiescent_inv_eq_att {c : Cfg} {s : State} (hL : Live c s) (hq : Quiescent c s) (k : Nat) :
    (s.task k).inv = (s.task k).att ∧ ∀ a, a < (s.task k).att → ((s.task k).at_ a).starts = 1 := by
  have hst : ∀ a, a < (s.task k).att → ((s.task k).at_ a).starts = 1 := by
    intro a ha
    have := ((hL.inv k).atts a).starts_eq
    rw [quiescent_closed hL hq k a ha] at this
    simpa [CPc.started] using this
  exact ⟨by rw [(hL.inv k).inv_eq]; exact sumStarts_all _ _ hst, hst⟩

/-- no dispatcher is inside `task.run`: each of its stages has an enabled step once every closure has closed its
    doneChan -/
theorem quiescent_not_dispatching {c : Cfg} {s : State} (hL : Live c s) (hq : Quiescent c s) (k : Nat) :
    (s.task k).pc.dispatching = false := by
  have ok := hL.inv k
  have hcl : 1 ≤ (s.task k).att → ((s.task k).at_ (s.task k).cur).closedCh = true := by
    intro h
    have := quiescent_closed hL hq k (s.task k).cur (Task.cur_lt h)
    exact (ok.atts _).closed_iff.2 this
  have hfree := hq.stuck.free k
  cases hpc : (s.task k).pc <;> simp only [TPc.dispatching] <;> exfalso
  case sendCl =>
    have hatt := ok.att_pos (by simp [hpc, TPc.pre]) (by simp [hpc])
    have h1 := (ok.sendCl hpc).1
    rw [quiescent_closed hL hq k (s.task k).cur (Task.cur_lt hatt)] at h1
    cases h1
  case select =>
    have hatt := ok.att_pos (by simp [hpc, TPc.pre]) (by simp [hpc])
    by_cases ho : c.old = true
    · exact hq.stuck.not_step rfl (.plain rfl (.selDoneOld (k := k) ⟨hpc, hcl hatt⟩ ho))
    · exact hq.stuck.not_step rfl (.plain rfl (.selDone (k := k) ⟨hpc, hcl hatt⟩ ho))
  case waitDone =>
    have hatt := ok.att_pos (by simp [hpc, TPc.pre]) (by simp [hpc])
    exact hq.stuck.not_step rfl (.plain rfl (.waitDone (k := k) ⟨hpc, hcl hatt⟩))
  all_goals simp [hpc, TPc.free] at hfree

theorem quiescent_dispatching {c : Cfg} {s : State} (hL : Live c s) (hq : Quiescent c s) : dispatching s = 0 := by
  simp only [dispatching, List.length_eq_zero_iff, List.filter_eq_nil_iff]
  intro k _
  rw [quiescent_not_dispatching hL hq k]; simp

/-- `taskChan` is empty: every dispatcher is idle, so its head could be received -/
theorem quiescent_taskQ {c : Cfg} {s : State} (hL : Live c s) (hq : Quiescent c s) : s.taskQ = [] := by
  cases hq1 : s.taskQ with
  | nil => rfl
  | cons k1 rest =>
    exfalso
    have hpc1 := hL.queues.tq k1 (by rw [hq1]; simp)
    have hN : 0 < c.N := hL.live.npos k1 (by rw [hpc1]; rfl)
    exact hq.stuck.not_step rfl (.take (.take hpc1) hq1 (by rw [quiescent_dispatching hL hq]; exact hN))

/-- the last case: in a pool of size 0, which `NewPool` never builds, the clients stay blocked in the enqueue -/
theorem quiescent_tasks {c : Cfg} {s : State} (hL : Live c s) (hq : Quiescent c s) (k : Nat) :
    (s.task k).pc = .none ∨ (s.task k).pc = .discarded ∨ (s.task k).pc = .done ∨ ((s.task k).pc = .enq ∧ c.N = 0) := by
  have hd := quiescent_not_dispatching hL hq k
  have htq := quiescent_taskQ hL hq
  have hfree := hq.stuck.free k
  cases hpc : (s.task k).pc <;> simp only [hpc, TPc.dispatching] at hd <;> (try cases hd) <;> simp
  case sendTest | discardCb => simp [hpc, TPc.free] at hfree
  case enq => exact Nat.eq_zero_of_not_pos fun hN => hq.stuck.not_step rfl (.enq (.enq hpc) (by rw [htq]; exact hN))
  case queued =>
    have := hL.live.tq k hpc
    rw [htq] at this; cases this

theorem quiescent_timers {c : Cfg} {s : State} (hL : Live c s) (hq : Quiescent c s) (k a : Nat)
    (ha : a < (s.task k).att) : ((s.task k).at_ a).ctxDone = true := by
  have ok := hL.inv k
  by_cases hlast : a + 1 < (s.task k).att
  · exact (ok.past a hlast).2.1
  · have hc : (s.task k).cur = a := Task.cur_eq (by omega)
    have hpre := ok.not_pre (by omega)
    have hpost : (s.task k).pc.post = true := by
      rcases quiescent_tasks hL hq k with h | h | h | ⟨h, _⟩ <;> rw [h] at hpre ⊢ <;> first | rfl | cases hpre
    have := ok.ctxd (by omega) hpost
    rw [hc] at this; exact this

theorem quiescent_iff_idle {c : Cfg} {s : State} (hinv : Inv s) (hsup : Supp s) :
    Quiescent c s ↔ idle c s = true := by
  simp only [idle, Bool.and_eq_true, scan_stuck hinv hsup, Bool.not_eq_true']
  refine and_congr_right fun _ => ⟨fun hq => ?_, fun hi k a w hon hpc => ?_⟩
  · cases hr : handlerRunning s
    · rfl
    · exfalso
      simp only [handlerRunning, List.any_eq_true, List.mem_range] at hr
      obtain ⟨k, _, a, _, hm⟩ := hr
      cases hpc : ((s.task k).at_ a).pc <;> simp [hpc] at hm
      exact hq k a _ _ hpc
  · have hk := mem_of_cl hsup (k := k) (a := a) (by rw [hpc]; simp)
    have hlt := lt_of_pc (hinv k) hpc nofun
    have : handlerRunning s = true := by
      simp only [handlerRunning, List.any_eq_true, List.mem_range]
      exact ⟨k, hk, a, hlt, by simp [hpc]⟩
    rw [hi] at this; cases this

theorem uninvoked_located {c : Cfg} {s : State} (hL : Live c s) (k a : Nat) (ha : a < (s.task k).att)
    (h0 : ((s.task k).at_ a).starts = 0) :
    (((s.task k).at_ a).pc = .none ∧ (s.task k).pc = .sendCl ∧ a + 1 = (s.task k).att) ∨
    (((s.task k).at_ a).pc = .queued ∧ (k, a) ∈ s.innerQ) ∨
    (∃ w, ((s.task k).at_ a).pc = .taken w ∧ s.slot w = some (k, a) ∧ w < c.N) := by
  have hst := ((hL.inv k).atts a).starts_eq
  rw [h0] at hst
  cases hpc : ((s.task k).at_ a).pc <;> simp [hpc, CPc.started] at hst
  · exact Or.inl ⟨rfl, hL.live.none k a ha hpc⟩
  · exact Or.inr (Or.inl ⟨rfl, hL.live.cq k a hpc⟩)
  · rename_i w
    exact Or.inr (Or.inr ⟨w, rfl, hL.slots.own k a w (by rw [hpc]; rfl)⟩)

theorem quiescent_running {c : Cfg} {s : State} (hL : Live c s) (hq : Quiescent c s) : s.running = 0 := by
  rw [hL.slots.run]
  exact cnt_false _ _ (fun w => by simp [inH, quiescent_slots_free hL hq w])

end Got.Model.Ants
