import Got.Lemmas.BytesBuffer
/-
Lemmas for C13 (iox.OctetsStream): every operation written in terms of the ghost state its receiver represents.
-/
namespace Got.Lemmas.Bytes
open Got.Model.Bytes Got.Spec.Bytes

def StreamOpSize (op : Stream.Op) : Nat := (op.payload.getD []).length

def streamSizes (ops : List Stream.Op) : Nat := (ops.map StreamOpSize).sum

theorem write_eq_append (s : Stream) (p : List Byte) : s.write p = s.append p := by
  cases p <;> simp [Stream.write, Stream.append]

theorem stream_tidy_eq (s : Stream) : s.tidy = { buf := s.buf.drop s.pos, pos := 0 } := by
  unfold Stream.tidy
  by_cases hpos : s.pos > 0
  · rw [if_pos hpos, copyAt_slide]
  · rw [if_neg hpos]
    obtain ⟨buf, pos⟩ := s
    have h0 : pos = 0 := Nat.eq_zero_of_not_pos hpos
    subst h0; rfl

theorem stream_read_eq {s : Stream} {g : Ghost} (h : StreamRel s g) {k : Nat} (hk : k ≠ 0) :
    s.read k = ({ s with pos := s.pos + min k g.unread.length }, .read (g.unread.take k) .nil) := by
  have hun : s.buf.drop s.pos = g.unread := Rep.unread h
  have hul := Rep.unread_length h
  have hle : s.pos ≤ s.buf.length := Rep.off_le h
  unfold Stream.read
  by_cases hrem : (s.buf.length : Int) - (s.pos : Int) = 0
  · have hnil : g.unread = [] := List.eq_nil_of_length_eq_zero (by omega)
    simp [hk, hrem, hnil]
  · simp only [hk, hrem, if_false, clamp_eq k s.buf.length s.pos (Int.natCast_nonneg _) hle,
      Int.not_lt.2 (Int.natCast_nonneg _), Int.toNat_natCast, hun, ← hul, ← List.take_eq_take_min]

theorem stream_readByte_eq {s : Stream} {g : Ghost} (h : StreamRel s g) :
    s.readByte = match g.unread with
      | [] => (s, .byte 0 .notEnoughData)
      | x :: _ => ({ s with pos := s.pos + 1 }, .byte x .nil) := by
  have hun : s.buf.drop s.pos = g.unread := Rep.unread h
  unfold Stream.readByte
  by_cases he : s.pos ≥ s.buf.length
  · rw [if_pos he, ← hun, List.drop_of_length_le he]
  · have hlt : s.pos < s.buf.length := Nat.lt_of_not_le he
    rw [if_neg he, ← hun, List.drop_eq_getElem_cons hlt]
    simp [List.getD_eq_getElem?_getD, hlt]

theorem stream_seek_eq {s : Stream} {g : Ghost} (h : StreamRel s g) {o : Int} (w : Int)
    (ho : -(2 ^ 63 : Int) ≤ o ∧ o < 2 ^ 63) (hL : (s.buf.length : Int) < 2 ^ 63) :
    s.seek o w =
      if g.seekOk o w then
        ({ s with pos := (g.seekTarget o w).toNat }, .seek (g.seekTarget o w).toNat .nil)
      else (s, .seek 0 .invalidArgument) := by
  have hpos : s.pos = g.c - g.r := h.2.2
  have hlen : s.buf.length = g.retained := Rep.length h
  -- the model's local `go num` (the code of `Seek` behind the `switch`, `num` = the base the case chose), when `num + o`
  -- is the target
  have hgo : ∀ num : Int, 0 ≤ w ∧ w ≤ 2 → num + o = g.seekTarget o w →
      (if wrap64 (num + o) < 0 ∨ wrap64 (num + o) > s.buf.length then (s, Stream.Out.seek 0 .invalidArgument)
        else ({ s with pos := (wrap64 (num + o)).toNat }, .seek (wrap64 (num + o)).toNat .nil)) =
      if g.seekOk o w then
        ({ s with pos := (g.seekTarget o w).toNat }, .seek (g.seekTarget o w).toNat .nil)
      else (s, .seek 0 .invalidArgument) := by
    intro num hw hnum
    obtain ⟨hiff, hex⟩ := Rep.seek_wrap h ho hL hw
    rw [hnum]
    by_cases hok : g.seekOk o w
    · have := hiff.2 hok
      rw [if_neg (by omega), if_pos hok, hex hok]
    · have := mt hiff.1 hok
      rw [if_pos (by omega), if_neg hok]
  unfold Stream.seek
  simp only []
  by_cases hw0 : w = 0
  · subst hw0
    rw [if_pos rfl]
    by_cases hneg : o < 0
    · rw [if_pos hneg, if_neg]
      rintro ⟨_, _, h3, _⟩
      have : g.seekTarget o 0 = 0 + o := rfl
      omega
    · rw [if_neg hneg]
      exact hgo 0 (by decide) rfl
  · rw [if_neg hw0]
    by_cases hw1 : w = 1
    · subst hw1
      rw [if_pos rfl]
      exact hgo s.pos (by decide) (by rw [hpos]; rfl)
    · rw [if_neg hw1]
      by_cases hw2 : w = 2
      · subst hw2
        rw [if_pos rfl]
        exact hgo s.buf.length (by decide) (by rw [hlen]; rfl)
      · rw [if_neg hw2, if_neg]
        rintro ⟨h3, h4, _⟩
        omega

/-- `Seek` adds int64s, hence the bound: lengths stay below 2^63, as they do in Go -/
theorem stream_step_sim (s : Stream) (g : Ghost) (op : Stream.Op) (h : StreamRel s g)
    (hv : StreamOpValid op) (hbound : ((s.buf.length + StreamOpSize op : Nat) : Int) < 2 ^ 63) :
    ∃ g', StreamSpec g op (s.step op).2 g' ∧ StreamRel (s.step op).1 g' ∧
      (s.step op).1.buf.length ≤ s.buf.length + StreamOpSize op := by
  -- all six writers append their payload
  have happ : ∀ p : List Byte, ∃ g', (Stream.Out.err .nil = .err .nil ∧ g.Appends p g' ∧ g'.r = g.r) ∧
      StreamRel (s.append p) g' ∧ (s.append p).buf.length ≤ s.buf.length + p.length := fun p =>
    let ⟨ha, hrel⟩ := Rep.compact_append h (Nat.zero_le _) p
    ⟨_, ⟨rfl, ha, rfl⟩, hrel, Nat.le_of_eq List.length_append⟩
  cases op with
  | write p => rw [Stream.step, write_eq_append]; exact happ p
  | writeByte _ | writeBool _ | writeInt16 _ | writeInt32 _ | writeInt64 _ => exact happ _
  | reset => exact ⟨_, ⟨rfl, rfl⟩, Rep.init, Nat.zero_le _⟩
  | tidy =>
    obtain ⟨hcomp, hrel'⟩ := Rep.tidy h
    rw [Stream.step, stream_tidy_eq]
    exact ⟨_, ⟨rfl, hcomp, rfl⟩, hrel', List.length_drop ▸ Nat.sub_le _ _⟩
  | read k =>
    by_cases hk : k = 0
    · subst hk
      exact ⟨g, ⟨rfl, rfl⟩, h, Nat.le_refl _⟩
    · rw [Stream.step, stream_read_eq h hk]
      exact ⟨_, (if_neg hk).mpr ⟨rfl, rfl⟩, Rep.consume h k, Nat.le_refl _⟩
  | readByte =>
    rw [Stream.step, stream_readByte_eq h]
    have hc := Rep.consume h 1
    unfold StreamSpec
    cases hu : g.unread with
    | nil => exact ⟨g, ⟨rfl, rfl⟩, h, Nat.le_refl _⟩
    | cons x xs =>
      rw [hu] at hc
      exact ⟨_, ⟨rfl, rfl⟩, hc, Nat.le_refl _⟩
  | seek o w =>
    rw [Stream.step, stream_seek_eq h w hv (by omega)]
    by_cases hok : g.seekOk o w
    · rw [if_pos hok]
      exact ⟨_, (if_pos hok).mpr ⟨rfl, rfl⟩, Rep.seek h hok, Nat.le_refl _⟩
    · rw [if_neg hok]
      exact ⟨g, (if_neg hok).mpr ⟨rfl, rfl⟩, h, Nat.le_refl _⟩

theorem streamSizes_cons (op : Stream.Op) (ops : List Stream.Op) :
    streamSizes (op :: ops) = StreamOpSize op + streamSizes ops := by
  simp [streamSizes]

theorem stream_run_sim (ops : List Stream.Op) : ∀ (s : Stream) (g : Ghost), StreamRel s g →
    (∀ op ∈ ops, StreamOpValid op) → ((s.buf.length + streamSizes ops : Nat) : Int) < 2 ^ 63 →
    ∃ g', StreamSpecRun g ops (s.run ops).2 g' ∧ StreamRel (s.run ops).1 g' ∧
      (s.run ops).1.buf.length ≤ s.buf.length + streamSizes ops := by
  induction ops with
  | nil => intro s g h _ _; exact ⟨g, rfl, h, Nat.le_add_right _ _⟩
  | cons op ops ih =>
    intro s g h hv hbound
    rw [streamSizes_cons, ← Nat.add_assoc] at hbound ⊢
    obtain ⟨g1, hs1, hrel1, hlen1⟩ := stream_step_sim s g op h (hv op (by simp)) (by omega)
    obtain ⟨g', hrun, hrel', hlen'⟩ := ih (s.step op).1 g1 hrel1 (fun o ho => hv o (by simp [ho])) (by omega)
    exact ⟨g', ⟨g1, hs1, hrun⟩, hrel', Nat.le_trans hlen' (Nat.add_le_add_right hlen1 _)⟩

end Got.Lemmas.Bytes
