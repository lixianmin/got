import Got.Model.MSQueueEvents
import Got.Lemmas.MSQueueInv
import Got.Lemmas.DisciplineOnce
/-
C18 for loom.Queue from the fine-grained model (`value_accepted`; race freedom follows by `accepts_raceFree`).
`n.value` is written once, by the allocation step.  What a state demands afterwards (`need`): every thread that holds `n`
(`holds`) is ordered after the write; every cell `p.next` that contains `n` carries it — it was released by the linking CAS
of the pusher, and a popper reads it by an atomic load of such a cell.
-/
namespace Got.Lemmas.DiscMSQueue
open Got.Model.MSQueue Got.Model.Discipline Got.Spec.Lin Got.Lemmas.Discipline

theorem run_nil (m : Mon) : m.run [] = some m := rfl

/-- the program points from which a thread may go on to use its pointer to `n` without a further load -/
def holds (n : Nat) (p : Pc) : Prop := priv p = some n ∨ ∃ hd tl, p = .d4 hd tl (some n)

/-- `W`: `n` is allocated (the allocation step wrote its value); `K`: the threads that hold `n`; `C`: the cells `p.next` that contain `n`. -/
def need (n : Nat) (s : State) : Once :=
  ⟨n < s.nalloc, fun t => holds n (s.pc t), fun a => ∃ p, a = objNext p ∧ s.next p = some n⟩

theorem holds_upd {n : Nat} {pc : Nat → Pc} {t : Nat} {p' : Pc} {Q : Nat → Prop} (hself : holds n p' → Q t)
    (hoth : ∀ u, holds n (pc u) → Q u) : ∀ u, holds n (upd pc t p' u) → Q u := by
  intro u hu
  by_cases ht : u = t
  · subst ht; rw [upd_same] at hu; exact hself hu
  · rw [upd_other ht] at hu; exact hoth u hu

/-- the end of a step of `t` that changes neither the links nor the allocation counter: `q`, reached by its events, demands no
    less than `need n s` did and accounts for `t` if it newly holds `n` -/
theorem sim_end {n : Nat} {s : State} {h' : Heap} {evs : List LEv} {q : Once} (t : Nat) (p' : Pc)
    (hnext : h'.next = s.next) (hna : h'.nalloc = s.nalloc) (hW : q.W ↔ n < s.nalloc)
    (hK : ∀ u, holds n (s.pc u) → q.K u) (hC : ∀ a, (need n s).C a → q.C a) (hself : holds n p' → q.K t) :
    q.Sim [] (need n (lift s t h' p' evs)) :=
  .nil (by rw [hW]; exact hna ▸ Iff.rfl) (fun _ => holds_upd hself hK)
    (fun _ a ⟨p, e, h⟩ => hC a ⟨p, e, hnext ▸ h⟩)

/-- a CAS (a load, if it fails) by which `t` does not come to hold `n` -/
theorem sim_cas {n : Nat} {s : State} {h' : Heap} {evs : List LEv} (t a : Nat) (ok : Bool) (p' : Pc)
    (hnext : h'.next = s.next) (hna : h'.nalloc = s.nalloc) (hself : holds n p' → holds n (s.pc t)) :
    (need n s).Sim (casEv t a ok) (need n (lift s t h' p' evs)) := by
  cases ok
  · exact .acq t a (sim_end t p' hnext hna .rfl (fun _ h => .inl h) (fun _ h => h) fun h => .inl (hself h))
  · exact .acq t a (.rel t a
      (sim_end t p' hnext hna .rfl (fun _ h => .inl h) (fun _ h => .inl h) fun h => .inl (hself h)))

theorem not_holds {n : Nat} {p : Pc} {X : Prop} (h1 : priv p = none) (h2 : ∀ hd tl, p ≠ .d4 hd tl (some n))
    (h : holds n p) : X :=
  h.elim (fun h => nomatch h1.symm.trans h) fun ⟨hd, tl, e⟩ => absurd e (h2 hd tl)

theorem stepEvents_skip {n : Nat} {s : State} {a : Act} (h : stutters s a) : stepEvents n s a = [] := by
  cases a with
  | tau t => rcases h with h | h <;> simp only [stepEvents, h]
  | invPush t v => cases hp : s.pc t <;> first | exact absurd hp h | simp only [stepEvents, hp]
  | invPop t => rfl

theorem sim_thread {n : Nat} {s : State} (hI : Inv s) {t : Nat} {a : Act} {h' : Heap} {p' : Pc} {evs : List LEv}
    (hs : ThStep s.toHeap t a (s.pc t) h' p' evs) :
    (need n s).Sim (stepEvents n s a) (need n (lift s t h' p' evs)) := by
  have hl := hI.loc t
  have load : ∀ (a : Nat) {h' : Heap} {evs : List LEv} (p' : Pc), h'.next = s.next → h'.nalloc = s.nalloc →
      (holds n p' → holds n (s.pc t)) → (need n s).Sim [.acq t a] (need n (lift s t h' p' evs)) := fun a => sim_cas t a false
  generalize hp : s.pc t = p at hs hl
  cases hs with
  | @invPush v =>
    simp only [stepEvents, hp]
    -- allocation of node s.nalloc by thread t: nobody holds it or points to it yet
    have hnonext : ∀ p, s.next p ≠ some s.nalloc := fun p h => Nat.lt_irrefl _ (hI.glob.next_lt h)
    have hnohold : ∀ u, ¬ holds s.nalloc (s.pc u) := by
      rintro u (h | ⟨hd, tl, h⟩)
      · exact Nat.lt_irrefl _ (priv_lt h (hI.loc u))
      · have hl := hI.loc u
        rw [h] at hl
        exact hnonext hd (hl.2.1 _ rfl)
    by_cases hn : s.nalloc = n
    · -- the write of n.value
      subst hn
      rw [if_pos rfl]
      exact .wr t (Nat.lt_irrefl _) (.nil ⟨fun _ => trivial, fun _ => Nat.lt_succ_self _⟩
        (fun _ => holds_upd (fun _ => rfl) fun u h => absurd h (hnohold u)) fun _ _ ⟨p, _, h⟩ => absurd h (hnonext p))
    · rw [if_neg hn]
      exact .nil ⟨fun (h : n < s.nalloc + 1) => show n < s.nalloc by omega, fun h => Nat.lt_succ_of_lt h⟩
        (fun _ => holds_upd (fun h => h.elim (fun h => absurd (Option.some.inj h) hn) nofun) fun _ h => h) (fun _ _ h => h)
  | invPop => exact sim_end t .d1 rfl rfl .rfl (fun _ h => h) (fun _ h => h) (not_holds rfl nofun)
  | p4h | d5h =>
    simp only [stepEvents, hp]
    exact sim_cas _ _ _ _ (swing_next ..) (swing_nalloc ..) (hp ▸ .imp_right nofun)
  | p5 =>
    simp only [stepEvents, hp]
    exact sim_cas _ _ _ .idle (swing_next ..) (swing_nalloc ..) (not_holds rfl nofun)
  | take =>
    simp only [stepEvents, hp]
    exact sim_cas _ _ _ .idle rfl rfl (not_holds rfl nofun)
  | obs =>
    simp only [stepEvents, hp]
    exact load _ (.d4 _ _ none) rfl rfl (not_holds rfl nofun)
  | empty _ h' =>
    simp only [stepEvents, hp]
    rw [if_neg (fun c => c.2.1 h')]
    exact load _ .idle rfl rfl (not_holds rfl nofun)
  | @link k tl hn =>
    -- successful link CAS: the cell tl.next now holds k, and carries what the pusher knows
    simp only [stepEvents, hp, hn, decide_true]
    refine .acq t _ (.rel t _ (.nil .rfl (fun _ => holds_upd (not_holds rfl nofun) fun _ h => .inl h) fun _ a ⟨p, ha, hpn⟩ => ?_))
    have hpn' : upd s.next tl (some k) p = some n := hpn
    by_cases hpt : p = tl
    · subst hpt
      rw [upd_same] at hpn'
      cases hpn'
      exact .inr ⟨ha, .inl (.inl (by rw [hp]; rfl))⟩
    · rw [upd_other hpt] at hpn'
      exact .inl ⟨p, ha, hpn'⟩
  | loc hloc =>
    cases hloc with
    | p1 | p2 | p3None | p3Some | p3Retry =>
      simp only [stepEvents, hp]
      exact load _ _ rfl rfl (hp ▸ .imp_right nofun)
    | d1 | d2 =>
      simp only [stepEvents, hp]
      exact load _ _ rfl rfl (not_holds rfl nofun)
    | p4Retry =>
      simp only [stepEvents, hp]
      exact sim_cas _ _ _ _ rfl rfl (hp ▸ .imp_right nofun)
    | d5Retry =>
      simp only [stepEvents, hp]
      exact sim_cas _ _ _ _ rfl rfl (not_holds rfl nofun)
    | @d3Some hd tl x hn =>
      -- the load of hd.next acquires what the linking CAS released
      simp only [stepEvents, hp]
      exact .acq t _ (sim_end t (.d4 hd tl (some x)) rfl rfl .rfl (fun _ h => .inl h) (fun _ h => h) fun h =>
        h.elim nofun fun ⟨_, _, e⟩ => by cases e; exact .inr ⟨rfl, hd, rfl, hn⟩)
    | d4Help _ h' =>
      simp only [stepEvents, hp]
      rw [if_neg (fun c => c.2.1 h')]
      exact load _ _ rfl rfl (not_holds rfl nofun)
    | d4Crash =>
      simp only [stepEvents, hp]
      rw [if_neg (fun c => nomatch c.2.2)]
      exact load _ _ rfl rfl (not_holds rfl nofun)
    | d4Retry h1 =>
      simp only [stepEvents, hp]
      rw [if_neg (fun c => h1 c.1)]
      exact load _ _ rfl rfl (not_holds rfl nofun)
    | @d4Take hd tl x h1 h2 =>
      simp only [stepEvents, hp]
      by_cases hx : x = n
      · -- the plain read of n.value
        subst hx
        rw [if_pos ⟨h1, h2, rfl⟩]
        have hlt : x < s.nalloc := hI.glob.next_lt (hl.2.1 x rfl)
        exact .acq t _ (.rd t hlt (.inl (.inr ⟨hd, tl, hp⟩))
          (sim_end t _ rfl rfl .rfl (fun _ h => .inl h) (fun _ h => h) (not_holds rfl nofun)))
      · rw [if_neg (fun c => hx (Option.some.inj c.2.2))]
        exact load _ _ rfl rfl (not_holds rfl nofun)

theorem sim_step {n : Nat} {s : State} (hI : Inv s) (a : Act) :
    (need n s).Sim (stepEvents n s a) (need n (step s a)) := by
  have H := step_spec s a
  generalize step s a = s' at H
  cases H with
  | skip h => rw [stepEvents_skip h]; exact .refl _
  | move hs => exact sim_thread hI hs

/-- **C18 for loom.Queue, from the fine-grained model.** For every execution of the Michael–Scott LTS
    (any number of threads, any programs, any interleaving of the atomic steps) and every node `n`, the
    trace of the plain accesses to `n.value` and of all atomic operations is accepted by the
    publication discipline. -/
theorem value_accepted (acts : List Act) (n : Nat) : accepts (valueEvents n acts) = true :=
  (run_once (tr := eventsFrom n) (fun _ => rfl) (fun _ _ _ => rfl) (fun _ a h => inv_step h a) (need n)
    (fun _ a h => sim_step h a) acts init Mon.init inv_init
    ⟨fun _ => fresh_init, fun _ _ h => not_holds (p := .idle) rfl nofun h, fun _ _ ⟨_, _, h⟩ => nomatch h⟩).elim fun _ => accepts_of_run

end Got.Lemmas.DiscMSQueue
