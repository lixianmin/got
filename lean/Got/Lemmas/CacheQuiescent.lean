import Got.Lemmas.CacheInv
/-
C06: a reachable state of the fixed code in which no client / worker / loader transition is enabled has every call
returned and every future resolved.
-/
namespace Got.Lemmas.Cache
open Got.Model.Cache Got.Spec.Cache

theorem quiescent_done (cfg : Cfg) (s : State) (hfix : cfg.old = false) (hP : 1 ≤ cfg.P) (hJ : 1 ≤ cfg.J)
    (h : Inv cfg s) (hq : ¬ CanProgress cfg s) : AllReturned s ∧ AllResolved s := by
  have hno : ∀ {a : Act} {s'}, Step cfg s a s' → a.isProgress = true → False := fun hs ha =>
    hq ⟨_, ha, by rw [hs.to_step?]; rfl⟩
  -- in this order: no lock is held; so every worker is in its select (a sweep could run); so the channel is empty
  -- (worker 0 could take); so nobody is in sendJob; so no job is held anywhere
  have hnoUnlock : ∀ c sh send plan, s.cpc c ≠ .ldUnlock sh send plan := by
    intro c sh send plan hc
    cases send
    · exact hno (.ldUnlock c sh plan hc) rfl
    · exact hno (.ldUnlockSend c sh _ plan hc) rfl
  have hlock : ∀ sh, s.lock sh = none := by
    intro sh
    cases hl : s.lock sh with
    | none => rfl
    | some c =>
      rcases h.l_holder sh c hl with ⟨send, plan, e⟩ | ⟨j, plan, e⟩
      · exact absurd e (hnoUnlock c sh send plan)
      · cases h.l_fixed hfix c j plan (some sh) e
  have hidle : ∀ w, s.wpc w = .idle := by
    intro w
    cases hw : s.wpc w with
    | idle => rfl
    | got j => exact (hno (.wStart w j hw) rfl).elim
    | running j => exact (hno (.wEnd w ⟨none, none⟩ j hw) rfl).elim
    | publish j r => exact (hno (.publish w j r hw) rfl).elim
    | clearPred j => exact (hno (.clearPred w j hw) rfl).elim
    | wgDone j => exact (hno (.wgDone w j hw) rfl).elim
    | sweep i => exact (hno (.sweep w i hw (hlock i)) rfl).elim
  have hchan : s.chan = [] := by
    cases hch : s.chan with
    | nil => rfl
    | cons j rest => exact (hno (.wTake 0 j rest hP (hidle 0) hch) rfl).elim
  have hnoSend : ∀ c j plan lk, s.cpc c ≠ .ldSend j plan lk := by
    intro c j plan lk hc
    have hlen : s.chan.length < cfg.J := by rw [hchan]; exact hJ
    cases lk
    · exact hno (.ldSend c j plan hc hlen) rfl
    · exact hno (.ldSendOld c j plan _ hc hlen) rfl
  have hres : ∀ f, f < s.nfut → (s.fut f).done = true ∧ (s.fut f).res.isSome = true := by
    intro f hf
    refine (done_or_held h hf).resolve_right fun ⟨_, j, hj, _⟩ => ?_
    generalize s.jobAt f = l at hj
    cases l with
    | creator c =>
      cases hc : s.cpc c <;> simp [Held, hc, jobOf] at hj
      · exact absurd hc (hnoUnlock c _ _ _)
      · exact absurd hc (hnoSend c _ _ _)
    | chan => exact nomatch (hchan ▸ hj : j ∈ [])
    | worker w => exact nomatch (hidle w ▸ hj : wjob .idle = some j)
    | _ => exact hj
  refine ⟨?_, hres⟩
  intro c
  cases hc : s.cpc c with
  | idle => exact .inl rfl
  | done o => exact .inr ⟨o, rfl⟩
  | ldStart k ld => exact (hno (.ldStart c k ld hc (hlock _)) rfl).elim
  | ldUnlock sh send plan => exact absurd hc (hnoUnlock c sh send plan)
  | ldSend j plan lk => exact absurd hc (hnoSend c j plan lk)
  | fetch f g => exact (hno (.fetch c f g hc) rfl).elim
  | fetchSt f p g => exact (hno (.fetchSt c f p g hc) rfl).elim
  | ldRet f => exact (hno (.ldRet c f hc) rfl).elim
  | g2Start k => exact (hno (.g2Start c k hc (hlock _)) rfl).elim
  | g2Status o => exact (hno (.g2Status c o hc) rfl).elim
  | wait f => exact (hno (.wait c f hc (hres f (pc_lt h hc (List.mem_cons_self ..))).1) rfl).elim
  | retNil => exact (hno (.retNil c hc) rfl).elim
  | setStart k r => exact (hno (.setStart c k r hc (hlock _)) rfl).elim
  | setRet => exact (hno (.setRet c hc) rfl).elim

end Got.Lemmas.Cache
