import Got.Lemmas.CodecAstLoop
import Got.Lemmas.BytesStreamAst
/-
Translator tie of the iox codec: `OctetsStream.Read` (the case ReadBytes uses: the whole request is available)
and `OctetsReader.ReadBytes` / `ReadString` — `make([]byte, size)` with the ghost allocation counter, the call
`my.stream.Read(data)` whose element writes (`copy`) come back to the caller's slice, the inlined `Len()`/`Position()`.
-/
namespace Got.Lemmas.CodecAst
open Got.Model.MiniGoBytes Got.Generated.AstIox
open Got.Model.Codec (readBytes readString)
open Got.Lemmas.BytesStreamAst (s_read_ast mdl_read readOut' cvS conc_mdl map_ofNat_toNat)

theorem s_read_full_ast (buf : List Byte) (pos a n : Nat) (fuel : Nat) (hf : 14 ≤ fuel) (hn : 0 < n)
    (h : pos + n ≤ buf.length) :
    run table "OctetsStream.Read" fuel [.bytes (List.replicate n 0)] ⟨buf, pos, a⟩ =
      some (.ret [.int n, .err none] [some ((buf.drop pos).take n)] ⟨buf, ((pos + n : Nat) : Int), a⟩) := by
  have hm : min n (buf.length - pos) = n := by omega
  rw [s_read_ast buf _ pos a fuel hf (by omega), List.length_replicate, mdl_read buf pos n (by omega) (by omega), hm]
  simp [readOut', cvS, conc_mdl, hm, map_ofNat_toNat]

theorem pos_size {size : BitVec 32} (h0 : 0 < size.toNat) (hi : size.toInt = size.toNat) :
    size.slt 0#32 = false ∧ ¬ size = 0#32 :=
  ⟨by simp [BitVec.slt]; omega, fun hz => by subst hz; simp at h0⟩

theorem r_readBytes_ast (buf : List Byte) (pos a : Nat) (fuel : Nat) (hf : 120 ≤ fuel) (hp : pos ≤ buf.length) :
    run table "OctetsReader.ReadBytes" fuel [] ⟨buf, pos, a⟩ =
      some (readOut .bytes (.bytes []) ⟨buf, pos, a⟩ (readBytes buf pos)) := by
  refine (run_table 20 (by omega) _ _ rfl tbl_r_ReadBytes).trans ?_
  simp only [OctetsReader_ReadBytes]
  -- the first statement is the call of Read7BitEncodedInt (90 units): 120 rounds 91 up, as 130 of ReadString does 121
  rw [exec_call (vs := []) (h := rfl), r_read7_ast buf pos a (fuel - 20 + 19) (by omega)]
  rcases Got.Lemmas.Codec.readBytes_char buf pos hp with ⟨e, p, h7, hr⟩ | ⟨size, p, h7, hc⟩
  · rw [h7, hr]
    simp only [readOut]
    ast_eval
  · rw [h7]
    simp only [readOut]
    cases hc with
    | negative hneg hr =>
      rw [hr]
      have hs : size.slt 0#32 = true := by simp [BitVec.slt, hneg]
      ast_eval [hs]
      simp [cv]
    | short hi hsh hr =>
      rw [hr]
      obtain ⟨hs, hz⟩ := pos_size (by omega) hi
      have hc : (buf.length : Int) - (p : Int) < size.toInt := by omega
      ast_eval [hs, hz, hc]
      simp [cv]
    | full hi hfull hr =>
      rw [hr]
      rcases Nat.eq_zero_or_pos size.toNat with h0 | h0
      · obtain rfl : size = 0#32 := BitVec.eq_of_toNat_eq h0
        have hs : (0#32 : BitVec 32).slt 0#32 = false := by decide
        ast_eval [hs]
        simp
      obtain ⟨hs, hz⟩ := pos_size h0 hi
      have hc : ¬ ((buf.length : Int) - (p : Int) < size.toInt) := by omega
      have hk : ¬ (size.toInt < 0) := by omega
      have hn : size.toInt.toNat = size.toNat := by omega
      ast_eval [hs, hz, hc, hk, hn]
      rw [exec_call (vs := [.bytes (List.replicate size.toNat 0)]) (h := by ast_eval),
        s_read_full_ast buf p (a + size.toNat) size.toNat (fuel - 20 + 13) (by omega) h0 hfull]
      have hback : BitVec.ofInt 32 ((size.toNat : Nat) : Int) = size := by
        rw [BitVec.ofInt_natCast, BitVec.ofNat_toNat, BitVec.setWidth_eq]
      ast_eval [hback]

theorem r_readString_ast (buf : List Byte) (pos a : Nat) (fuel : Nat) (hf : 130 ≤ fuel) (hp : pos ≤ buf.length) :
    run table "OctetsReader.ReadString" fuel [] ⟨buf, pos, a⟩ =
      some (readOut .bytes (.bytes []) ⟨buf, pos, a⟩ (readString buf pos)) := by
  refine (run_table 8 (by omega) _ _ rfl tbl_r_ReadString).trans ?_
  simp only [OctetsReader_ReadString]
  rw [exec_call (vs := []) (h := rfl), r_readBytes_ast buf pos a (fuel - 8 + 7) (by omega) hp]
  unfold readString readOut
  cases (readBytes buf pos).out with
  | ok v => ast_eval
  | err e => ast_eval
  | crash => rfl

end Got.Lemmas.CodecAst
