import Got.Spec.Bytes
/-
Lemmas for C13.  A slice with a cursor represents a ghost state (`Rep`, to which `BufferRel` and `StreamRel` both unfold),
so what reading, seeking, compacting and appending do to the represented state is proved once, about `Rep`.  Every
operation of iox.Buffer is then written in terms of the ghost state its receiver represents (`dropped`, `buffer_*_eq`).
-/
namespace Got.Lemmas.Bytes
open Got.Model.Bytes Got.Spec.Bytes

theorem smallBufferSize_eq : smallBufferSize = 64 := by decide
theorem maxInt_eq : maxInt = 9223372036854775807 := by decide
theorem maxAlloc_eq : maxAlloc = 281474976710656 := by decide
theorem slideDiv_eq : slideDiv = 2 := by decide
theorem growMul_eq : growMul = 2 := by decide

theorem wrap64_exact (x : Int) (h1 : -(2 ^ 63 : Int) ≤ x) (h2 : x < 2 ^ 63) : wrap64 x = x := by
  unfold wrap64
  omega

/-- `x`: the sum of an int64 and a slice length; `L`: a slice length -/
theorem wrap64_range (x L : Int) (h1 : -(2 ^ 63 : Int) ≤ x) (h2 : x < 2 ^ 64) (hL : L < 2 ^ 63) :
    (0 ≤ wrap64 x ∧ wrap64 x ≤ L) ↔ (0 ≤ x ∧ x ≤ L) := by
  unfold wrap64
  omega

/-- Go's `if n > m { n = m }` for a non-negative request `n` and `m = a - b` remaining bytes -/
theorem clamp_eq (n : Int) (a b : Nat) (hn : 0 ≤ n) (h : b ≤ a) :
    (if n > (a : Int) - b then (a : Int) - b else n) = ((min n.toNat (a - b) : Nat) : Int) := by
  split <;> omega

def Rep (buf : List Byte) (off : Nat) (g : Ghost) : Prop :=
  g.Wf ∧ buf = g.W.drop g.r ∧ off = g.c - g.r

theorem wf_consume {g : Ghost} (h : g.Wf) (k : Nat) : (g.consume k).Wf :=
  ⟨Nat.le_trans h.1 (Nat.le_add_right _ _),
    Nat.add_le_of_le_sub' h.2 (Nat.le_trans (Nat.min_le_right _ _) (Nat.le_of_eq List.length_drop))⟩

namespace Rep
variable {buf : List Byte} {off : Nat} {g : Ghost}

theorem length (h : Rep buf off g) : buf.length = g.retained := by
  rw [h.2.1, List.length_drop, Ghost.retained]

theorem unread (h : Rep buf off g) : buf.drop off = g.unread := by
  obtain ⟨⟨h1, _⟩, hb, ho⟩ := h
  rw [hb, ho, List.drop_drop, Ghost.unread, Nat.add_sub_cancel' h1]

theorem unread_length (h : Rep buf off g) : g.unread.length = buf.length - off := by
  rw [← h.unread, List.length_drop]

theorem off_le (h : Rep buf off g) : off ≤ buf.length := by
  rw [h.length, h.2.2]
  exact Nat.sub_le_sub_right h.1.2 _

theorem init : Rep [] 0 Ghost.init := ⟨⟨Nat.le_refl _, Nat.le_refl _⟩, rfl, rfl⟩

theorem self (h : off ≤ buf.length) : Rep buf off { W := buf, r := 0, c := off } := ⟨⟨Nat.zero_le _, h⟩, rfl, rfl⟩

theorem consume (h : Rep buf off g) (k : Nat) : Rep buf (off + min k g.unread.length) (g.consume k) :=
  ⟨wf_consume h.1 k, h.2.1, by rw [h.2.2]; exact (Nat.sub_add_comm h.1.1).symm⟩

theorem seek (h : Rep buf off g) {o w : Int} (hok : g.seekOk o w) :
    Rep buf (g.seekTarget o w).toNat { g with c := g.r + (g.seekTarget o w).toNat } := by
  obtain ⟨⟨h1, h2⟩, hb, _⟩ := h
  exact ⟨⟨Nat.le_add_right _ _, Nat.add_le_of_le_sub' (Nat.le_trans h1 h2) (Int.toNat_le.2 hok.2.2.2)⟩, hb,
    (Nat.add_sub_cancel_left ..).symm⟩

theorem seek_cursor (h : Rep buf off g) {o w : Int} (hok : g.seekOk o w) :
    ∃ c', g.r ≤ c' ∧ c' ≤ g.W.length ∧ (c' : Int) = g.r + g.seekTarget o w ∧
      (g.seekTarget o w).toNat = c' - g.r ∧ Rep buf (c' - g.r) { g with c := c' } :=
  ⟨g.r + (g.seekTarget o w).toNat, Nat.le_add_right _ _, (h.seek hok).1.2,
    by rw [Int.natCast_add, Int.toNat_of_nonneg hok.2.2.1], (Nat.add_sub_cancel_left ..).symm,
    by rw [Nat.add_sub_cancel_left]; exact h.seek hok⟩

/-- `Bytes()` of either model: `buf[off:]` with Go's bounds check -/
theorem bytes? (h : Rep buf off g) : (if off ≤ buf.length then some (buf.drop off) else none) = some g.unread := by
  rw [if_pos h.off_le, h.unread]

/-- Go computes the target with a wrapping 64-bit addition; on a slice shorter than 2^63 and an int64 offset its range
    test `0 ≤ · ≤ len` decides `seekOk`, and a target that passes was not wrapped -/
theorem seek_wrap (h : Rep buf off g) {o w : Int} (ho : -(2 ^ 63 : Int) ≤ o ∧ o < 2 ^ 63)
    (hL : (buf.length : Int) < 2 ^ 63) (hw : 0 ≤ w ∧ w ≤ 2) :
    ((0 ≤ wrap64 (g.seekTarget o w) ∧ wrap64 (g.seekTarget o w) ≤ buf.length) ↔ g.seekOk o w) ∧
      (g.seekOk o w → wrap64 (g.seekTarget o w) = g.seekTarget o w) := by
  have hlen := h.length
  obtain ⟨⟨h1, h2⟩, _, _⟩ := h
  have hT : -(2 ^ 63 : Int) ≤ g.seekTarget o w ∧ g.seekTarget o w < 2 ^ 64 := by
    unfold Ghost.seekTarget Ghost.retained at *
    split
    · omega
    · split <;> omega
  refine ⟨?_, fun hok => wrap64_exact _ hT.1 (by have := hok.2.2.2; omega)⟩
  rw [wrap64_range _ _ hT.1 hT.2 hL, hlen]
  exact ⟨fun hr => ⟨hw.1, hw.2, hr⟩, fun hok => hok.2.2⟩

theorem compact_append (h : Rep buf off g) {k : Nat} (hk : k ≤ off) (p : List Byte) :
    let g' : Ghost := { W := g.W ++ p, r := g.r + k, c := g.c }
    g.Appends p g' ∧ Rep (buf.drop k ++ p) (off - k) g' := by
  obtain ⟨⟨h1, h2⟩, hb, ho⟩ := h
  have hrc : g.r + k ≤ g.c := Nat.add_le_of_le_sub' h1 (ho ▸ hk)
  refine ⟨⟨rfl, rfl, Nat.le_add_right _ _, hrc⟩, ⟨hrc, ?_⟩, ?_, ?_⟩
  · exact Nat.le_trans h2 (List.length_append ▸ Nat.le_add_right _ _)
  · simp only [hb, List.drop_drop]
    rw [List.drop_append_of_le_length (Nat.le_trans hrc h2)]
  · simp only [ho, Nat.sub_sub]

theorem tidy (h : Rep buf off g) :
    let g' : Ghost := { g with r := g.c }
    g.Compacts g' ∧ Rep (buf.drop off) 0 g' := by
  have hr : g.r + off = g.c := by rw [h.2.2]; exact Nat.add_sub_cancel' h.1.1
  simpa [Ghost.Appends, Ghost.Compacts, hr] using h.compact_append (Nat.le_refl off) []

end Rep

theorem copyAt_exact (x f p : List Byte) (h : f.length = p.length) :
    copyAt (x ++ f) x.length p = (x ++ p, p.length) := by
  unfold copyAt
  simp [h]

theorem copyAt_zero_take (dst src : List Byte) (h : src.length ≤ dst.length) :
    (copyAt dst 0 src).1.take src.length = src := by
  unfold copyAt
  simp [Nat.min_eq_right h]

/-- `copy(buf, buf[off:])` followed by `buf[:len-off]`: the slide of `grow` and `Tidy` -/
theorem copyAt_slide (buf : List Byte) (off : Nat) :
    (copyAt buf 0 (buf.drop off)).1.take (buf.length - off) = buf.drop off := by
  have := copyAt_zero_take buf (buf.drop off) (by simp)
  rwa [List.length_drop] at this

/-- `buf := make([]byte, N); copy(buf, src); buf[:len src + n]` -/
theorem copyAt_fresh (N n : Nat) (src : List Byte) (h : src.length + n ≤ N) :
    (copyAt (List.replicate N 0) 0 src).1.take (src.length + n) = src ++ List.replicate n 0 := by
  unfold copyAt
  have h1 : min (N - 0) src.length = src.length := by omega
  have h2 : min n (N - src.length) = n := by omega
  simp only [List.length_replicate, h1, List.take_zero, List.nil_append, Nat.zero_add, List.take_length]
  rw [List.take_length_add_append, List.drop_replicate, List.take_replicate, h2]

/-- the state `grow(n)`, `Write` and `Grow` leave: `k` retained bytes dropped from the front, where `k = 0` (reslice, small
    allocation) or `k = off`, the consumed prefix (reset-if-empty, slide, reallocation), `t` after the retained data, in a
    backing array of capacity `c` -/
def dropped (b : Buffer) (k : Nat) (t : List Byte) (c : Nat) (nil : Bool) : Buffer :=
  { buf := b.buf.drop k ++ t, off := b.off - k, cap := c, isNil := nil }

/-- only consumed bytes go, and what is left fits into the capacity with `m` bytes more -/
structure Fits (b : Buffer) (k m c : Nat) (nil : Bool) : Prop where
  le : k ≤ b.off
  room : b.buf.length - k + m ≤ c
  nil_iff : nil = true ↔ c = 0

theorem dropped_bytes {b : Buffer} {k : Nat} (hk : k ≤ b.off) (hoff : b.off ≤ b.buf.length) (t : List Byte) (c : Nat)
    (nil : Bool) : (dropped b k t c nil).bytes = b.bytes ++ t := by
  simp only [Buffer.bytes, dropped]
  rw [List.drop_append_of_le_length (by rw [List.length_drop]; omega), List.drop_drop, Nat.add_sub_cancel' hk]

namespace Fits
variable {b : Buffer} {k m c : Nat} {nil : Bool} {t : List Byte}

theorem inv (h : Fits b k m c nil) (hoff : b.off ≤ b.buf.length) (ht : t.length ≤ m) :
    BufferInv (dropped b k t c nil) := by
  refine ⟨?_, ?_, h.nil_iff⟩ <;> simp only [dropped, List.length_append, List.length_drop]
  · exact Nat.le_trans (Nat.sub_le_sub_right hoff k) (Nat.le_add_right _ _)
  · exact Nat.le_trans (Nat.add_le_add_left ht _) h.room

theorem sim (h : Fits b k m c nil) (ht : t.length ≤ m) {g : Ghost} (hrel : BufferRel b g) :
    ∃ g', g.Appends t g' ∧ (BufferRel (dropped b k t c nil) g' ∧ BufferInv (dropped b k t c nil)) ∧
      (dropped b k t c nil).buf.length ≤ b.buf.length + t.length := by
  obtain ⟨happ, hrel'⟩ := Rep.compact_append hrel h.le t
  exact ⟨_, happ, ⟨hrel', h.inv (Rep.off_le hrel) ht⟩, by
    simp only [dropped, List.length_append, List.length_drop]
    exact Nat.add_le_add_right (Nat.sub_le _ _) _⟩

end Fits

theorem grow_reset (b : Buffer) (n : Nat) (h : b.buf.length - b.off = 0 ∧ b.off ≠ 0) :
    b.grow n = b.reset.grow n := by
  simp [Buffer.grow, Buffer.reset, h]

/-- `grow(n)` without the reset; `hbound` excludes the two ErrTooLarge exits -/
theorem grow_char_aux (b : Buffer) (n : Nat) (hinv : BufferInv b)
    (hbound : ((3 * (b.buf.length + n) : Nat) : Int) ≤ maxAlloc)
    (hnr : ¬ (b.buf.length - b.off = 0 ∧ b.off ≠ 0)) :
    ∃ k c nil, b.grow n = .ok (dropped b k (List.replicate n 0) c nil) (b.buf.length - k) ∧ Fits b k n c nil := by
  obtain ⟨hoff, hcap, hnil⟩ := hinv
  have hsrc : (b.buf.drop b.off).length = b.buf.length - b.off := List.length_drop
  unfold Buffer.grow
  simp only [hnr, if_false]
  unfold Buffer.tryGrowByReslice
  simp only []
  by_cases h1 : n ≤ b.cap - b.buf.length
  · rw [if_pos h1]
    exact ⟨0, b.cap, b.isNil, rfl, Nat.zero_le _, Nat.add_le_of_le_sub' hcap h1, hnil⟩
  · rw [if_neg h1]
    by_cases h2 : b.isNil = true ∧ n ≤ smallBufferSize
    · have hb0 : b.buf = [] := List.eq_nil_of_length_eq_zero (Nat.le_zero.mp (hnil.1 h2.1 ▸ hcap))
      rw [if_pos h2]
      exact ⟨0, smallBufferSize, false, by rw [dropped, hb0]; rfl, Nat.zero_le _, by rw [hb0]; simpa using h2.2,
        by simp [smallBufferSize_eq]⟩
    · rw [if_neg h2]
      by_cases hc : (n : Int) ≤ ((b.cap / slideDiv : Nat) : Int) - ((b.buf.length - b.off : Nat) : Int)
      · rw [if_pos hc, copyAt_slide]
        rw [slideDiv_eq] at hc
        exact ⟨b.off, b.cap, b.isNil, by rw [dropped, Nat.sub_self], Nat.le_refl _, by omega, hnil⟩
      · -- the reslice test failed: `cap < len + n`, so `hbound` covers the new capacity
        have hN : 2 * b.cap + n ≤ 3 * (b.buf.length + n) := by omega
        have hA : ((2 * b.cap + n : Nat) : Int) ≤ maxAlloc := Int.le_trans (Int.ofNat_le.2 hN) hbound
        have ht : ¬ ((b.cap : Int) > maxInt - (b.cap : Int) - (n : Int)) := by
          rw [maxAlloc_eq] at hA; rw [maxInt_eq]; omega
        have hfit : b.buf.length - b.off + n ≤ 2 * b.cap + n := Nat.add_le_add_right
          (Nat.le_trans (Nat.sub_le _ _) (Nat.le_trans hcap (Nat.le_mul_of_pos_left _ (by decide)))) n
        have hfresh := copyAt_fresh (2 * b.cap + n) n (b.buf.drop b.off) (by rw [hsrc]; exact hfit)
        rw [hsrc] at hfresh
        rw [if_neg hc, if_neg ht, growMul_eq, if_neg (Int.not_lt.2 hA), hfresh]
        refine ⟨b.off, 2 * b.cap + n, false, by rw [dropped, Nat.sub_self], Nat.le_refl _, hfit, nofun,
          fun h0 => absurd ?_ h1⟩
        rw [Nat.eq_zero_of_add_eq_zero_left h0]; exact Nat.zero_le _

theorem grow_char (b : Buffer) (n : Nat) (hinv : BufferInv b)
    (hbound : ((3 * (b.buf.length + n) : Nat) : Int) ≤ maxAlloc) :
    ∃ k c nil, b.grow n = .ok (dropped b k (List.replicate n 0) c nil) (b.buf.length - k) ∧ Fits b k n c nil := by
  by_cases hr : b.buf.length - b.off = 0 ∧ b.off ≠ 0
  · -- after the reset the buffer is empty, as is the unread part before it
    obtain ⟨k, c, nil, hg, _, hroom, hnil'⟩ := grow_char_aux b.reset n
      ⟨Nat.le_refl _, Nat.zero_le _, hinv.2.2⟩
      (Int.le_trans (Int.ofNat_le.2 (by simp only [Buffer.reset, List.length_nil]; omega)) hbound)
      (by simp [Buffer.reset])
    have hlen : b.buf.length = b.off := Nat.le_antisymm (Nat.le_of_sub_eq_zero hr.1) hinv.1
    refine ⟨b.off, c, nil, ?_, Nat.le_refl _, ?_, hnil'⟩
    · rw [grow_reset b n hr, hg]
      simp only [dropped, Buffer.reset, List.drop_nil, List.length_nil, Nat.zero_sub, ← hlen, List.drop_length,
        Nat.sub_self]
    · simp only [Buffer.reset, List.length_nil] at hroom; omega
  · exact grow_char_aux b n hinv hbound hr

theorem write_char (b : Buffer) (p : List Byte) (hinv : BufferInv b)
    (hbound : ((3 * (b.buf.length + p.length) : Nat) : Int) ≤ maxAlloc) :
    ∃ k c nil, b.write p = (dropped b k p c nil, .wrote p.length) ∧ Fits b k p.length c nil := by
  unfold Buffer.write
  by_cases h1 : p.length ≤ b.cap - b.buf.length
  · simp only [Buffer.tryGrowByReslice, h1, if_true, copyAt_exact b.buf (List.replicate p.length 0) p (by simp)]
    exact ⟨0, b.cap, b.isNil, rfl, Nat.zero_le _, Nat.add_le_of_le_sub' hinv.2.1 h1, hinv.2.2⟩
  · obtain ⟨k, c, nil, hg, hf⟩ := grow_char b p.length hinv hbound
    have hcp : copyAt (b.buf.drop k ++ List.replicate p.length 0) (b.buf.length - k) p = (b.buf.drop k ++ p, p.length) := by
      rw [← List.length_drop]; exact copyAt_exact _ _ _ (by simp)
    simp only [Buffer.tryGrowByReslice, h1, if_false, hg, dropped, hcp]
    exact ⟨k, c, nil, rfl, hf⟩

theorem growOp_char (b : Buffer) (n : Int) (hn : 0 ≤ n) (hinv : BufferInv b)
    (hbound : ((3 * (b.buf.length + n.toNat) : Nat) : Int) ≤ maxAlloc) :
    ∃ k c nil, b.growOp n = (dropped b k [] c nil, .unit) ∧ Fits b k n.toNat c nil := by
  obtain ⟨k, c, nil, hg, hf⟩ := grow_char b n.toNat hinv hbound
  have htk : (b.buf.drop k ++ List.replicate n.toNat 0).take (b.buf.length - k) = b.buf.drop k ++ [] := by
    rw [← List.length_drop, List.take_left' rfl, List.append_nil]
  simp only [Buffer.growOp, Int.not_lt.2 hn, if_false, hg, dropped, htk]
  exact ⟨k, c, nil, rfl, hf⟩

theorem buffer_tidy_eq (b : Buffer) : b.tidy = { b with buf := b.buf.drop b.off, off := 0 } := by
  unfold Buffer.tidy
  by_cases hpos : b.off > 0
  · by_cases hsz : b.buf.length - b.off > 0
    · simp only [if_pos hpos, if_pos hsz, copyAt_slide]
    · simp only [if_pos hpos, Nat.eq_zero_of_not_pos hsz, List.take_zero,
        List.drop_of_length_le (Nat.le_of_sub_eq_zero (Nat.eq_zero_of_not_pos hsz))]
  · rw [if_neg hpos]
    obtain ⟨buf, off, cap, isNil⟩ := b
    have h0 : off = 0 := Nat.eq_zero_of_not_pos hpos
    subst h0; rfl

theorem buffer_read_eq {b : Buffer} {g : Ghost} (h : BufferRel b g) (k : Nat) :
    b.read k = ({ b with off := b.off + min k g.unread.length },
      .read (g.unread.take k) (if g.unread = [] ∧ k ≠ 0 then .eof else .nil)) := by
  have hun : b.buf.drop b.off = g.unread := Rep.unread h
  have hul := Rep.unread_length h
  unfold Buffer.read Buffer.empty
  by_cases he : b.buf.length ≤ b.off
  · have hnil : g.unread = [] := List.eq_nil_of_length_eq_zero (by omega)
    by_cases hk : k = 0 <;> simp [he, hk, hnil]
  · have hne : g.unread ≠ [] := fun hc => by rw [hc] at hul; simp at hul; omega
    simp only [he, decide_false, Bool.false_eq_true, if_false, hun, hne, false_and, ← List.take_eq_take_min]

theorem buffer_next_eq {b : Buffer} {g : Ghost} (h : BufferRel b g) {n : Int} (hn : 0 ≤ n) :
    b.next n = ({ b with off := b.off + min n.toNat g.unread.length }, .next (g.unread.take n.toNat)) := by
  have hun : b.buf.drop b.off = g.unread := Rep.unread h
  have hul := Rep.unread_length h
  unfold Buffer.next Buffer.len
  simp only [clamp_eq n b.buf.length b.off hn (Rep.off_le h), Int.not_lt.2 (Int.natCast_nonneg _), if_false,
    Int.toNat_natCast, hun, ← hul, ← List.take_eq_take_min]

theorem buffer_seek_eq {b : Buffer} {g : Ghost} (h : BufferRel b g) {o : Int} (w : Int)
    (ho : -(2 ^ 63 : Int) ≤ o ∧ o < 2 ^ 63) (hL : (b.buf.length : Int) < 2 ^ 63) :
    b.seek o w =
      if g.seekOk o w then
        ({ b with off := (g.seekTarget o w).toNat }, .seek (g.seekTarget o w).toNat .nil)
      else (b, .seek 0 .invalidSeek) := by
  unfold Buffer.seek
  by_cases hw : 0 ≤ w ∧ w ≤ 2
  · obtain ⟨hiff, hex⟩ := Rep.seek_wrap h ho hL hw
    -- the model's `next` is the wrapped target (for SeekStart no addition takes place)
    have hnext : (if w = 1 then wrap64 (o + b.off) else if w = 2 then wrap64 (o + b.buf.length) else o)
        = wrap64 (g.seekTarget o w) := by
      rw [h.2.2, Rep.length h]
      unfold Ghost.seekTarget
      split
      · rw [Int.add_comm]
      · split
        · rw [Int.add_comm]
        · rw [Int.zero_add, wrap64_exact o ho.1 ho.2]
    simp only [if_pos hw, hnext]
    by_cases hok : g.seekOk o w
    · rw [if_pos (hiff.2 hok), if_pos hok, hex hok]
    · rw [if_neg (mt hiff.1 hok), if_neg hok]
  · rw [if_neg hw, if_neg fun hok => hw ⟨hok.1, hok.2.1⟩]

def BufferSim (b : Buffer) (g : Ghost) : Prop :=
  BufferRel b g ∧ BufferInv b

/-- The length bounds of the steps (`len' ≤ len + size`) add up to the budget that keeps `grow` below the allocator's limit
    and `Seek`'s additions below 2^63. -/
theorem buffer_step_sim (b : Buffer) (g : Ghost) (op : Buffer.Op) (h : BufferSim b g)
    (hv : BufferOpValid op) (hbound : ((3 * (b.buf.length + BufferOpSize op) : Nat) : Int) ≤ maxAlloc) :
    ∃ g', BufferSpec g op (b.step op).2 g' ∧ BufferSim (b.step op).1 g' ∧
      (b.step op).1.buf.length ≤ b.buf.length + BufferOpSize op := by
  obtain ⟨hrel, hinv⟩ := h
  -- Read, Next and Seek move the cursor only
  have moved {off' : Nat} {g' : Ghost} (hrel' : Rep b.buf off' g') : BufferSim { b with off := off' } g' :=
    ⟨hrel', Rep.off_le hrel', hinv.2⟩
  cases op with
  | write p =>
    obtain ⟨k, c, nil, hw, hf⟩ := write_char b p hinv hbound
    obtain ⟨g', happ, hsim, hlen⟩ := hf.sim (Nat.le_refl _) hrel
    rw [Buffer.step, hw]
    exact ⟨g', ⟨rfl, happ⟩, hsim, hlen⟩
  | grow n =>
    obtain ⟨k, c, nil, hw, hf⟩ := growOp_char b n hv hinv hbound
    obtain ⟨g', happ, hsim, hlen⟩ := hf.sim (t := []) (Nat.zero_le _) hrel
    rw [Buffer.step, hw]
    exact ⟨g', ⟨rfl, happ.1.trans (List.append_nil _), happ.2⟩, hsim, Nat.le_trans hlen (Nat.le_add_right _ _)⟩
  | reset => exact ⟨_, ⟨rfl, rfl⟩, ⟨Rep.init, Nat.le_refl _, Nat.zero_le _, hinv.2.2⟩, Nat.zero_le _⟩
  | tidy =>
    obtain ⟨hcomp, hrel'⟩ := Rep.tidy hrel
    rw [Buffer.step, buffer_tidy_eq]
    have hle : (b.buf.drop b.off).length ≤ b.buf.length := List.length_drop ▸ Nat.sub_le _ _
    exact ⟨_, ⟨rfl, hcomp, rfl⟩, ⟨hrel', Nat.zero_le _, Nat.le_trans hle hinv.2.1, hinv.2.2⟩, hle⟩
  | read k =>
    rw [Buffer.step, buffer_read_eq hrel]
    exact ⟨_, ⟨rfl, rfl⟩, moved (Rep.consume hrel k), Nat.le_refl _⟩
  | next n =>
    rw [Buffer.step, buffer_next_eq hrel hv]
    exact ⟨_, ⟨rfl, rfl⟩, moved (Rep.consume hrel _), Nat.le_refl _⟩
  | seek o w =>
    rw [Buffer.step, buffer_seek_eq hrel w hv (by rw [maxAlloc_eq] at hbound; omega)]
    by_cases hok : g.seekOk o w
    · rw [if_pos hok]
      exact ⟨_, (if_pos hok).mpr ⟨rfl, rfl⟩, moved (Rep.seek hrel hok), Nat.le_refl _⟩
    · rw [if_neg hok]
      exact ⟨g, (if_neg hok).mpr ⟨rfl, rfl⟩, ⟨hrel, hinv⟩, Nat.le_refl _⟩

theorem sim_init : BufferSim Buffer.init Ghost.init :=
  ⟨Rep.init, Nat.le_refl _, Nat.le_refl _, by simp [Buffer.init]⟩

theorem bufferSizes_cons (op : Buffer.Op) (ops : List Buffer.Op) :
    bufferSizes (op :: ops) = BufferOpSize op + bufferSizes ops := by
  simp [bufferSizes]

theorem buffer_run_sim (ops : List Buffer.Op) : ∀ (b : Buffer) (g : Ghost), BufferSim b g →
    (∀ op ∈ ops, BufferOpValid op) → ((3 * (b.buf.length + bufferSizes ops) : Nat) : Int) ≤ maxAlloc →
    ∃ g', BufferSpecRun g ops (b.run ops).2 g' ∧ BufferSim (b.run ops).1 g' ∧
      (b.run ops).1.buf.length ≤ b.buf.length + bufferSizes ops := by
  induction ops with
  | nil => intro b g h _ _; exact ⟨g, rfl, h, Nat.le_add_right _ _⟩
  | cons op ops ih =>
    intro b g h hv hbound
    rw [bufferSizes_cons, ← Nat.add_assoc] at hbound ⊢
    obtain ⟨g1, hs1, hsim1, hlen1⟩ := buffer_step_sim b g op h (hv op (by simp)) (by omega)
    obtain ⟨g', hrun, hsim', hlen'⟩ := ih (b.step op).1 g1 hsim1 (fun o ho => hv o (by simp [ho])) (by omega)
    exact ⟨g', ⟨g1, hs1, hrun⟩, hsim', Nat.le_trans hlen' (Nat.add_le_add_right hlen1 _)⟩

end Got.Lemmas.Bytes
