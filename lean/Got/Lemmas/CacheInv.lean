import Got.Lemmas.CacheCore
import Got.Lemmas.ListFacts
import Got.Lemmas.Lts
/-
The invariant `Inv` of the cachex LTS holds in every reachable state.
-/
namespace Got.Lemmas.Cache
open Got.Model.CacheCore Got.Model.Cache Got.Spec.Cache

theorem upd_forall {β : Type} {P : Nat → β → Prop} {f : Nat → β} {i : Nat} {v : β} (hv : P i v)
    (hf : ∀ j, j ≠ i → P j (f j)) (j : Nat) : P j (upd f i v j) := by
  by_cases h : j = i
  · rw [h, upd_same]; exact hv
  · rw [upd_other h]; exact hf j h

theorem upd_self {β : Type} (f : Nat → β) (i : Nat) : upd f i (f i) = f := by
  funext j
  by_cases h : j = i
  · rw [h, upd_same]
  · rw [upd_other h]

theorem inv_init (cfg : Cfg) : Inv cfg init := by
  constructor <;> simp [init, pcFuts, jobOf, wjob, emptyFut]

theorem stageOK_congr (s t : State) (f : FutId) (hj : t.jobAt f = s.jobAt f) (hr : (t.fut f).res = (s.fut f).res)
    (hd : (t.fut f).done = (s.fut f).done)
    (hw : ∀ w, s.jobAt f = .worker w → prePub (t.wpc w) = prePub (s.wpc w)) (h : StageOK s f) : StageOK t f := by
  unfold StageOK at *
  rw [hj, hr, hd]
  cases hl : s.jobAt f with
  | worker w => rw [hl] at h; simp only at h ⊢; rw [hw w hl]; exact h
  | _ => rw [hl] at h; exact h

/-- `StageOK` after the job of `f0` changed place or stage; `hw`: a worker that moves held the job of `f0` or none -/
theorem stage_move {cfg : Cfg} {s s' : State} {f0 f : FutId} {l2 : Loc} (h : Inv cfg s)
    (hja : s'.jobAt = upd s.jobAt f0 l2)
    (hfut : ∀ f, f ≠ f0 → (s'.fut f).res = (s.fut f).res ∧ (s'.fut f).done = (s.fut f).done)
    (hw : ∀ w, s'.wpc w = s.wpc w ∨ ∀ j, wjob (s.wpc w) = some j → j.fut = f0)
    (h0 : StageOK s' f0) (hf : f ≠ f0 → f < s.nfut) : StageOK s' f := by
  by_cases e : f = f0
  · exact e ▸ h0
  · refine stageOK_congr s s' f (by rw [hja, upd_other e]) (hfut f e).1 (hfut f e).2 (fun w hl => ?_)
      (h.stage f (hf e))
    rcases hw w with e' | hall
    · rw [e']
    · obtain ⟨j, hj, ef⟩ := h.j_worker f w (hf e) hl
      exact absurd (ef ▸ hall j hj) e

theorem jobOK_congr (s t : State) (j : Job) (hn : s.nfut ≤ t.nfut) (hf : j.fut < s.nfut → t.fut j.fut = s.fut j.fut)
    (h : JobOK s j) : JobOK t j := by
  obtain ⟨h1, h2, h3⟩ := h
  exact ⟨Nat.lt_of_lt_of_le h1 hn, by rw [hf h1]; exact h2, by rw [hf h1]; exact h3⟩

/-- the shard whose lock the pc says its client holds -/
def lockOf : CPc → Option Nat
  | .ldUnlock sh _ _ => some sh
  | .ldSend _ _ lk => lk
  | _ => none

theorem lockOf_eq_some {pc : CPc} {sh : Nat} : lockOf pc = some sh ↔
    (∃ send plan, pc = .ldUnlock sh send plan) ∨ (∃ j plan, pc = .ldSend j plan (some sh)) := by
  refine ⟨fun h => ?_, by rintro (⟨_, _, rfl⟩ | ⟨_, _, rfl⟩) <;> rfl⟩
  cases pc with
  | ldUnlock => cases h; exact .inl ⟨_, _, rfl⟩
  | ldSend => cases h; exact .inr ⟨_, _, rfl⟩
  | _ => cases h

theorem lock_pc {cfg : Cfg} {s : State} (h : Inv cfg s) (sh : Nat) (c : Cid) (hl : s.lock sh = some c) :
    lockOf (s.cpc c) = some sh :=
  lockOf_eq_some.2 (h.l_holder sh c hl)

/-- job `j` sits at location `l` -/
def Held (s : State) : Loc → Job → Prop
  | .creator c, j => jobOf (s.cpc c) = some j
  | .chan, j => j ∈ s.chan
  | .worker w, j => wjob (s.wpc w) = some j
  | _, _ => False

/-- the job-placement part of `Inv` (its fields `k_*`, `j_*`, `f_*`) stated once over `Loc`, so that a job changing place
    is one lemma (`Places.move`, `Places.alloc`) whatever the two places are -/
structure Places (s : State) : Prop where
  ok : ∀ l j, Held s l j → JobOK s j ∧ s.jobAt j.fut = l
  ex : ∀ f, f < s.nfut → (∃ j, Held s (s.jobAt f) j ∧ j.fut = f) ∨ s.jobAt f = .finished ∨ s.jobAt f = .nowhere
  nodup : (s.chan.map (·.fut)).Nodup

theorem places_of_inv {cfg : Cfg} {s : State} (h : Inv cfg s) : Places s where
  ok l j hl := by
    cases l with
    | creator c => exact ⟨h.k_creator c j hl, h.f_creator c j hl⟩
    | chan => exact ⟨h.k_chan j hl, h.f_chan j hl⟩
    | worker w => exact ⟨h.k_worker w j hl, h.f_worker w j hl⟩
    | _ => exact hl.elim
  ex f hf := by
    cases hl : s.jobAt f with
    | creator c => exact .inl (h.j_creator f c hf hl)
    | chan => exact .inl (h.j_chan f hf hl)
    | worker w => exact .inl (h.j_worker f w hf hl)
    | finished => exact .inr (.inl rfl)
    | nowhere => exact .inr (.inr rfl)
  nodup := h.f_nodup

theorem Places.loc_inj {s : State} (hp : Places s) {l l' : Loc} {j j' : Job} (h : Held s l j) (h' : Held s l' j')
    (e : j.fut = j'.fut) : l = l' := by
  rw [← (hp.ok l j h).2, e]; exact (hp.ok l' j' h').2

theorem Places.held_inj {s : State} (hp : Places s) {l : Loc} {j j' : Job} (h : Held s l j) (h' : Held s l j')
    (e : j.fut = j'.fut) : j = j' := by
  cases l with
  | creator c => exact Option.some.inj (h.symm.trans h')
  | worker w => exact Option.some.inj (h.symm.trans h')
  | chan => exact hp.nodup.inj_of_map h h' e
  | _ => exact h.elim

/-- Job `j` leaves place `l1` for `l2` (or is finished) and nothing else about the placement changes. -/
theorem Places.move {s s' : State} {j : Job} {l1 l2 : Loc} (hp : Places s) (hsrc : Held s l1 j)
    (hnf : s'.nfut = s.nfut) (hjok : ∀ j', JobOK s j' → JobOK s' j') (hja : s'.jobAt = upd s.jobAt j.fut l2)
    (hheld : ∀ l j', Held s' l j' ↔ (l = l2 ∧ j' = j ∧ l2 ≠ .finished) ∨ (Held s l j' ∧ (l = l1 → j' ≠ j)))
    (hnd : (s'.chan.map (·.fut)).Nodup) : Places s' where
  ok l j' hl := by
    rw [hja]
    rcases (hheld l j').1 hl with ⟨rfl, rfl, _⟩ | ⟨hl, hne⟩
    · exact ⟨hjok _ (hp.ok l1 _ hsrc).1, upd_same ..⟩
    · refine ⟨hjok _ (hp.ok l j' hl).1, ?_⟩
      rw [upd_other fun e => ?_]
      · exact (hp.ok l j' hl).2
      · cases hp.loc_inj hl hsrc e
        exact hne rfl (hp.held_inj hl hsrc e)
  ex f hf := by
    rw [hja]
    by_cases e : f = j.fut
    · subst e
      rw [upd_same]
      by_cases h2 : l2 = .finished
      · exact .inr (.inl h2)
      · exact .inl ⟨j, (hheld l2 j).2 (.inl ⟨rfl, rfl, h2⟩), rfl⟩
    · rw [upd_other e]
      refine (hp.ex f (hnf ▸ hf)).imp_left fun ⟨j', hj', ef⟩ => ⟨j', (hheld _ j').2 (.inr ⟨hj', fun _ e' => e ?_⟩), ef⟩
      rw [← ef, e']
  nodup := hnd

/-- The fresh future `s.nfut` is allocated: its job `j` appears at `l2`, or the future is born finished. -/
theorem Places.alloc {s s' : State} {j : Job} {l2 : Loc} (hp : Places s) (hnf : s'.nfut = s.nfut + 1)
    (hjok : ∀ j', JobOK s j' → JobOK s' j') (hja : s'.jobAt = upd s.jobAt s.nfut l2)
    (hnew : l2 = .finished ∨ (JobOK s' j ∧ j.fut = s.nfut))
    (hheld : ∀ l j', Held s' l j' ↔ (l = l2 ∧ j' = j ∧ l2 ≠ .finished) ∨ Held s l j')
    (hnd : (s'.chan.map (·.fut)).Nodup) : Places s' where
  ok l j' hl := by
    rw [hja]
    rcases (hheld l j').1 hl with ⟨rfl, rfl, h2⟩ | hl
    · obtain ⟨h1, e⟩ := hnew.resolve_left h2
      exact ⟨h1, e ▸ upd_same ..⟩
    · exact ⟨hjok _ (hp.ok l j' hl).1, by rw [upd_other (Nat.ne_of_lt (hp.ok l j' hl).1.1)]; exact (hp.ok l j' hl).2⟩
  ex f hf := by
    rw [hja]
    by_cases e : f = s.nfut
    · subst e
      rw [upd_same]
      by_cases h2 : l2 = .finished
      · exact .inr (.inl h2)
      · exact .inl ⟨j, (hheld l2 j).2 (.inl ⟨rfl, rfl, h2⟩), (hnew.resolve_left h2).2⟩
    · rw [upd_other e]
      exact (hp.ex f (by omega)).imp_left fun ⟨j', hj', ef⟩ => ⟨j', (hheld _ j').2 (.inr hj'), ef⟩
  nodup := hnd

theorem inv_of_places {cfg : Cfg} {s : State} (hp : Places s)
    (a_map : ∀ k f, s.map k = some f → f < s.nfut) (a_pc : ∀ c f, f ∈ pcFuts (s.cpc c) → f < s.nfut)
    (a_pred : ∀ f p, f < s.nfut → (s.fut f).pred = some p → p < s.nfut) (stage : ∀ f, f < s.nfut → StageOK s f)
    (l_holder : ∀ sh c, s.lock sh = some c → lockOf (s.cpc c) = some sh)
    (l_fixed : cfg.old = false → ∀ c j plan lk, s.cpc c = .ldSend j plan lk → lk = none)
    (o_map : ∀ f, f < s.nfut → (s.fut f).res = none → (s.fut f).orphan = false → s.map (s.fut f).key = some f)
    (r_pair : ∀ c f r, s.cpc c = .done (.pair (some f) r) → f < s.nfut ∧ (s.fut f).done = true ∧ r = (s.fut f).res) :
    Inv cfg s :=
  have ex : ∀ f l, f < s.nfut → s.jobAt f = l → l ≠ .finished → l ≠ .nowhere → ∃ j, Held s l j ∧ j.fut = f :=
    fun f _ hf hl h1 h2 => hl ▸ (hp.ex f hf).resolve_right fun h => h.elim (h1 <| hl ▸ ·) (h2 <| hl ▸ ·)
  { a_map, a_pc, a_pred, stage, l_fixed, o_map, r_pair
    l_holder := fun sh c hl => lockOf_eq_some.1 (l_holder sh c hl)
    k_creator := fun c j h => (hp.ok (.creator c) j h).1, k_chan := fun j h => (hp.ok .chan j h).1
    k_worker := fun w j h => (hp.ok (.worker w) j h).1
    f_creator := fun c j h => (hp.ok (.creator c) j h).2, f_chan := fun j h => (hp.ok .chan j h).2
    f_worker := fun w j h => (hp.ok (.worker w) j h).2, f_nodup := hp.nodup
    j_creator := fun f _ hf hl => ex f _ hf hl nofun nofun, j_chan := fun f hf hl => ex f _ hf hl nofun nofun
    j_worker := fun f _ hf hl => ex f _ hf hl nofun nofun }

theorem pc_lt {cfg : Cfg} {s : State} {c : Cid} {pc : CPc} {f : FutId} (h : Inv cfg s) (hc : s.cpc c = pc)
    (hf : f ∈ pcFuts pc) : f < s.nfut :=
  h.a_pc c f (hc ▸ hf)

theorem worker_stage {cfg : Cfg} {s : State} {w : Wid} {j : Job} (h : Inv cfg s) (hw : wjob (s.wpc w) = some j) :
    (s.fut j.fut).done = false ∧ ((s.fut j.fut).res = none ↔ prePub (s.wpc w) = true) := by
  have hst := h.stage j.fut (h.k_worker w j hw).1
  unfold StageOK at hst; rw [h.f_worker w j hw] at hst; exact hst

theorem done_or_held {cfg : Cfg} {s : State} {f : FutId} (h : Inv cfg s) (hf : f < s.nfut) :
    ((s.fut f).done = true ∧ (s.fut f).res.isSome = true) ∨
    ((s.fut f).done = false ∧ ∃ j, Held s (s.jobAt f) j ∧ j.fut = f) := by
  have hst := h.stage f hf
  unfold StageOK at hst
  generalize hl : s.jobAt f = l at hst ⊢
  cases l with
  | nowhere => exact hst.elim
  | creator c => exact .inr ⟨hst.2, h.j_creator f c hf hl⟩
  | chan => exact .inr ⟨hst.2, h.j_chan f hf hl⟩
  | worker w => exact .inr ⟨hst.1, h.j_worker f w hf hl⟩
  | finished => exact .inl hst

theorem done_res {cfg : Cfg} {s : State} {f : FutId} (h : Inv cfg s) (hf : f < s.nfut) (hd : (s.fut f).done = true) :
    (s.fut f).res.isSome = true :=
  (done_or_held h hf).elim (·.2) fun h' => by rw [h'.1] at hd; cases hd

theorem worker_unres {cfg : Cfg} {s : State} {w : Wid} {j : Job} (h : Inv cfg s) (hw : wjob (s.wpc w) = some j)
    (hp : prePub (s.wpc w) = true) : (s.fut j.fut).res = none :=
  (worker_stage h hw).2.mpr hp

theorem worker_res {cfg : Cfg} {s : State} {w : Wid} {j : Job} (h : Inv cfg s) (hw : wjob (s.wpc w) = some j)
    (hp : prePub (s.wpc w) = false) : (s.fut j.fut).res ≠ none :=
  fun e => by rw [(worker_stage h hw).2.mp e] at hp; cases hp

/-- what `Inv` says of one client's pc by itself; `n` bounds the futures the pc names: `s.nfut`, one more at an allocation -/
structure PcOK (cfg : Cfg) (s : State) (n : Nat) (pc : CPc) : Prop where
  futs : ∀ f, f ∈ pcFuts pc → f < n
  fixed : cfg.old = false → ∀ j plan lk, pc = .ldSend j plan lk → lk = none
  pair : ∀ f r, pc = .done (.pair (some f) r) → f < s.nfut ∧ (s.fut f).done = true ∧ r = (s.fut f).res

theorem cpc_upd {cfg : Cfg} {s : State} (h : Inv cfg s) (c : Cid) {pc' : CPc} {n : Nat} (hn : s.nfut ≤ n)
    (hpc : PcOK cfg s n pc') (c' : Cid) : PcOK cfg s n (upd s.cpc c pc' c') :=
  upd_forall (P := fun _ pc => PcOK cfg s n pc) hpc
    (fun c' _ => ⟨fun f hf => Nat.lt_of_lt_of_le (h.a_pc c' f hf) hn, fun ho => h.l_fixed ho c', h.r_pair c'⟩) c'

/-- a client changes pc keeping its job; the lock table may change as long as every holder's pc says so -/
theorem inv_setPcL (cfg : Cfg) (s : State) (c : Cid) (pc' : CPc) (lock' : Nat → Option Cid) (h : Inv cfg s)
    (hjob : jobOf pc' = jobOf (s.cpc c)) (hpc : PcOK cfg s s.nfut pc')
    (hlock : ∀ sh c', lock' sh = some c' → (c' = c ∧ lockOf pc' = some sh) ∨ (c' ≠ c ∧ s.lock sh = some c')) :
    Inv cfg (setPc { s with lock := lock' } c pc') := by
  have hjo : ∀ c', jobOf (upd s.cpc c pc' c') = jobOf (s.cpc c') :=
    upd_forall (P := fun c' (pc : CPc) => jobOf pc = jobOf (s.cpc c')) hjob fun _ _ => rfl
  have hall := cpc_upd h c (Nat.le_refl _) hpc
  exact { h with
    a_pc := fun c' => (hall c').futs, l_fixed := fun ho c' => (hall c').fixed ho, r_pair := fun c' => (hall c').pair
    k_creator := fun c' j' h' => h.k_creator c' j' (hjo c' ▸ h')
    j_creator := fun f c' hf hl => hjo c' ▸ h.j_creator f c' hf hl
    f_creator := fun c' j' h' => h.f_creator c' j' (hjo c' ▸ h')
    l_holder := fun sh c' hl => by
      rcases hlock sh c' hl with ⟨e, hh⟩ | ⟨e, hh⟩
      · subst e; simp only [setPc, upd_same]; exact lockOf_eq_some.1 hh
      · simp only [setPc, upd_other e]; exact h.l_holder sh c' hh }

/-- The worker holding job `j` rewrites parts of the job's future.  Publication of the result and `predecessor := nil`
    leave the job with the worker (`l2 = .worker w`) and `jobAt` untouched in the model, hence `ja'` with `hja` (by
    `upd_self` there); `wg.Done()` finishes it (`l2 = .finished`). -/
theorem inv_wfut (cfg : Cfg) (s : State) (w : Wid) (j : Job) (new : WPc) (x : Fut) (l2 : Loc) (ja' : FutId → Loc)
    (h : Inv cfg s) (hw : wjob (s.wpc w) = some j) (hja : ja' = upd s.jobAt j.fut l2)
    (hl2 : (l2 = .worker w ∧ wjob new = some j ∧ x.done = false ∧ (x.res = none ↔ prePub new = true)) ∨
           (l2 = .finished ∧ wjob new = none ∧ x.done = true ∧ x.res.isSome = true))
    (hkey : x.key = (s.fut j.fut).key) (hby : x.bySet = (s.fut j.fut).bySet) (horph : x.orphan = (s.fut j.fut).orphan)
    (hpred : x.pred = none ∨ x.pred = (s.fut j.fut).pred) (hmono : x.res = none → (s.fut j.fut).res = none) :
    Inv cfg (setWpc { s with fut := upd s.fut j.fut x, jobAt := ja' } w new) := by
  subst hja
  have hp := places_of_inv h
  have hst := worker_stage h hw
  have hjok : ∀ j', JobOK s j' → JobOK (setWpc { s with fut := upd s.fut j.fut x, jobAt := upd s.jobAt j.fut l2 } w new) j' := by
    have hx : ∀ f, (upd s.fut j.fut x f).key = (s.fut f).key ∧ (upd s.fut j.fut x f).bySet = (s.fut f).bySet :=
      upd_forall (P := fun f (y : Fut) => y.key = (s.fut f).key ∧ y.bySet = (s.fut f).bySet) ⟨hkey, hby⟩ fun _ _ => ⟨rfl, rfl⟩
    exact fun j' ⟨h1, h2, h3⟩ => ⟨h1, (hx _).1.trans h2, (hx _).2.trans h3⟩
  refine inv_of_places (hp.move (l1 := .worker w) hw rfl hjok rfl (fun l j' => ?_) hp.nodup)
    h.a_map h.a_pc (fun f p hf hp' => ?_) (fun f hf => ?_) (lock_pc (s := s) h) h.l_fixed (fun f hf hr ho => ?_)
    (fun c' f r hc' => ?_)
  · cases l with
    | worker w' =>
      by_cases e : w' = w
      · subst e; rcases hl2 with ⟨rfl, hn, _⟩ | ⟨rfl, hn, _⟩ <;> simp [Held, setWpc, hn, hw, eq_comm]
      · rcases hl2 with ⟨rfl, _⟩ | ⟨rfl, _⟩ <;> simp [Held, setWpc, upd, e]
    | _ => rcases hl2 with ⟨rfl, _⟩ | ⟨rfl, _⟩ <;> simp [Held, setWpc]
  · by_cases e : f = j.fut
    · subst e; simp only [setWpc, upd_same] at hp'
      rcases hpred with e | e <;> rw [e] at hp'
      · cases hp'
      · exact h.a_pred _ p hf hp'
    · simp only [setWpc, upd_other e] at hp'; exact h.a_pred f p hf hp'
  · refine stage_move h rfl (fun f e => by simp [setWpc, upd, e]) (fun w' => ?_) ?_ fun _ => hf
    · by_cases e : w' = w
      · exact .inr (e ▸ fun j' hj' => by cases hw.symm.trans hj'; rfl)
      · exact .inl (upd_other e)
    · unfold StageOK
      simp only [setWpc, upd_same]
      rcases hl2 with ⟨rfl, _, h1, h2⟩ | ⟨rfl, _, h1, h2⟩ <;> simp only [upd_same] <;> exact ⟨h1, h2⟩
  · by_cases e : f = j.fut
    · subst e
      simp only [setWpc, upd_same] at hr ho ⊢
      rw [hkey]; rw [horph] at ho
      exact h.o_map _ hf (hmono hr) ho
    · simp only [setWpc, upd_other e] at hr ho ⊢
      exact h.o_map f hf hr ho
  · obtain ⟨h1, h2, h3⟩ := h.r_pair c' f r hc'
    have e : f ≠ j.fut := by rintro rfl; rw [hst.1] at h2; cases h2
    exact ⟨h1, by simp only [setWpc, upd_other e]; exact h2, by simp only [setWpc, upd_other e]; exact h3⟩

/-- a worker step that keeps job and publication stage (loader start / return, tick branch, sweep of one shard); the map
    may lose resolved entries -/
theorem inv_wpc (cfg : Cfg) (s : State) (w : Wid) (new : WPc) (m' : Key → Option FutId) (tp : Bool) (h : Inv cfg s)
    (hnew : wjob new = wjob (s.wpc w)) (hpre : prePub new = prePub (s.wpc w))
    (hm1 : ∀ k f, m' k = some f → s.map k = some f)
    (hm2 : ∀ k f, s.map k = some f → (s.fut f).res = none → m' k = some f) :
    Inv cfg (setWpc { s with map := m', tickPending := tp } w new) := by
  have hwj : ∀ w', wjob (upd s.wpc w new w') = wjob (s.wpc w') :=
    upd_forall (P := fun w' (pc : WPc) => wjob pc = wjob (s.wpc w')) hnew fun _ _ => rfl
  refine { h with a_map := ?_, k_worker := ?_, j_worker := ?_, f_worker := ?_, stage := ?_, o_map := ?_ }
  · intro k f hk; exact h.a_map k f (hm1 k f hk)
  · intro w' j' h'; exact h.k_worker w' j' (hwj w' ▸ h')
  · intro f w' hf hl
    obtain ⟨j', hj', e⟩ := h.j_worker f w' hf hl
    exact ⟨j', (hwj w').trans hj', e⟩
  · intro w' j' h'; exact h.f_worker w' j' (hwj w' ▸ h')
  · intro f hf
    exact stageOK_congr s _ f rfl rfl rfl
      (fun w' _ => upd_forall (P := fun w' (pc : WPc) => prePub pc = prePub (s.wpc w')) hpre (fun _ _ => rfl) w')
      (h.stage f hf)
  · intro f hf hr ho
    exact hm2 _ f (h.o_map f hf hr ho) hr

/-- `case job := <-jobChan` -/
theorem inv_wTake (cfg : Cfg) (s : State) (w : Wid) (j : Job) (rest : List Job) (h : Inv cfg s)
    (hw : s.wpc w = .idle) (hch : s.chan = j :: rest) :
    Inv cfg (setWpc { s with chan := rest, jobAt := upd s.jobAt j.fut (.worker w) } w (.got j)) := by
  have hp := places_of_inv h
  have hnd := hp.nodup
  rw [hch, List.map_cons, List.nodup_cons] at hnd
  have hsrc : Held s .chan j := by simp [Held, hch]
  have hst := h.stage j.fut (hp.ok _ _ hsrc).1.1
  unfold StageOK at hst; rw [(hp.ok _ _ hsrc).2] at hst
  refine inv_of_places (hp.move hsrc rfl (fun _ => id) rfl (fun l j' => ?_) hnd.2)
    h.a_map h.a_pc h.a_pred (fun f hf => ?_) (lock_pc (s := s) h) h.l_fixed h.o_map h.r_pair
  · cases l with
    | chan =>
      have : j' ∈ rest → j' ≠ j := fun hj e => hnd.1 (e ▸ List.mem_map_of_mem (f := (·.fut)) hj)
      simp [Held, setWpc, hch]; grind
    | worker w' =>
      by_cases e : w' = w
      · subst e; simp [Held, setWpc, hw, wjob, eq_comm]
      · simp [Held, setWpc, upd, e]
    | _ => simp [Held, setWpc]
  · refine stage_move h rfl (fun _ _ => ⟨rfl, rfl⟩) (fun w' => ?_) ?_ fun _ => hf
    · by_cases e : w' = w
      · exact .inr (e ▸ fun j' hj' => by rw [hw] at hj'; cases hj')
      · exact .inl (upd_other e)
    · unfold StageOK
      simp only [setWpc, upd_same, prePub]
      exact ⟨hst.2, by simp [hst.1]⟩

/-- sendJob succeeds: the job moves from its creator into the channel -/
theorem inv_send (cfg : Cfg) (s : State) (c : Cid) (j : Job) (plan : Plan) (lk : Option Nat) (pc' : CPc) (h : Inv cfg s)
    (hc : s.cpc c = .ldSend j plan lk)
    (hpc : (lk = none ∧ pc' = planPc plan) ∨ (∃ sh, lk = some sh ∧ pc' = .ldUnlock sh none plan)) :
    Inv cfg (setPc { s with chan := s.chan ++ [j], jobAt := upd s.jobAt j.fut .chan } c pc') := by
  have hp := places_of_inv h
  have hsrc : Held s (.creator c) j := by simp [Held, hc, jobOf]
  have hloc := (hp.ok _ _ hsrc).2
  have hpf : planFut plan < s.nfut := pc_lt h hc (List.mem_cons_self ..)
  obtain ⟨hjn, hlo, hfu, hns, hno⟩ : jobOf pc' = none ∧ lockOf pc' = lk ∧ (∀ f, f ∈ pcFuts pc' → f = planFut plan) ∧
      (∀ j' p lk', pc' ≠ .ldSend j' p lk') ∧ ∀ o, pc' ≠ .done o := by
    rcases hpc with ⟨rfl, rfl⟩ | ⟨sh, rfl, rfl⟩
    · cases plan <;> simp [planPc, jobOf, lockOf, pcFuts, planFut]
    · simp [jobOf, lockOf, pcFuts]
  have hst := h.stage j.fut (hp.ok _ _ hsrc).1.1
  unfold StageOK at hst; rw [hloc] at hst
  have hnd : ((s.chan ++ [j]).map (·.fut)).Nodup := by
    rw [List.map_append]
    refine hp.nodup.snoc fun ha => ?_
    obtain ⟨j', hj', e⟩ := List.mem_map.mp ha
    have := (hp.ok .chan j' hj').2
    rw [e, hloc] at this; cases this
  have hall := cpc_upd h c (pc' := pc') (Nat.le_refl _)
    ⟨fun f hf => hfu f hf ▸ hpf, fun _ j' p lk' e => absurd e (hns j' p lk'), fun _ _ e => absurd e (hno _)⟩
  refine inv_of_places (hp.move hsrc rfl (fun _ => id) rfl (fun l j' => ?_) hnd)
    h.a_map (fun c' => (hall c').futs) h.a_pred (fun f hf => ?_) (fun sh c' hl => ?_) (fun ho c' => (hall c').fixed ho)
    h.o_map (fun c' => (hall c').pair)
  · cases l with
    | creator c' =>
      by_cases e : c' = c
      · subst e; simp only [Held, setPc, upd_same, hjn, hc]; simp [jobOf, eq_comm]
      · simp [Held, setPc, upd, e]
    | chan => simp [Held, setPc, or_comm]
    | _ => simp [Held, setPc]
  · refine stage_move h rfl (fun _ _ => ⟨rfl, rfl⟩) (fun _ => .inl rfl) ?_ fun _ => hf
    unfold StageOK
    simp only [setPc, upd_same]
    exact hst
  · by_cases e : c' = c
    · subst e
      have := lock_pc h sh c' hl
      rw [hc] at this
      simp only [setPc, upd_same]; exact hlo.trans this
    · simp only [setPc, upd_other e]; exact lock_pc h sh c' hl

theorem orphanMark_fields (fut : FutId → Fut) (o : Option FutId) (f : FutId) :
    (orphanMark fut o f).key = (fut f).key ∧ (orphanMark fut o f).res = (fut f).res ∧
    (orphanMark fut o f).pred = (fut f).pred ∧ (orphanMark fut o f).done = (fut f).done ∧
    (orphanMark fut o f).bySet = (fut f).bySet := by
  rw [orphanMark_apply]; split <;> exact ⟨rfl, rfl, rfl, rfl, rfl⟩

theorem orphanMark_orphan (fut : FutId → Fut) (o : Option FutId) (f : FutId)
    (h : (orphanMark fut o f).orphan = false) : (fut f).orphan = false ∧ (o = some f → (fut f).res ≠ none) := by
  rw [orphanMark_apply] at h; split at h
  · cases h
  · next hn => exact ⟨h, fun e hr => hn ⟨e, hr⟩⟩

/-- A critical section allocates the future `s.nfut` as the new entry of key `k`: Load's, whose job `⟨k, s.nfut, ld⟩`
    stays with the client (`l2 = .creator c`), or Set's, which creates the future resolved (`l2 = .finished`).
    The entry `k` had before, if unresolved, is the future `o` that gets the orphan mark. -/
theorem inv_alloc (cfg : Cfg) (s : State) (c : Cid) (k : Key) (ld : Nat) (x : Fut) (o : Option FutId)
    (lock' : Nat → Option Cid) (pc' : CPc) (l2 : Loc) (h : Inv cfg s) (hc : jobOf (s.cpc c) = none)
    (hdis : ∀ f, s.map k = some f → (s.fut f).res = none → o = some f)
    (hkey : x.key = k) (hpred : x.pred = none ∨ x.pred = s.map k)
    (hl2 : (l2 = .finished ∧ jobOf pc' = none ∧ x.done = true ∧ x.res.isSome = true) ∨
           (l2 = .creator c ∧ jobOf pc' = some ⟨k, s.nfut, ld⟩ ∧ x.bySet = false ∧ x.res = none ∧ x.done = false))
    (hpc : PcOK cfg s (s.nfut + 1) pc')
    (hlock : ∀ sh c', lock' sh = some c' → (c' = c ∧ lockOf pc' = some sh) ∨ (c' ≠ c ∧ s.lock sh = some c')) :
    Inv cfg { s with lock := lock', fut := upd (orphanMark s.fut o) s.nfut x, map := upd s.map k (some s.nfut),
                     nfut := s.nfut + 1, jobAt := upd s.jobAt s.nfut l2, cpc := upd s.cpc c pc' } := by
  have hfld := orphanMark_fields s.fut o
  have horph := fun f ho => (orphanMark_orphan s.fut o f ho).imp_right fun hn hm hr => hn (hdis f hm hr) hr
  generalize orphanMark s.fut o = fut0 at hfld horph ⊢
  have hold : ∀ f, f < s.nfut → upd fut0 s.nfut x f = fut0 f := fun f hf => upd_other (Nat.ne_of_lt hf)
  have split : ∀ f, f < s.nfut + 1 → f = s.nfut ∨ f < s.nfut := fun f hf => by omega
  have hall := cpc_upd h c (Nat.le_succ _) hpc
  refine inv_of_places ((places_of_inv h).alloc (j := ⟨k, s.nfut, ld⟩) rfl (fun j' ⟨h1, h2, h3⟩ => ?_) rfl ?_
      (fun l j' => ?_) h.f_nodup)
    (upd_forall (P := fun _ (o : Option FutId) => ∀ f, o = some f → f < s.nfut + 1)
      (fun f e => Option.some.inj e ▸ Nat.lt_succ_self _) fun k' _ f hk => Nat.lt_succ_of_lt (h.a_map k' f hk))
    (fun c' => (hall c').futs) (fun f p hf hp => ?_) (fun f hf => ?_) (fun sh c' hl => ?_)
    (fun ho c' => (hall c').fixed ho) (fun f hf hr ho => ?_) (fun c' f r hc' => ?_)
  · exact ⟨Nat.lt_succ_of_lt h1, by simp only [hold _ h1, (hfld _).1]; exact h2,
      by simp only [hold _ h1, (hfld _).2.2.2.2]; exact h3⟩
  · rcases hl2 with ⟨e, _⟩ | ⟨_, _, hb, _⟩
    · exact .inl e
    · exact .inr ⟨⟨Nat.lt_succ_self _, by simp [hkey], by simp [hb]⟩, rfl⟩
  · cases l with
    | creator c' =>
      by_cases e : c' = c
      · subst e; rcases hl2 with ⟨rfl, hn, _⟩ | ⟨rfl, hn, _⟩ <;> simp [Held, hn, hc, eq_comm]
      · rcases hl2 with ⟨rfl, _⟩ | ⟨rfl, _⟩ <;> simp [Held, upd, e]
    | _ => rcases hl2 with ⟨rfl, _⟩ | ⟨rfl, _⟩ <;> simp [Held]
  · rcases split f hf with rfl | hf'
    · simp only [upd_same] at hp
      rcases hpred with e | e <;> rw [e] at hp
      · cases hp
      · exact Nat.lt_succ_of_lt (h.a_map k p hp)
    · simp only [hold f hf', (hfld f).2.2.1] at hp; exact Nat.lt_succ_of_lt (h.a_pred f p hf' hp)
  · refine stage_move h rfl (fun f e => by simp only [upd_other e]; exact ⟨(hfld f).2.1, (hfld f).2.2.2.1⟩)
      (fun _ => .inl rfl) ?_ (split f hf).resolve_left
    unfold StageOK
    simp only [upd_same]
    rcases hl2 with ⟨rfl, _, h1, h2⟩ | ⟨rfl, _, _, h1, h2⟩ <;> exact ⟨h1, h2⟩
  · rcases hlock sh c' hl with ⟨rfl, hh⟩ | ⟨e, hh⟩
    · simp only [upd_same]; exact hh
    · simp only [upd_other e]; exact lock_pc h sh c' hh
  · rcases split f hf with rfl | hf'
    · simp [hkey]
    · simp only [hold f hf'] at hr ho ⊢
      rw [(hfld f).2.1] at hr
      obtain ⟨ho', hne⟩ := horph f ho
      have := h.o_map f hf' hr ho'
      rw [(hfld f).1]
      by_cases ek : (s.fut f).key = k
      · rw [ek] at this; exact absurd hr (hne this)
      · simp only [upd_other ek]; exact this
  · obtain ⟨h1, h2, h3⟩ := (hall c').pair f r hc'
    exact ⟨Nat.lt_succ_of_lt h1, by simp only [hold f h1, (hfld f).2.2.2.1]; exact h2,
      by simp only [hold f h1, (hfld f).2.1]; exact h3⟩

theorem lock_taken {s : State} {c c' : Cid} {sh sh' : Nat} (hnl : ∀ sh, s.lock sh ≠ some c)
    (hl : upd s.lock sh (some c) sh' = some c') : (c' = c ∧ sh' = sh) ∨ (c' ≠ c ∧ s.lock sh' = some c') := by
  by_cases es : sh' = sh
  · subst es; rw [upd_same] at hl; exact .inl ⟨(Option.some.inj hl).symm, rfl⟩
  · rw [upd_other es] at hl; exact .inr ⟨fun e => hnl sh' (e ▸ hl), hl⟩

/-- Load's critical section on an entry that is not good (`loadNew`): `inv_alloc` with the job at its creator -/
theorem inv_create (cfg : Cfg) (s : State) (c : Cid) (k : Key) (ld : Nat) (pred : Option FutId) (plan : Plan)
    (h : Inv cfg s) (hc : jobOf (s.cpc c) = none) (hnl : ∀ sh, s.lock sh ≠ some c)
    (hpred : pred = none ∨ pred = s.map k) (hplan : planFut plan = s.nfut ∨ s.map k = some (planFut plan))
    (hst : statusAt cfg s (s.map k) ≠ .good) : Inv cfg (loadNew cfg s c k ld pred plan) := by
  have hpl : planFut plan < s.nfut + 1 := by
    rcases hplan with e | e
    · rw [e]; exact Nat.lt_succ_self _
    · exact Nat.lt_succ_of_lt (h.a_map k _ e)
  refine inv_alloc cfg s c k ld (newLoadFut k pred) none _ _ (.creator c) h hc
    (fun f hl hn => absurd (by rw [hl]; exact statusAt_unresolved cfg s f hn) hst) rfl hpred
    (.inr ⟨rfl, by cases cfg.old <;> rfl, rfl, rfl, rfl⟩)
    ⟨fun f hf => ?_, fun hold j plan' lk e => (by rw [hold] at e; cases e), by cases cfg.old <;> nofun⟩ (fun sh c' hl => ?_)
  · cases hold : cfg.old <;> simp [hold, pcFuts] at hf <;> rcases hf with rfl | rfl <;>
      first | exact hpl | exact Nat.lt_succ_self _
  · rcases lock_taken hnl hl with ⟨rfl, rfl⟩ | hh
    · exact .inl ⟨rfl, by cases cfg.old <;> rfl⟩
    · exact .inr hh

theorem inv_set (cfg : Cfg) (s : State) (c : Cid) (k : Key) (r : Res) (h : Inv cfg s)
    (hc : jobOf (s.cpc c) = none) (hnl : ∀ sh, s.lock sh ≠ some c) : Inv cfg (setCS s c k r) :=
  inv_alloc cfg s c k 0 _ (s.map k) s.lock .setRet .finished h hc (fun _ h _ => h) rfl (.inl rfl)
    (.inl ⟨rfl, rfl, rfl, rfl⟩) ⟨nofun, nofun, nofun⟩ (fun sh _ hl => .inr ⟨fun e => hnl sh (e ▸ hl), hl⟩)

theorem no_lock_of_pc {cfg : Cfg} {s : State} {c : Cid} (h : Inv cfg s) (hc : lockOf (s.cpc c) = none) (sh : Nat) :
    s.lock sh ≠ some c :=
  fun hl => nomatch hc.symm.trans (lock_pc h sh c hl)

theorem unlock_holder {cfg : Cfg} {s : State} {c c' : Cid} {sh sh' : Nat} {send : Option Job} {plan : Plan} (h : Inv cfg s)
    (hc : s.cpc c = .ldUnlock sh send plan) (hl : upd s.lock sh none sh' = some c') : c' ≠ c ∧ s.lock sh' = some c' := by
  by_cases es : sh' = sh
  · subst es; simp at hl
  · simp only [upd_other es] at hl
    refine ⟨?_, hl⟩
    rintro rfl
    have := lock_pc h sh' c' hl
    rw [hc] at this
    exact es (Option.some.inj this).symm

/-- a client outside Load's locked section (its pc carries no plan) moves to another such pc -/
theorem inv_move {cfg : Cfg} {s : State} {c : Cid} {pc' : CPc} (h : Inv cfg s) (hc : planOf (s.cpc c) = none)
    (hpc : planOf pc' = none) (hfuts : ∀ f, f ∈ pcFuts pc' → f < s.nfut)
    (hpair : ∀ f r, pc' = .done (.pair (some f) r) → f < s.nfut ∧ (s.fut f).done = true ∧ r = (s.fut f).res) :
    Inv cfg (setPc s c pc') := by
  have hj : ∀ pc, planOf pc = none → jobOf pc = none ∧ lockOf pc = none := by
    intro pc; cases pc <;> simp [planOf, jobOf, lockOf]
  exact inv_setPcL cfg s c pc' s.lock h ((hj _ hpc).1.trans (hj _ hc).1.symm)
    ⟨hfuts, fun _ j plan lk e => (by simp [e, planOf] at hpc), hpair⟩
    fun sh c' hl => .inr ⟨fun e => no_lock_of_pc h (hj _ hc).2 sh (e ▸ hl), hl⟩

theorem Step.inv {cfg : Cfg} {s s' : State} {a : Act} (h : Inv cfg s) (hs : Step cfg s a s') : Inv cfg s' := by
  cases hs with
  | invLoad c k ld hc | invGet2 c k hc | invSet c k r hc | retNil c hc | setRet c hc =>
    exact inv_move h (by rw [hc]; rfl) rfl nofun nofun
  | invFGet c o f hc ho =>
    exact inv_move h (by rw [hc]; rfl) rfl (fun _ hf => pc_lt h ho hf) nofun
  | fetch c f g hc =>
    have hf : f < s.nfut := pc_lt h hc (List.mem_cons_self ..)
    refine inv_move h (by rw [hc]; rfl) rfl (fun f' hf' => ?_) nofun
    simp only [pcFuts, List.mem_cons, Option.mem_toList] at hf'
    rcases hf' with rfl | hp
    · exact hf
    · exact h.a_pred f f' hf hp
  | fetchSt c f p g hc =>
    have htgt : fetchTarget f p (statusAt cfg s p) < s.nfut := by
      have hf : f < s.nfut := pc_lt h hc (List.mem_cons_self ..)
      unfold fetchTarget
      cases p with
      | none => exact hf
      | some q =>
        simp only; split
        · exact pc_lt h hc (List.mem_cons_of_mem _ (List.mem_cons_self ..))
        · exact hf
    refine inv_move h (by rw [hc]; rfl) (by split <;> rfl) (fun f' hf' => ?_) (by split <;> nofun)
    split at hf' <;> simp [pcFuts] at hf' <;> exact hf' ▸ htgt
  | ldRet c f hc => exact inv_move h (by rw [hc]; rfl) rfl (fun _ hf => pc_lt h hc hf) nofun
  | g2Start c k hc => exact inv_move h (by rw [hc]; rfl) rfl (fun f' hf' => h.a_map k f' (by simpa [pcFuts] using hf')) nofun
  | g2Status c o hc =>
    have ho : ∀ f, o = some f → f < s.nfut := fun f e => pc_lt h hc (by rw [e]; exact List.mem_cons_self ..)
    unfold g2Next
    split <;> refine inv_move h (by rw [hc]; rfl) rfl (fun f' hf' => ?_) nofun <;> simp [pcFuts] at hf' <;>
      exact hf' ▸ ho _ rfl
  | wait c f hc hd =>
    refine inv_move h (by rw [hc]; rfl) rfl nofun fun f' r e => ?_
    cases e
    exact ⟨pc_lt h hc (List.mem_cons_self ..), hd, rfl⟩
  | ldUnlockSend c sh j plan hc =>
    exact inv_setPcL cfg s c _ _ h (by rw [hc]; rfl) ⟨fun _ hf => pc_lt h hc hf, fun _ _ _ _ e => (by cases e; rfl), nofun⟩
      fun sh' c' hl' => .inr (unlock_holder h hc hl')
  | ldUnlock c sh plan hc =>
    exact inv_setPcL cfg s c _ _ h (by rw [hc]; cases plan <;> rfl)
      ⟨fun f hf => h.a_pc c f (by rw [hc]; cases plan <;> simpa [pcFuts, planPc, planFut] using hf),
        by cases plan <;> nofun, by cases plan <;> nofun⟩
      fun sh' c' hl' => .inr (unlock_holder h hc hl')
  | ldSend c j plan hc => exact inv_send cfg s c j plan none _ h hc (.inl ⟨rfl, rfl⟩)
  | ldSendOld c j plan sh hc => exact inv_send cfg s c j plan (some sh) _ h hc (.inr ⟨sh, rfl, rfl⟩)
  | ldGood c k ld l hc _ hmap =>
    refine inv_setPcL cfg s c _ (upd s.lock (cfg.shardOf k) (some c)) h (by rw [hc]; rfl) ⟨fun f hf => ?_, nofun, nofun⟩ ?_
    · simp [pcFuts, planFut] at hf; subst hf; exact h.a_map k _ hmap
    · intro sh c' hl'
      rcases lock_taken (no_lock_of_pc h (by rw [hc]; rfl)) hl' with ⟨rfl, rfl⟩ | hh
      · exact .inl ⟨rfl, rfl⟩
      · exact .inr hh
  | ldExpired c k ld l hc _ hmap hst =>
    exact inv_create cfg s c k ld (some l) (.ret l) h (by rw [hc]; rfl) (no_lock_of_pc h (by rw [hc]; rfl))
      (.inr hmap.symm) (.inr hmap) (by rw [hmap, hst]; nofun)
  | ldHidden c k ld hc _ hh =>
    exact inv_create cfg s c k ld none (.ret s.nfut) h (by rw [hc]; rfl) (no_lock_of_pc h (by rw [hc]; rfl))
      (.inl rfl) (.inl rfl) fun e => by rcases hidden_status hh with e' | e' <;> rw [e] at e' <;> cases e'
  | setStart c k r hc =>
    exact inv_set cfg s c k r h (by rw [hc]; rfl) (no_lock_of_pc h (by rw [hc]; rfl))
  | wTake w j rest _ hw hch => exact inv_wTake cfg s w j rest h hw hch
  | wTick w _ hw | wStart w j hw | wEnd w _ j hw =>
    exact inv_wpc cfg s w _ s.map _ h (by rw [hw]; rfl) (by rw [hw]; rfl) (fun _ _ e => e) (fun _ _ e _ => e)
  | publish w j r hw =>
    have hwj : wjob (s.wpc w) = some j := by rw [hw]; rfl
    exact inv_wfut cfg s w j (.clearPred j) _ (.worker w) _ h hwj (by rw [← h.f_worker w j hwj, upd_self])
      (.inl ⟨rfl, rfl, (worker_stage h hwj).1, by simp [prePub]⟩) rfl rfl rfl (.inr rfl) nofun
  | clearPred w j hw =>
    have hwj : wjob (s.wpc w) = some j := by rw [hw]; rfl
    have hne := worker_res h hwj (by rw [hw]; rfl)
    exact inv_wfut cfg s w j (.wgDone j) _ (.worker w) _ h hwj (by rw [← h.f_worker w j hwj, upd_self])
      (.inl ⟨rfl, rfl, (worker_stage h hwj).1, by simp [prePub, hne]⟩) rfl rfl rfl (.inl rfl) id
  | wgDone w j hw =>
    have hwj : wjob (s.wpc w) = some j := by rw [hw]; rfl
    exact inv_wfut cfg s w j .idle _ .finished _ h hwj rfl
      (.inr ⟨rfl, rfl, rfl, Option.isSome_iff_ne_none.mpr (worker_res h hwj (by rw [hw]; rfl))⟩) rfl rfl rfl (.inr rfl) id
  | sweep w i hw =>
    refine inv_wpc cfg s w _ (sweepShard cfg s i) s.tickPending h (by rw [hw]; split <;> rfl)
      (by rw [hw]; split <;> rfl) (fun k f hk => ?_) (fun k f hk hr => ?_)
    · unfold sweepShard at hk
      split at hk
      · cases hk
      · exact hk
    · unfold sweepShard
      have : statusAt cfg s (some f) = .good := statusAt_unresolved cfg s f hr
      simp [this, sweepRemoves, hk]
  | tick | delay d => exact { h with }

theorem inv_step (cfg : Cfg) (s : State) (a : Act) (h : Inv cfg s) : Inv cfg (step cfg s a) :=
  Lts.step_inv_of (step_cases cfg) (fun hs h => hs.inv h) h a

theorem inv_run (cfg : Cfg) (acts : List Act) (s : State) (h : Inv cfg s) : Inv cfg (run cfg s acts) :=
  Lts.foldl_inv (inv_step cfg) acts h

theorem inv_reachable (cfg : Cfg) (s : State) (h : Reachable cfg s) : Inv cfg s := by
  obtain ⟨acts, rfl⟩ := h
  exact inv_run cfg acts init (inv_init cfg)

end Got.Lemmas.Cache
