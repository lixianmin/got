import Got.Model.MSQueue
import Got.Lemmas.Lts
import Got.Lemmas.MSQueueWitness
import Got.Lemmas.ListFacts
/-
The invariant of the Michael–Scott queue model, in the rely/guarantee shape of DESIGN Appendix D: the heap changes in four
ways only (U1 `alloc`, U2 `link_node`, U3 `adv_tail`, U4 `adv_head`), and every thread-local invariant is stable under `Ext`.
The model is read as a parallel composition: `ThStep` is what one thread does to the shared heap, and `step s a` does
nothing or lifts the step of `a`'s thread (`step_spec`).
-/
namespace Got.Model.MSQueue
open Got.Spec.Lin

/-- list-structure invariant of the shared heap. `lag` (the `+ 2`): a node is linked (U2) only behind a node without
    successor, and such a node at or before the tail is the tail and the last node (`last_of_next_none`); so the tail lags
    by at most one node, which the helping CAS (U3) makes up. -/
structure Global (h : Heap) : Prop where
  nodup : h.chain.Nodup
  lt : ∀ x, x ∈ h.chain → x < h.nalloc
  link : ∀ i x, h.chain[i]? = some x → h.next x = h.chain[i + 1]?
  off : ∀ x, x ∉ h.chain → h.next x = none
  hd : h.chain[h.hi]? = some h.head
  tl : h.chain[h.ti]? = some h.tail
  hile : h.hi ≤ h.ti
  lag : h.chain.length ≤ h.ti + 2

/-- the private (allocated, not yet linked) node of a thread inside Push. -/
def priv : Pc → Option Nat
  | .p1 n => some n
  | .p2 n _ => some n
  | .p3 n _ _ => some n
  | .p4 n _ => some n
  | .p4h n _ _ => some n
  | _ => none

structure PrivInv (s : State) : Prop where
  notin : ∀ t n, priv (s.pc t) = some n → n ∉ s.chain
  distinct : ∀ t t' n, t ≠ t' → priv (s.pc t) = some n → priv (s.pc t') ≠ some n

/-- what is known of a `tl` read from `q.tail` earlier. -/
def TlOk (h : Heap) (tl : Nat) : Prop := ∃ i, i ≤ h.ti ∧ h.chain[i]? = some tl

def HdOk (h : Heap) (hd : Nat) : Prop := ∃ i, i ≤ h.hi ∧ h.chain[i]? = some hd

/-- `hd` was read before `tl`, and the head never passes the tail: hence `i ≤ j`, on which `obs` and `d4Take` rest. -/
def HdTlOk (h : Heap) (hd tl : Nat) : Prop :=
  ∃ i j, i ≤ j ∧ i ≤ h.hi ∧ j ≤ h.ti ∧ h.chain[i]? = some hd ∧ h.chain[j]? = some tl

/-- thread-local invariant, per yield point. At `d4` a nil `nx` was read from the last node, which is the tail (`last_of_next_none`), so
    `hd = tl` and the branch that dereferences `nx` is not taken (`d4Crash`). `d5` is entered with `hd ≠ tl` only, so `hd` lies strictly
    before the tail: the head CAS keeps `hi ≤ ti` (`Global.adv_head`). -/
def Local (h : Heap) : Pc → Prop
  | .idle => True
  | .crash => False
  | .p1 n => n < h.nalloc
  | .p2 n tl => n < h.nalloc ∧ TlOk h tl
  | .p3 n tl nx => n < h.nalloc ∧ TlOk h tl ∧ ∀ x, nx = some x → h.next tl = some x
  | .p4 n tl => n < h.nalloc ∧ TlOk h tl
  | .p4h n tl x => n < h.nalloc ∧ TlOk h tl ∧ h.next tl = some x
  | .p5 n tl => n < h.nalloc ∧ TlOk h tl ∧ h.next tl = some n
  | .d1 => True
  | .d2 hd => HdOk h hd
  | .d3 hd tl => HdTlOk h hd tl
  | .d4 hd tl nx => HdTlOk h hd tl ∧ (∀ x, nx = some x → h.next hd = some x) ∧ (nx = none → hd = tl)
  | .d5h _ tl x => TlOk h tl ∧ h.next tl = some x
  | .d5 hd x v => (∃ i, i < h.ti ∧ i ≤ h.hi ∧ h.chain[i]? = some hd) ∧ h.next hd = some x ∧ v = h.val x

/-- relation between a thread's pc and its status in the replay of the log. -/
def TRel (h : Heap) : Pc → TSt → Prop
  | .idle, st => st = .idle
  | .crash, _ => False
  | .p1 n, st => st = .pend (.push (h.val n)) false
  | .p2 n _, st => st = .pend (.push (h.val n)) false
  | .p3 n _ _, st => st = .pend (.push (h.val n)) false
  | .p4 n _, st => st = .pend (.push (h.val n)) false
  | .p4h n _ _, st => st = .pend (.push (h.val n)) false
  | .p5 n _, st => st = .done (.push (h.val n)) .ack
  | .d1, st => ∃ b, st = .pend .pop b
  | .d2 _, st => ∃ b, st = .pend .pop b
  | .d3 _ _, st => ∃ b, st = .pend .pop b
  | .d4 _ _ nx, st => ∃ b, st = .pend .pop b ∧ (nx = none → b = true)
  | .d5h _ _ _, st => ∃ b, st = .pend .pop b
  | .d5 _ _ _, st => ∃ b, st = .pend .pop b

/-- the abstract queue: values of the nodes after the head. -/
def absQ (h : Heap) : List Nat := (h.chain.drop (h.hi + 1)).map h.val

structure LogInv (s : State) : Prop where
  ex : ∃ w, wrun s.log = some w ∧ w.q = absQ s.toHeap ∧ ∀ t, TRel s.toHeap (s.pc t) (w.st t)

structure Inv (s : State) : Prop where
  glob : Global s.toHeap
  privs : PrivInv s
  loc : ∀ t, Local s.toHeap (s.pc t)
  logi : LogInv s

/-- the heap only grows. -/
structure Ext (h h' : Heap) : Prop where
  chain : ∃ ext, h'.chain = h.chain ++ ext
  hi : h.hi ≤ h'.hi
  ti : h.ti ≤ h'.ti
  next : ∀ x y, h.next x = some y → h'.next x = some y
  nalloc : h.nalloc ≤ h'.nalloc
  val : ∀ x, x < h.nalloc → h'.val x = h.val x

theorem mem_of_getElem?' {l : List Nat} {i x : Nat} (h : l[i]? = some x) : x ∈ l :=
  List.mem_of_getElem? h

theorem Ext.refl (h : Heap) : Ext h h :=
  ⟨⟨[], by simp⟩, Nat.le_refl _, Nat.le_refl _, fun _ _ hx => hx, Nat.le_refl _, fun _ _ => rfl⟩

theorem Ext.at {h h' : Heap} (e : Ext h h') {i x : Nat} (hx : h.chain[i]? = some x) :
    h'.chain[i]? = some x := by
  obtain ⟨ext, he⟩ := e.chain
  rw [he]; exact List.getElem?_append_some hx

theorem TlOk.ext {h h' : Heap} (e : Ext h h') {tl : Nat} : TlOk h tl → TlOk h' tl :=
  fun ⟨i, hi, hx⟩ => ⟨i, Nat.le_trans hi e.ti, e.at hx⟩

theorem HdOk.ext {h h' : Heap} (e : Ext h h') {hd : Nat} : HdOk h hd → HdOk h' hd :=
  fun ⟨i, hi, hx⟩ => ⟨i, Nat.le_trans hi e.hi, e.at hx⟩

theorem HdTlOk.ext {h h' : Heap} (e : Ext h h') {hd tl : Nat} : HdTlOk h hd tl → HdTlOk h' hd tl :=
  fun ⟨i, j, hij, hi, hj, hx, hy⟩ => ⟨i, j, hij, Nat.le_trans hi e.hi, Nat.le_trans hj e.ti, e.at hx, e.at hy⟩

theorem Global.succ_mem {h : Heap} (g : Global h) {i x y : Nat} (hx : h.chain[i]? = some x)
    (hn : h.next x = some y) : h.chain[i + 1]? = some y := by
  rw [← g.link i x hx]; exact hn

theorem Global.next_lt {h : Heap} (g : Global h) {p x : Nat} (hn : h.next p = some x) : x < h.nalloc := by
  by_cases hp : p ∈ h.chain
  · obtain ⟨i, hi⟩ := List.getElem?_of_mem hp
    exact g.lt x (List.mem_of_getElem? (g.succ_mem hi hn))
  · rw [g.off p hp] at hn; cases hn

theorem Global.nalloc_pos {h : Heap} (g : Global h) : 0 < h.nalloc :=
  Nat.lt_of_le_of_lt (Nat.zero_le _) (g.lt _ (List.mem_of_getElem? g.hd))

theorem Global.succ_tail_last {h : Heap} (g : Global h) {x : Nat} (hn : h.next h.tail = some x) :
    h.next x = none := by
  have h1 := g.succ_mem g.tl hn
  rw [g.link _ _ h1]
  apply List.getElem?_eq_none
  have := g.lag
  omega

theorem Global.head_ne_succ_tail {h : Heap} (g : Global h) {x : Nat} (hn : h.next h.tail = some x) :
    h.head ≠ x := by
  have h1 := g.succ_mem g.tl hn
  intro e
  rw [← e] at h1
  have := g.nodup.idx_eq g.hd h1
  have := g.hile
  omega

theorem Local.ext {h h' : Heap} (g : Global h) (e : Ext h h') : ∀ p, Local h p → Local h' p := by
  intro p
  cases p with
  | idle | crash | d1 => exact id
  | p1 n => exact fun hl => Nat.lt_of_lt_of_le hl e.nalloc
  | p2 n tl | p4 n tl => exact fun ⟨h1, h2⟩ => ⟨Nat.lt_of_lt_of_le h1 e.nalloc, h2.ext e⟩
  | p3 n tl nx => exact fun ⟨h1, h2, h3⟩ => ⟨Nat.lt_of_lt_of_le h1 e.nalloc, h2.ext e, fun x hx => e.next _ _ (h3 x hx)⟩
  | p4h n tl x | p5 n tl => exact fun ⟨h1, h2, h3⟩ => ⟨Nat.lt_of_lt_of_le h1 e.nalloc, h2.ext e, e.next _ _ h3⟩
  | d2 hd => exact HdOk.ext e
  | d3 hd tl => exact HdTlOk.ext e
  | d4 hd tl nx => exact fun ⟨h1, h2, h3⟩ => ⟨h1.ext e, fun x hx => e.next _ _ (h2 x hx), h3⟩
  | d5h hd tl x => exact fun ⟨h1, h2⟩ => ⟨h1.ext e, e.next _ _ h2⟩
  | d5 hd x v =>
    intro ⟨⟨i, h1, h2, h3⟩, h4, h5⟩
    refine ⟨⟨i, Nat.lt_of_lt_of_le h1 e.ti, Nat.le_trans h2 e.hi, e.at h3⟩, e.next _ _ h4, ?_⟩
    have hx : x ∈ h.chain := List.mem_of_getElem? (g.succ_mem h3 h4)
    rw [e.val x (g.lt x hx)]; exact h5

/-- only the pcs of Push mention the heap, through the value of the thread's own (allocated) node. -/
theorem TRel.ext {h h' : Heap} (e : Ext h h') : ∀ p st, Local h p → TRel h p st → TRel h' p st := by
  intro p st hl
  cases p <;> try exact id
  case p1 n => show _ = _ → _ = _; rw [e.val n hl]; exact id
  all_goals (show _ = _ → _ = _; rw [e.val _ hl.1]; exact id)

theorem Global.alloc {h : Heap} (g : Global h) (v : Nat) :
    Global { h with val := upd h.val h.nalloc v, nalloc := h.nalloc + 1 } :=
  ⟨g.nodup, fun x hx => Nat.lt_succ_of_lt (g.lt x hx), g.link, g.off, g.hd, g.tl, g.hile, g.lag⟩

theorem Ext.alloc (h : Heap) (v : Nat) :
    Ext h { h with val := upd h.val h.nalloc v, nalloc := h.nalloc + 1 } :=
  ⟨⟨[], by simp⟩, Nat.le_refl _, Nat.le_refl _, fun _ _ hx => hx, Nat.le_succ _,
   fun x hx => upd_other (Nat.ne_of_lt hx)⟩

theorem Global.last_of_next_none {h : Heap} (g : Global h) {i tl : Nat} (hi : i ≤ h.ti)
    (hx : h.chain[i]? = some tl) (hn : h.next tl = none) :
    i = h.ti ∧ h.chain.length = h.ti + 1 := by
  have h1 := g.link i tl hx
  rw [hn] at h1
  have h2 : h.chain.length ≤ i + 1 := List.getElem?_eq_none_iff.mp h1.symm
  have h3 := List.lt_length_of_getElem? g.tl
  omega

theorem Global.link_node {h : Heap} (g : Global h) {tl n : Nat} (htl : TlOk h tl)
    (hn : h.next tl = none) (hnc : n ∉ h.chain) (hna : n < h.nalloc) :
    Global { h with next := upd h.next tl (some n), chain := h.chain ++ [n] } := by
  obtain ⟨i, hi, hx⟩ := htl
  obtain ⟨hit, hlen⟩ := g.last_of_next_none hi hx hn
  have htlc : tl ∈ h.chain := List.mem_of_getElem? hx
  have hntl : n ≠ tl := fun e => hnc (e ▸ htlc)
  refine ⟨?_, ?_, ?_, ?_, ?_, ?_, g.hile, ?_⟩
  · exact g.nodup.snoc hnc
  · intro x hx'
    rcases List.mem_append.1 hx' with hx' | hx'
    · exact g.lt x hx'
    · exact List.eq_of_mem_singleton hx' ▸ hna
  · intro j x hj
    show upd h.next tl (some n) x = (h.chain ++ [n])[j + 1]?
    change (h.chain ++ [n])[j]? = some x at hj
    have hL : h.chain.length = i + 1 := hit ▸ hlen
    rcases List.getElem?_snoc hj with hj | ⟨rfl, rfl⟩
    · have hjl := List.lt_length_of_getElem? hj
      by_cases hji : j = i
      · subst hji
        cases hx.symm.trans hj
        rw [upd_same, ← hL, List.getElem?_concat_length]
      · have hxt : x ≠ tl := fun e => hji (g.nodup.idx_eq hj (e ▸ hx))
        rw [upd_other hxt, g.link j x hj, List.getElem?_append_left (by omega)]
    · rw [upd_other hntl, g.off _ hnc]
      exact (List.getElem?_eq_none (by rw [List.length_append]; exact Nat.le_refl _)).symm
  · intro x hx'
    have hxc : x ∉ h.chain := fun hc => hx' (List.mem_append_left _ hc)
    exact (upd_other fun e : x = tl => hxc (e ▸ htlc)).trans (g.off x hxc)
  · exact List.getElem?_append_some g.hd
  · exact List.getElem?_append_some g.tl
  · show (h.chain ++ [n]).length ≤ h.ti + 2
    rw [List.length_append, hlen]; exact Nat.le_refl _

theorem Ext.link_node (h : Heap) {tl n : Nat} (hn : h.next tl = none) :
    Ext h { h with next := upd h.next tl (some n), chain := h.chain ++ [n] } := by
  refine ⟨⟨[n], rfl⟩, Nat.le_refl _, Nat.le_refl _, ?_, Nat.le_refl _, fun _ _ => rfl⟩
  intro x y hx
  have : x ≠ tl := by intro e; subst e; rw [hn] at hx; cases hx
  show upd h.next tl (some n) x = some y
  rw [upd_other this]; exact hx

theorem Global.adv_tail {h : Heap} (g : Global h) {x : Nat} (hn : h.next h.tail = some x) :
    Global { h with tail := x, ti := h.ti + 1 } :=
  ⟨g.nodup, g.lt, g.link, g.off, g.hd, g.succ_mem g.tl hn, Nat.le_succ_of_le g.hile,
   Nat.le_trans g.lag (Nat.le_succ _)⟩

theorem Ext.adv_tail (h : Heap) (x : Nat) : Ext h { h with tail := x, ti := h.ti + 1 } :=
  ⟨⟨[], by simp⟩, Nat.le_refl _, Nat.le_succ _, fun _ _ hx => hx, Nat.le_refl _, fun _ _ => rfl⟩

/-- `CAS(q.tail, tl, x)` on the heap: U3 if the tail is still `tl`, nothing otherwise (the Go code ignores the result). -/
def swing (h : Heap) (tl x : Nat) : Heap := if h.tail = tl then { h with tail := x, ti := h.ti + 1 } else h

theorem Global.swing {h : Heap} (g : Global h) {tl x : Nat} (hn : h.next tl = some x) : Global (swing h tl x) := by
  unfold MSQueue.swing; split
  · next e => subst e; exact g.adv_tail hn
  · exact g

theorem Ext.swing (h : Heap) (tl x : Nat) : Ext h (swing h tl x) := by
  unfold MSQueue.swing; split
  · exact Ext.adv_tail _ _
  · exact Ext.refl _

theorem swing_chain (h : Heap) (tl x : Nat) : (swing h tl x).chain = h.chain := by unfold swing; split <;> rfl

theorem absQ_swing (h : Heap) (tl x : Nat) : absQ (swing h tl x) = absQ h := by unfold swing; split <;> rfl

theorem swing_next (h : Heap) (tl x : Nat) : (swing h tl x).next = h.next := by unfold swing; split <;> rfl

theorem swing_nalloc (h : Heap) (tl x : Nat) : (swing h tl x).nalloc = h.nalloc := by unfold swing; split <;> rfl

theorem Global.adv_head {h : Heap} (g : Global h) {x : Nat} (hn : h.next h.head = some x)
    (hlt : h.hi < h.ti) :
    Global { h with head := x, hi := h.hi + 1 } :=
  ⟨g.nodup, g.lt, g.link, g.off, g.succ_mem g.hd hn, g.tl, hlt, g.lag⟩

theorem Ext.adv_head (h : Heap) (x : Nat) : Ext h { h with head := x, hi := h.hi + 1 } :=
  ⟨⟨[], by simp⟩, Nat.le_succ _, Nat.le_refl _, fun _ _ hx => hx, Nat.le_refl _, fun _ _ => rfl⟩

/-- the steps that only move the pc of the acting thread (loads, re-checks, a failed CAS on `next` or `head`). -/
inductive LocalStep (h : Heap) : Pc → Pc → Prop
  | p1 {n} : LocalStep h (.p1 n) (.p2 n h.tail)
  | p2 {n tl} : LocalStep h (.p2 n tl) (.p3 n tl (h.next tl))
  | p3None {n tl} : tl = h.tail → LocalStep h (.p3 n tl none) (.p4 n tl)
  | p3Some {n tl x} : tl = h.tail → LocalStep h (.p3 n tl (some x)) (.p4h n tl x)
  | p3Retry {n tl nx} : tl ≠ h.tail → LocalStep h (.p3 n tl nx) (.p1 n)
  | p4Retry {n tl} : h.next tl ≠ none → LocalStep h (.p4 n tl) (.p1 n)
  | d1 : LocalStep h .d1 (.d2 h.head)
  | d2 {hd} : LocalStep h (.d2 hd) (.d3 hd h.tail)
  | d3Some {hd tl x} : h.next hd = some x → LocalStep h (.d3 hd tl) (.d4 hd tl (some x))
  | d4Help {hd tl x} : hd = h.head → hd = tl → LocalStep h (.d4 hd tl (some x)) (.d5h hd tl x)
  | d4Crash {hd tl} : hd = h.head → hd ≠ tl → LocalStep h (.d4 hd tl none) .crash
  | d4Take {hd tl x} : hd = h.head → hd ≠ tl → LocalStep h (.d4 hd tl (some x)) (.d5 hd x (h.val x))
  | d4Retry {hd tl nx} : hd ≠ h.head → LocalStep h (.d4 hd tl nx) .d1
  | d5Retry {hd x v} : h.head ≠ hd → LocalStep h (.d5 hd x v) .d1

def Act.tid : Act → Nat
  | .invPush t _ => t
  | .invPop t => t
  | .tau t => t

/-- what thread `t`, parked at `p`, does under action `a` on the shared heap `h`: the new heap, its new pc and the events it logs. -/
inductive ThStep (h : Heap) (t : Nat) : Act → Pc → Heap → Pc → List LEv → Prop
  | invPush {v} : ThStep h t (.invPush t v) .idle { h with val := upd h.val h.nalloc v, nalloc := h.nalloc + 1 }
      (.p1 h.nalloc) [.inv t (.push v)]
  | invPop : ThStep h t (.invPop t) .idle h .d1 [.inv t .pop]
  | loc {p p'} : LocalStep h p p' → ThStep h t (.tau t) p h p' []
  | link {n tl} : h.next tl = none → ThStep h t (.tau t) (.p4 n tl)
      { h with next := upd h.next tl (some n), chain := h.chain ++ [n] } (.p5 n tl) [.lin t (.push (h.val n)) .ack]
  | p4h {n tl x} : ThStep h t (.tau t) (.p4h n tl x) (swing h tl x) (.p1 n) []
  | p5 {n tl} : ThStep h t (.tau t) (.p5 n tl) (swing h tl n) .idle [.ret t .ack]
  | obs {hd tl} : h.next hd = none → ThStep h t (.tau t) (.d3 hd tl) h (.d4 hd tl none) [.obs t]
  | empty {hd tl} : hd = h.head → hd = tl → ThStep h t (.tau t) (.d4 hd tl none) h .idle [.ret t (.val none)]
  | d5h {hd tl x} : ThStep h t (.tau t) (.d5h hd tl x) (swing h tl x) .d1 []
  | take {hd x v} : h.head = hd → ThStep h t (.tau t) (.d5 hd x v) { h with head := x, hi := h.hi + 1 } .idle
      [.lin t .pop (.val (some v)), .ret t (.val (some v))]

def lift (s : State) (t : Nat) (h' : Heap) (p' : Pc) (evs : List LEv) : State :=
  { toHeap := h', pc := upd s.pc t p', log := s.log ++ evs }

theorem lift_nil (s : State) (t : Nat) (p' : Pc) : lift s t s.toHeap p' [] = setPc s t p' := by
  show State.mk _ _ _ = State.mk _ _ _
  rw [List.append_nil]

theorem casTail_lift (s : State) (t tl x : Nat) (p' : Pc) :
    casTail s t tl x p' = lift s t (swing s.toHeap tl x) p' [] := by
  unfold casTail swing lift setPc
  split <;> simp

/-- the actions that `step` ignores. -/
def stutters (s : State) : Act → Prop
  | .tau t => s.pc t = .idle ∨ s.pc t = .crash
  | .invPush t _ => s.pc t ≠ .idle
  | .invPop t => s.pc t ≠ .idle

inductive Step (s : State) (a : Act) : State → Prop
  | skip : stutters s a → Step s a s
  | move {h' p' evs} : ThStep s.toHeap a.tid a (s.pc a.tid) h' p' evs → Step s a (lift s a.tid h' p' evs)

theorem Step.loc {s : State} {t : Nat} {p p' : Pc} (hp : s.pc t = p) (h : LocalStep s.toHeap p p') :
    Step s (.tau t) (setPc s t p') :=
  lift_nil s t p' ▸ .move (a := .tau t) (.loc (hp ▸ h))

theorem Step.thread {s : State} {t : Nat} {p : Pc} {h' : Heap} {p' : Pc} {evs : List LEv} (hp : s.pc t = p)
    (h : ThStep s.toHeap t (.tau t) p h' p' evs) : Step s (.tau t) (lift s t h' p' evs) :=
  .move (a := .tau t) (hp ▸ h)

theorem step_spec (s : State) (a : Act) : Step s a (step s a) := by
  cases a with
  | invPush t v =>
    by_cases hp : s.pc t = .idle <;> simp only [step, hp]
    · exact .move (a := .invPush t v) (hp ▸ .invPush)
    · exact .skip hp
  | invPop t =>
    by_cases hp : s.pc t = .idle <;> simp only [step, hp]
    · exact .move (a := .invPop t) (hp ▸ .invPop)
    · exact .skip hp
  | tau t =>
    cases hp : s.pc t <;> simp only [step, tau, hp]
    case idle => exact .skip (.inl hp)
    case crash => exact .skip (.inr hp)
    case p1 => exact .loc hp .p1
    case p2 => exact .loc hp .p2
    case p3 n tl nx =>
      split
      · next h =>
        cases nx with
        | none => exact .loc hp (.p3None h)
        | some x => exact .loc hp (.p3Some h)
      · next h => exact .loc hp (.p3Retry h)
    case p4 =>
      split
      · next h => exact .thread hp (.link h)
      · next h => exact .loc hp (.p4Retry h)
    case p4h => rw [casTail_lift]; exact .thread hp .p4h
    case p5 n tl => rw [casTail_lift]; exact .thread hp (.p5 (n := n) (tl := tl))
    case d1 => exact .loc hp .d1
    case d2 => exact .loc hp .d2
    case d3 =>
      split
      · next h => exact .thread hp (.obs h)
      · next h => exact .loc hp (.d3Some h)
    case d4 hd tl nx =>
      split
      · next h =>
        split
        · next h' =>
          cases nx with
          | none => exact .thread hp (.empty h h')
          | some x => exact .loc hp (.d4Help h h')
        · next h' =>
          cases nx with
          | none => exact .loc hp (.d4Crash h h')
          | some x => exact .loc hp (.d4Take h h')
      · next h => exact .loc hp (.d4Retry h)
    case d5h => rw [casTail_lift]; exact .thread hp .d5h
    case d5 =>
      split
      · next h => exact .thread hp (.take h)
      · next h => exact .loc hp (.d5Retry h)

theorem step_spec_busy {s : State} (hI : Inv s) {t : Nat} (hb : busy s t) :
    ∃ h' p' evs, ThStep s.toHeap t (.tau t) (s.pc t) h' p' evs ∧ tau s t = lift s t h' p' evs := by
  have H := step_spec s (.tau t)
  generalize e : step s (.tau t) = s' at H
  cases H with
  | skip hp =>
    rcases hp with h | h
    · exact absurd h hb
    · exact absurd (hI.loc t) (h ▸ id)
  | move hs => exact ⟨_, _, _, hs, e⟩

theorem Step.pc_other {s s' : State} {a : Act} (h : Step s a s') {t : Nat} (ht : t ≠ a.tid) : s'.pc t = s.pc t := by
  cases h with
  | skip => rfl
  | move => exact upd_other ht

theorem priv_lt {h : Heap} {p : Pc} {n : Nat} (hp : priv p = some n) (hl : Local h p) : n < h.nalloc := by
  cases p with
  | p1 => exact Option.some.inj hp ▸ hl
  | p2 | p3 | p4 | p4h => exact Option.some.inj hp ▸ hl.1
  | _ => cases hp

theorem PrivInv.step {s : State} (hP : PrivInv s) {t : Nat} {h' : Heap} {p' : Pc} {evs : List LEv}
    (hoth : ∀ t0 n, t0 ≠ t → priv (s.pc t0) = some n → n ∉ h'.chain)
    (hown : ∀ n, priv p' = some n → n ∉ h'.chain ∧ ∀ t0, t0 ≠ t → priv (s.pc t0) ≠ some n) :
    PrivInv (lift s t h' p' evs) := by
  have key : ∀ t0 n, priv (upd s.pc t p' t0) = some n →
      (t0 = t ∧ priv p' = some n) ∨ (t0 ≠ t ∧ priv (s.pc t0) = some n) := by
    intro t0 n h0
    by_cases h : t0 = t
    · subst h; rw [upd_same] at h0; exact .inl ⟨rfl, h0⟩
    · rw [upd_other h] at h0; exact .inr ⟨h, h0⟩
  constructor
  · intro t0 n h0
    rcases key t0 n h0 with ⟨_, h⟩ | ⟨hne, h⟩
    · exact (hown n h).1
    · exact hoth t0 n hne h
  · intro t0 t1 n hne h0 h1
    rcases key t0 n h0 with ⟨rfl, h⟩ | ⟨ha, h⟩ <;> rcases key t1 n h1 with ⟨rfl, h'⟩ | ⟨hb, h'⟩
    · exact hne rfl
    · exact (hown n h).2 t1 hb h'
    · exact (hown n h').2 t0 ha h
    · exact hP.distinct t0 t1 n hne h h'

theorem PrivInv.same_chain {s : State} (hP : PrivInv s) {t : Nat} {h' : Heap} {p' : Pc} {evs : List LEv}
    (hc : h'.chain = s.chain) (hp : ∀ n, priv p' = some n → priv (s.pc t) = some n) : PrivInv (lift s t h' p' evs) :=
  hP.step (fun t0 n _ h => hc ▸ hP.notin t0 n h) fun n h =>
    ⟨hc ▸ hP.notin t n (hp n h), fun t0 hne h0 => hP.distinct t0 t n hne h0 (hp n h)⟩

theorem PrivInv.alloc {s : State} (hI : Inv s) {t : Nat} {h' : Heap} {evs : List LEv} (hc : h'.chain = s.chain) :
    PrivInv (lift s t h' (.p1 s.nalloc) evs) :=
  hI.privs.step (fun t0 n _ h => hc ▸ hI.privs.notin t0 n h) fun n h => by
    obtain rfl : s.nalloc = n := Option.some.inj h
    exact ⟨fun hm => Nat.lt_irrefl _ (hI.glob.lt _ (hc ▸ hm)),
      fun t0 _ h0 => Nat.lt_irrefl _ (priv_lt h0 (hI.loc t0))⟩

theorem PrivInv.link {s : State} (hP : PrivInv s) {t n tl : Nat} {h' : Heap} {evs : List LEv}
    (hpt : priv (s.pc t) = some n) (hc : h'.chain = s.chain ++ [n]) : PrivInv (lift s t h' (.p5 n tl) evs) := by
  refine hP.step (fun t0 m hne h hm => ?_) nofun
  rw [hc, List.mem_append, List.mem_singleton] at hm
  rcases hm with hm | rfl
  · exact hP.notin t0 m h hm
  · exact hP.distinct t0 t m hne h hpt

/-- the log part of `Inv.thread`: the replay follows the events of the acting thread, the others keep their status by `TRel.ext`. -/
theorem LogInv.events {s s' : State} (hI : Inv s) {t : Nat} {p' : Pc} {evs : List LEv}
    (hpc : s'.pc = upd s.pc t p') (e : Ext s.toHeap s'.toHeap) (hlog : s'.log = s.log ++ evs)
    (hstep : ∀ w : WSt, w.q = absQ s.toHeap → TRel s.toHeap (s.pc t) (w.st t) →
      ∃ w', wrunFrom w evs = some w' ∧ w'.q = absQ s'.toHeap ∧ TRel s'.toHeap p' (w'.st t) ∧
        ∀ t', t' ≠ t → w'.st t' = w.st t') : LogInv s' := by
  obtain ⟨w, hw, hq, hT⟩ := hI.logi.ex
  obtain ⟨w', hw', hq', hTt, hoth⟩ := hstep w hq (hT t)
  refine ⟨w', ?_, hq', ?_⟩
  · rw [hlog]
    unfold wrun at hw ⊢
    rw [wrunFrom_append, hw]
    exact hw'
  · intro t'
    rw [hpc]
    by_cases h : t' = t
    · subst h; rw [upd_same]; exact hTt
    · rw [upd_other h, hoth t' h]
      exact TRel.ext e _ _ (hI.loc t') (hT t')

/-- the rely/guarantee rule: what the acting thread owes; the other threads keep their invariants by `Ext`. -/
theorem Inv.thread {s : State} (hI : Inv s) {t : Nat} {p p' : Pc} {h' : Heap} {evs : List LEv} (hp : s.pc t = p)
    (g : Global h') (e : Ext s.toHeap h') (hP : PrivInv (lift s t h' p' evs)) (hL : Local h' p')
    (hstep : ∀ w : WSt, w.q = absQ s.toHeap → TRel s.toHeap p (w.st t) →
      ∃ q' st', wrunFrom w evs = some ⟨q', upd w.st t st'⟩ ∧ q' = absQ h' ∧ TRel h' p' st') :
    Inv (lift s t h' p' evs) := by
  refine ⟨g, hP, fun t' => ?_, LogInv.events hI rfl e rfl fun w hq hT => ?_⟩
  · show Local h' (upd s.pc t p' t')
    by_cases h : t' = t
    · subst h; rw [upd_same]; exact hL
    · rw [upd_other h]; exact Local.ext hI.glob e _ (hI.loc t')
  · obtain ⟨q', st', h1, h2, h3⟩ := hstep w hq (hp ▸ hT)
    refine ⟨_, h1, h2, ?_, fun t' h => upd_other h⟩
    show TRel _ _ (upd w.st t st' t)
    rw [upd_same]; exact h3

@[simp] theorem wrunFrom_nil (w : WSt) : wrunFrom w [] = some w := rfl

theorem absQ_adv_tail (h : Heap) (x : Nat) : absQ { h with tail := x, ti := h.ti + 1 } = absQ h := rfl

/-- a step that leaves the chain and the abstract queue as they are. -/
theorem Inv.quiet {s : State} (hI : Inv s) {t : Nat} {h' : Heap} {p p' : Pc} {evs : List LEv}
    (g : Global h') (e : Ext s.toHeap h') (hch : h'.chain = s.chain) (hq : absQ h' = absQ s.toHeap) (hpc : s.pc t = p)
    (hL : Local s.toHeap p') (hp : ∀ n, priv p' = some n → priv p = some n)
    (hstep : ∀ w : WSt, w.q = absQ s.toHeap → TRel s.toHeap p (w.st t) →
      ∃ st', wrunFrom w evs = some { w with st := upd w.st t st' } ∧ TRel s.toHeap p' st') :
    Inv (lift s t h' p' evs) := by
  refine hI.thread hpc g e (hI.privs.same_chain hch (hpc ▸ hp)) (Local.ext hI.glob e _ hL) fun w hw hT => ?_
  obtain ⟨st', h1, h2⟩ := hstep w hw hT
  exact ⟨_, _, h1, hw.trans hq.symm, TRel.ext e _ _ hL h2⟩

theorem Inv.swing {s : State} (hI : Inv s) {t tl x : Nat} {p p' : Pc} {evs : List LEv} (hn : s.next tl = some x)
    (hpc : s.pc t = p) (hL : Local s.toHeap p') (hp : ∀ n, priv p' = some n → priv p = some n)
    (hstep : ∀ w : WSt, w.q = absQ s.toHeap → TRel s.toHeap p (w.st t) →
      ∃ st', wrunFrom w evs = some { w with st := upd w.st t st' } ∧ TRel s.toHeap p' st') :
    Inv (lift s t (swing s.toHeap tl x) p' evs) :=
  hI.quiet (hI.glob.swing hn) (Ext.swing ..) (swing_chain ..) (absQ_swing ..) hpc hL hp hstep

theorem LocalStep.priv {h : Heap} {p p' : Pc} (hs : LocalStep h p p') :
    ∀ n, priv p' = some n → priv p = some n := by
  cases hs <;> exact fun _ h => h

theorem LocalStep.sound {h : Heap} {p p' : Pc} (g : Global h) (hs : LocalStep h p p') (hl : Local h p) :
    Local h p' ∧ ∀ st, TRel h p st → TRel h p' st := by
  cases hs with
  | p1 => exact ⟨⟨hl, h.ti, Nat.le_refl _, g.tl⟩, fun _ => id⟩
  | p2 => exact ⟨⟨hl.1, hl.2, fun _ hx => hx⟩, fun _ => id⟩
  | p3None => exact ⟨⟨hl.1, hl.2.1⟩, fun _ => id⟩
  | p3Some => exact ⟨⟨hl.1, hl.2.1, hl.2.2 _ rfl⟩, fun _ => id⟩
  | p3Retry | p4Retry => exact ⟨hl.1, fun _ => id⟩
  | d1 => exact ⟨⟨h.hi, Nat.le_refl _, g.hd⟩, fun _ => id⟩
  | d2 =>
    obtain ⟨i, hi, hx⟩ := hl
    exact ⟨⟨i, h.ti, Nat.le_trans hi g.hile, hi, Nat.le_refl _, hx, g.tl⟩, fun _ => id⟩
  | d3Some hn =>
    exact ⟨⟨hl, fun _ hy => Option.some.inj hy ▸ hn, nofun⟩, fun _ ⟨b, hb⟩ => ⟨b, hb, nofun⟩⟩
  | d4Help _ ht =>
    obtain ⟨⟨_, j, _, _, hj, _, hy⟩, h2, _⟩ := hl
    exact ⟨⟨⟨j, hj, hy⟩, ht ▸ h2 _ rfl⟩, fun _ ⟨b, hb, _⟩ => ⟨b, hb⟩⟩
  | d4Crash _ hne => exact absurd (hl.2.2 rfl) hne
  | d4Take _ hne =>
    obtain ⟨⟨i, j, hij, hi, hj, hx, hy⟩, h2, _⟩ := hl
    have : i ≠ j := fun e => hne (Option.some.inj ((e ▸ hx).symm.trans hy))
    exact ⟨⟨⟨i, by omega, hi, hx⟩, h2 _ rfl, rfl⟩, fun _ ⟨b, hb, _⟩ => ⟨b, hb⟩⟩
  | d4Retry => exact ⟨trivial, fun _ ⟨b, hb, _⟩ => ⟨b, hb⟩⟩
  | d5Retry => exact ⟨trivial, fun _ => id⟩

theorem absQ_link (h : Heap) (g : Global h) (tl n : Nat) :
    absQ { h with next := upd h.next tl (some n), chain := h.chain ++ [n] } = absQ h ++ [h.val n] := by
  show ((h.chain ++ [n]).drop (h.hi + 1)).map h.val = (h.chain.drop (h.hi + 1)).map h.val ++ [h.val n]
  have := List.lt_length_of_getElem? g.hd
  rw [List.drop_append_of_le_length (by omega), List.map_append]; rfl

theorem absQ_nil_of_last {h : Heap} (g : Global h) {i hd : Nat} (hi : i ≤ h.hi) (hx : h.chain[i]? = some hd)
    (hn : h.next hd = none) : absQ h = [] := by
  obtain ⟨h1, h2⟩ := g.last_of_next_none (Nat.le_trans hi g.hile) hx hn
  have := g.hile
  unfold absQ
  rw [List.drop_eq_nil_of_le (by omega)]; rfl

theorem absQ_adv_head {h : Heap} (g : Global h) {x : Nat} (hn : h.next h.head = some x) :
    absQ h = h.val x :: absQ { h with head := x, hi := h.hi + 1 } := by
  have h1 := g.succ_mem g.hd hn
  have h2 := List.lt_length_of_getElem? h1
  show (h.chain.drop (h.hi + 1)).map h.val = h.val x :: (h.chain.drop (h.hi + 1 + 1)).map h.val
  rw [List.drop_eq_getElem_cons h2, List.map_cons]
  rw [List.getElem?_eq_getElem h2] at h1
  injection h1 with h1
  rw [h1]

theorem absQ_alloc {h : Heap} (g : Global h) (v : Nat) :
    absQ { h with val := upd h.val h.nalloc v, nalloc := h.nalloc + 1 } = absQ h := by
  show (h.chain.drop (h.hi + 1)).map (upd h.val h.nalloc v) = (h.chain.drop (h.hi + 1)).map h.val
  apply List.map_congr_left
  intro a ha
  exact upd_other (Nat.ne_of_lt (g.lt a (List.mem_of_mem_drop ha)))

theorem ThStep.inv {s : State} (hI : Inv s) {t : Nat} {a : Act} {h' : Heap} {p' : Pc} {evs : List LEv}
    (hs : ThStep s.toHeap t a (s.pc t) h' p' evs) : Inv (lift s t h' p' evs) := by
  have hl := hI.loc t
  have keep : ∀ w : WSt, wrunFrom w [] = some { w with st := upd w.st t (w.st t) } := fun w => by rw [upd_self]; rfl
  generalize hp : s.pc t = p at hs hl
  cases hs with
  | @invPush v =>
    refine hI.thread hp (hI.glob.alloc v) (Ext.alloc s.toHeap v) (PrivInv.alloc hI rfl)
      (show s.nalloc < s.nalloc + 1 from Nat.lt_succ_self _) fun w hq hTt =>
      ⟨w.q, .pend (.push v) false, wrunFrom_one (.inv hTt), hq.trans (absQ_alloc hI.glob v).symm, ?_⟩
    show _ = TSt.pend (.push (upd s.val s.nalloc v s.nalloc)) false
    rw [upd_same]
  | invPop =>
    exact hI.quiet hI.glob (Ext.refl _) rfl rfl hp trivial nofun fun w _ hTt =>
      ⟨.pend .pop false, wrunFrom_one (.inv hTt), false, rfl⟩
  | loc hs =>
    obtain ⟨hL, hT⟩ := hs.sound hI.glob hl
    exact hI.quiet hI.glob (Ext.refl _) rfl rfl hp hL hs.priv fun w _ hTt => ⟨_, keep w, hT _ hTt⟩
  | @link n tl hn =>
    -- linearisation point of Push: the replay appends `s.val n` to the abstract queue
    have hpt : priv (s.pc t) = some n := by rw [hp]; rfl
    have e := Ext.link_node s.toHeap (n := n) hn
    exact hI.thread hp (hI.glob.link_node hl.2 hn (hI.privs.notin t n hpt) hl.1) e (hI.privs.link hpt rfl)
      ⟨hl.1, hl.2.ext e, upd_same _ _ _⟩ fun w hq hTt => ⟨w.q ++ [s.val n], .done (.push (s.val n)) .ack,
        wrunFrom_one (.lin hTt rfl nofun), hq ▸ (absQ_link _ hI.glob tl n).symm, rfl⟩
  | @p4h n tl x =>
    exact hI.swing hl.2.2 hp (show Local s.toHeap (.p1 n) from hl.1) (fun _ h => h) fun w _ hTt => ⟨_, keep w, hTt⟩
  | @p5 n tl =>
    exact hI.swing hl.2.2 hp trivial nofun fun w _ hTt => ⟨.idle, wrunFrom_one (.ret hTt), rfl⟩
  | @obs hd tl hn =>
    -- a node without successor is the last one: `hd = tl` and the abstract queue is empty
    obtain ⟨i, j, hij, hi, hj, hx, hy⟩ := id hl
    have heq : hd = tl := by
      obtain ⟨h1, _⟩ := hI.glob.last_of_next_none (Nat.le_trans hij hj) hx hn
      have : i = j := by omega
      subst this
      exact Option.some.inj (hx.symm.trans hy)
    exact hI.quiet hI.glob (Ext.refl _) rfl rfl hp ⟨hl, nofun, fun _ => heq⟩ nofun fun w hq ⟨b, hb⟩ =>
      ⟨.pend .pop true, wrunFrom_one (.obs hb (hq.trans (absQ_nil_of_last hI.glob hi hx hn))), true, rfl, fun _ => rfl⟩
  | @empty hd tl _ _ =>
    exact hI.quiet hI.glob (Ext.refl _) rfl rfl hp trivial nofun fun w _ ⟨b, hb, hb2⟩ =>
      ⟨.idle, wrunFrom_one (.retNil (hb2 rfl ▸ hb)), rfl⟩
  | @d5h hd tl x =>
    exact hI.swing hl.2 hp (show Local s.toHeap .d1 from trivial) nofun fun w _ hTt => ⟨_, keep w, hTt⟩
  | @take hd x v hhd =>
    -- linearisation point of Pop: the head was not moved since `d1`, so `x` is the front of the queue
    obtain ⟨⟨i, hit, hih, hx⟩, hn, hv⟩ := hl
    subst hhd
    have hi : i = s.hi := hI.glob.nodup.idx_eq hx hI.glob.hd
    subst hi
    refine hI.thread (p' := .idle) hp (hI.glob.adv_head hn hit) (Ext.adv_head s.toHeap x)
      (hI.privs.same_chain rfl nofun) trivial fun ⟨q, st⟩ hq ⟨b, hb⟩ => ?_
    rw [absQ_adv_head hI.glob hn, ← hv] at hq
    cases hq
    refine ⟨_, .idle, ?_, rfl, rfl⟩
    rw [← upd_idem st t (.done .pop (.val (some v))) .idle]
    exact wrunFrom_two (.lin hb rfl nofun) (.ret (upd_same ..))

theorem Step.inv {s s' : State} {a : Act} (hI : Inv s) (h : Step s a s') : Inv s' := by
  cases h with
  | skip => exact hI
  | move hs => exact hs.inv hI

theorem inv_step {s : State} (hI : Inv s) (a : Act) : Inv (step s a) := (step_spec s a).inv hI

theorem inv_init : Inv init := by
  refine ⟨⟨?_, ?_, ?_, ?_, rfl, rfl, Nat.le_refl _, by decide⟩, ⟨?_, ?_⟩, fun _ => trivial, ⟨WSt.init, rfl, rfl, fun _ => rfl⟩⟩
  · show [0].Nodup; simp
  · intro x hx
    have : x = 0 := by simpa [init] using hx
    subst this; show 0 < 1; decide
  · intro i x hx
    show (none : Option Nat) = _
    symm
    apply List.getElem?_eq_none
    show [0].length ≤ i + 1
    simp
  · intro x _; rfl
  · intro t n h; cases h
  · intro t t' n _ h; cases h

theorem inv_run {s : State} (hI : Inv s) (acts : List Act) : Inv (run s acts) :=
  Got.Lemmas.Lts.foldl_inv (P := Inv) (fun _ a h => inv_step h a) acts hI

theorem inv_reachable (acts : List Act) : Inv (run init acts) := inv_run inv_init acts

end Got.Model.MSQueue
