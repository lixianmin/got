import Got.Lemmas.WaitClose
import Got.Lemmas.DisciplineProtos
import Got.Lemmas.DisciplineOnce
/-
C18 for loom.WaitClose from the fine-grained LTS: every execution's `closeChan` trace and `state` trace
(Got/Model/WaitCloseEvents.lean) is accepted by the discipline monitor, hence race free (`accepts_raceFree`).
`closeChan` is a location written once (`need`, one triple per `Move` by the rules of DisciplineOnce); the `state` trace is
protocol C.
-/

namespace Got.Lemmas.DiscWaitClose
open Got.Model.WaitClose Got.Model.WaitCloseEvents Got.Model.Discipline Got.Lemmas.Discipline

/-- about to read `closeChan` outside the mutex -/
def isReader (p : Pc) : Prop := p = .cRead ∨ ∃ T, p = .wTimer T

/-- `closeChan` is written at most once, inside the mutex, before any read (`pre` is `Fresh m` written out: no access so
    far); afterwards every reader is ordered after the write, by the mutex hand-over (`holder`, `free`) or by an
    acquiring load of `state` that follows a releasing store made after the write (`pub`, `rdr`) -/
structure ChInv (s : St) (m : Mon) : Prop where
  pre : s.closeChan = none → ∀ t, m.wcur t = true ∧ m.acur t = true
  holder : s.closeChan.isSome = true → ∀ h, s.mu = some h → m.wcur h = true
  free : s.closeChan.isSome = true → s.mu = none → m.carW muObj = true
  pub : s.closeChan.isSome = true → s.state ≠ wcNew → m.carW stateObj = true
  rdr : s.closeChan.isSome = true → ∀ t, isReader (s.pc t) → m.wcur t = true

theorem isSome_or_none (o : Option Nat) : o = none ∨ o.isSome = true := by cases o <;> simp

/-- `ChInv` as the demand of a location written once (`chInv_iff`): the holder of the mutex and the readers must be ordered
    after the write; the mutex while it is free, and `state` once it is not new, must carry it -/
def need (s : St) : Once :=
  ⟨s.closeChan.isSome = true, fun u => s.mu = some u ∨ isReader (s.pc u),
   fun a => a = muObj ∧ s.mu = none ∨ a = stateObj ∧ s.state ≠ wcNew⟩

theorem chInv_iff {s : St} {m : Mon} : ChInv s m ↔ (need s).Met m :=
  ⟨fun h => ⟨fun hw => h.pre ((isSome_or_none _).resolve_right hw), fun w u hu => hu.elim (h.holder w u) (h.rdr w u),
     fun w a ha => ha.elim (fun e => e.1 ▸ h.free w e.2) fun e => e.1 ▸ h.pub w e.2⟩,
   fun h => ⟨fun hn => h.pre (fun w : s.closeChan.isSome = true => by rw [hn] at w; cases w), fun w u hu => h.thr w u (.inl hu),
     fun w hm => h.obj w _ (.inl ⟨rfl, hm⟩), fun w hs => h.obj w _ (.inr ⟨rfl, hs⟩), fun w u hu => h.thr w u (.inr hu)⟩⟩

theorem rdr_upd {s : St} {Q : Nat → Prop} (t : Nat) (v : Pc) (hv : isReader v → Q t) (h : ∀ u, isReader (s.pc u) → Q u) :
    ∀ u, isReader (upd s.pc t v u) → Q u :=
  upd_forall (P := fun u p => isReader p → Q u) hv fun u _ => h u

/-- `need` reads none of `now`, `closed`, `sel`, `log`, `closeTime` -/
theorem sim_pc {s : St} {q : Once} {now : Nat} {closed sel : List Nat} {log : List Model.WaitClose.Ev} {ct : Option Nat}
    (t : Nat) (v : Pc) (hW : s.closeChan.isSome = true ↔ q.W) (hK : ∀ u, (need s).K u → q.K u)
    (hC : ∀ a, (need s).C a → q.C a) (hv : isReader v → q.K t) :
    q.Sim [] (need { s with now := now, closed := closed, pc := upd s.pc t v, sel := sel, log := log, closeTime := ct }) :=
  .nil hW (fun _ u hu => hu.elim (fun e => hK u (.inl e)) (rdr_upd t v hv (fun u r => hK u (.inr r)) u)) fun _ => hC

/-- `isReader` as a function, so that `¬ isReader v` is `nr v rfl` for a concrete `v` -/
def reads : Pc → Bool
  | .cRead | .wTimer _ => true
  | _ => false

theorem nr (v : Pc) (h : reads v = false) : ¬ isReader v := by
  rintro (rfl | ⟨T, rfl⟩) <;> cases h

theorem nr_after {v : Pc} (hv : v = .clCbStart ∨ v = .clStore none) : ¬ isReader v := by
  rcases hv with rfl | rfl <;> exact nr _ rfl

theorem sim_lock {s : St} (t : Nat) (v : Pc) (hv : ¬ isReader v) (hmu : s.mu = none) :
    (need s).Sim [.acq t muObj] (need { s with mu := some t, pc := upd s.pc t v }) :=
  .acq t muObj (.nil .rfl (fun _ u hu => hu.elim (fun e => .inr ⟨(Option.some.inj e).symm, .inl ⟨rfl, hmu⟩⟩)
      (rdr_upd t v (fun r => absurd r hv) (fun _ r => .inl (.inr r)) u))
    fun _ _ ha => ha.elim (fun e => nomatch e.2) .inr)

/-- no `¬ isReader v` is asked: the holder may go on to read, being ordered after the write -/
theorem sim_unlock {s : St} (t : Nat) (v : Pc) (hmu : s.mu = some t) :
    (need s).Sim [.rel t muObj] (need { s with mu := none, pc := upd s.pc t v }) :=
  .rel t muObj (.nil .rfl (fun _ u hu => hu.elim nofun (rdr_upd t v (fun _ => .inl hmu) (fun _ r => .inr r) u))
    fun _ _ ha => ha.elim (fun e => .inr ⟨e.1, .inl hmu⟩) fun e => .inl (.inr e))

theorem sim_store {s : St} (t : Nat) (v : Pc) (hv : ¬ isReader v) (st : Int) (hmu : s.mu = some t) :
    (need s).Sim [.rel t stateObj] (need { s with state := st, pc := upd s.pc t v }) :=
  .rel t stateObj (.nil .rfl (fun _ u hu => hu.elim .inl (rdr_upd t v (fun r => absurd r hv) (fun _ r => .inr r) u))
    fun _ _ ha => ha.elim (fun e => .inl (.inl e)) fun e => .inr ⟨e.1, .inl hmu⟩)

/-- the write happens while `closeChan` is nil, so nobody is about to read it -/
theorem sim_write {s : St} {nchan : Nat} {log : List Model.WaitClose.Ev} {ct : Option Nat} (hA : InvA s) (t : Nat) (v : Pc)
    (c : Nat) (hv : ¬ isReader v) (hcn : s.closeChan = none) (hmu : s.mu = some t) (hnew : s.state = wcNew) :
    (need s).Sim [.wr t]
      (need { s with closeChan := some c, nchan := nchan, pc := upd s.pc t v, log := log, closeTime := ct }) := by
  have nord : ∀ u, isReader (s.pc u) → u = t := fun u r => by
    have : s.closeChan.isSome = true := by rcases r with x | ⟨T, x⟩ <;> exact hA.facts x
    rw [hcn] at this; cases this
  exact .wr t (fun w : s.closeChan.isSome = true => by rw [hcn] at w; cases w) (.nil ⟨fun _ => trivial, fun _ => rfl⟩
    (fun _ u hu => hu.elim (fun e => Option.some.inj (e.symm.trans hmu)) (rdr_upd t v (fun r => absurd r hv) nord u))
    fun _ _ ha => ha.elim (fun e => nomatch hmu.symm.trans e.2) fun e => absurd hnew e.2)

theorem ch_move {s s' : St} {t : Nat} {a : Acc} (mv : Move s t a s') (hA : InvA s) : (need s).Sim (a.ch t) (need s') := by
  have quiet : ∀ {now closed sel log ct} (v : Pc), ¬ isReader v → (need s).Sim []
      (need { s with now := now, closed := closed, pc := upd s.pc t v, sel := sel, log := log, closeTime := ct }) :=
    fun v hv => sim_pc t v .rfl (fun _ h => h) (fun _ h => h) fun r => absurd r hv
  have load : ∀ {now closed sel log ct} (v : Pc), (isReader v → s.state ≠ wcNew) → (need s).Sim [.acq t stateObj]
      (need { s with now := now, closed := closed, pc := upd s.pc t v, sel := sel, log := log, closeTime := ct }) :=
    fun v hv => .acq t _ (sim_pc t v .rfl (fun _ h => .inl h) (fun _ h => h) fun r => .inr ⟨rfl, .inr ⟨rfl, hv r⟩⟩)
  have read : ∀ {now closed sel log ct} (v : Pc), ¬ isReader v → s.closeChan.isSome = true →
      (s.mu = some t ∨ isReader (s.pc t)) → (need s).Sim [.rd t]
      (need { s with now := now, closed := closed, pc := upd s.pc t v, sel := sel, log := log, closeTime := ct }) :=
    fun v hv hs hk => .rd t hs hk (quiet v hv)
  cases mv with
  | stay | tick => exact .refl _
  | cbStart hpc | cbEnd _ hpc => exact quiet _ (nr _ rfl)
  | jump a p v hpc j =>
    cases j with
    | c | waitUtil | isClosed | close | iCheckNew | iCheckOld | clCheckOpen | clCheckClosed =>
      exact quiet _ (nr _ rfl)
    | load0New | clLoadOpen | clLoadClosed => exact load _ (fun r => absurd r (nr _ rfl))
    | load0OldC hne | load0OldWu _ hne =>
      -- `state` is not new: its store released the write, this load acquires it
      exact load _ (fun _ => hne)
  | ret a p e sel hpc r _ =>
    cases r with
    | c => exact read _ (nr _ rfl) (hA.facts hpc) (.inr (hpc ▸ .inl rfl))
    | isc => exact load _ (fun r => absurd r (nr _ rfl))
    | _ => exact quiet _ (nr _ rfl)
  | timer T hpc => exact read _ (nr _ rfl) (hA.facts hpc) (.inr (hpc ▸ .inr ⟨T, rfl⟩))
  | close cb c v hpc hst hc _ hv => exact read _ (nr_after hv) (by rw [hc]; rfl) (.inl (hA.held hpc rfl))
  | closeFault cb hpc hst hc => exact (close_ok hA hpc hst hc).elim
  | lockInit _ _ hmu | lockClose _ _ hmu => exact sim_lock t _ (nr _ rfl) hmu
  | make k hpc =>
    have hf := hA.facts hpc
    exact sim_write hA t _ _ (nr _ rfl) hf.2 (hA.held hpc rfl) hf.1
  | closeGlobal cb v hpc hst hv =>
    obtain ⟨hnew, hcn⟩ := close_new hA hpc hst
    exact sim_write hA t _ _ (nr_after hv) hcn (hA.held hpc rfl) hnew
  | istore k hpc | clstore r hpc => exact sim_store t _ (nr _ rfl) _ (hA.held hpc rfl)
  | unlockInit k hpc | unlockClose r hpc => exact sim_unlock t _ (hA.held hpc rfl)

theorem ch_step {s : St} (hA : InvA s) (a : Act) : (need s).Sim (chEv true s a) (need (step s a)) := by
  obtain ⟨t, l, mv, e, _⟩ := step_move s a
  rw [e]; exact ch_move mv hA

theorem closeChan_accepted (acts : List Act) : accepts (closeChanEvents init acts) = true :=
  (run_once (tr := closeChanEventsG true) (fun _ => rfl) (fun _ _ _ => rfl) step_invA need (fun _ a h => ch_step h a)
    acts init Mon.init init_invA (Once.met_init nofun)).elim fun _ => accepts_of_run

/-- every plain read and every atomic write of `state` happens inside the mutex: each move is a step of Protocol C (`mu_step`) -/
theorem st_move {s s' : St} {t : Nat} {a : Acc} {m : Mon} (mv : Move s t a s') (hA : InvA s) (h : MuInv ⟨s.mu⟩ m) :
    ∃ m', m.run (a.st t) = some m' ∧ MuInv ⟨s'.mu⟩ m' := by
  cases mv with
  | lockInit _ _ hmu | lockClose _ _ hmu => exact mu_step (s := ⟨s.mu⟩) (a := .lock t) h (if_pos hmu)
  | unlockInit _ hpc | unlockClose _ hpc => exact mu_step (s := ⟨s.mu⟩) (a := .unlock t) h (if_pos (hA.held hpc rfl))
  | istore _ hpc | clstore _ hpc => exact mu_step (s := ⟨s.mu⟩) (a := .write t) h (if_pos (hA.held hpc rfl))
  | close _ _ _ hpc | closeFault _ hpc | closeGlobal _ _ hpc =>
    exact mu_step (s := ⟨s.mu⟩) (a := .read t) h (if_pos (hA.held hpc rfl))
  | jump a p v hpc j =>
    cases j with
    | iCheckNew | iCheckOld | clCheckOpen | clCheckClosed =>
      exact mu_step (s := ⟨s.mu⟩) (a := .read t) h (if_pos (hA.held hpc rfl))
    | _ => exact ⟨m, rfl, h⟩
  | ret a p e sel hpc r => cases r <;> exact ⟨m, rfl, h⟩
  | _ => exact ⟨m, rfl, h⟩

theorem st_step (s : St) (m : Mon) (a : Act) (h : InvA s ∧ MuInv ⟨s.mu⟩ m) :
    ∃ m', m.run (stEv false s a) = some m' ∧ InvA (step s a) ∧ MuInv ⟨(step s a).mu⟩ m' := by
  obtain ⟨t, l, mv, _, e⟩ := step_move s a
  rw [e]; exact (st_move mv h.1 h.2).imp fun _ h' => ⟨h'.1, mv.invA h.1, h'.2⟩

/-- The plain reads of `state` (all inside the mutex) against its atomic writes (all inside the mutex): accepted. -/
theorem state_accepted (acts : List Act) : accepts (stateEvents init acts) = true := by
  obtain ⟨m, h⟩ := run_sim (tr := stateEventsG false) (I := fun s m => InvA s ∧ MuInv ⟨s.mu⟩ m) (fun _ => rfl)
    (fun _ _ _ => rfl) st_step acts init Mon.init ⟨init_invA, mu_init⟩
  exact accepts_of_run h

/-- goroutine 1 runs C() (lazy init: atomic load of `state`, lock, check, make, store, unlock, read); goroutine 2 then runs
    C() on the fast path. The run of the negative controls `C18_waitclose_controls` (Props/C18.lean). -/
def ctlActs : List Act :=
  [.invoke 1 .c, .step 1, .step 1, .step 1, .step 1, .step 1, .step 1, .step 1,
   .invoke 2 .c, .step 2, .step 2]

/-- with the code as it is, the traces of that execution are accepted -/
theorem ctl_closeChan_ok : accepts (closeChanEventsG true init ctlActs) = true := by decide

theorem ctl_state_ok : accepts (stateEventsG false init ctlActs) = true := by decide

end Got.Lemmas.DiscWaitClose
