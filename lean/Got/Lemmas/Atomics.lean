import Got.Lemmas.Lts
import Got.Spec.Atomics
/-
The inductive invariants of the three models of Got/Model/Atomics.lean (C17).

Bit reasoning: every fact the mutex invariant needs concerns the three low bits of the state word
(locked / woken / starving).  `lo w = w.setWidth 3` commutes with `+ - ||| &&& ~~~`, and tests of the
form `w &&& c != 0` with `c < 8` only look at `lo w`; after rewriting, a goal is a closed statement
`∀ x : BitVec 3, …` that `decide` checks in the kernel.  What one operation of the sync.Mutex code does to the locked and
the starving bit is one such statement; `lockSlowNew` is four operations in sequence (`lockSlowNew_flags`).
-/

namespace Got.Lemmas.Atomics
open Got.Model.Atomics Got.Spec.Atomics

def lo (w : Word) : BitVec 3 := w.setWidth 3

theorem lo_add (a b : Word) : lo (a + b) = lo a + lo b := BitVec.setWidth_add a b (by decide)
theorem lo_or (a b : Word) : lo (a ||| b) = lo a ||| lo b := BitVec.setWidth_or
theorem lo_and (a b : Word) : lo (a &&& b) = lo a &&& lo b := BitVec.setWidth_and
theorem lo_not (a : Word) : lo (~~~a) = ~~~(lo a) := by simp [lo, BitVec.setWidth_not]
theorem lo_sub (a b : Word) : lo (a - b) = lo a - lo b := by
  rw [BitVec.sub_eq_add_neg, BitVec.neg_eq_not_add, lo_add, lo_add, lo_not, BitVec.sub_eq_add_neg,
    BitVec.neg_eq_not_add]
  rfl
theorem lo_ofNat (n : Nat) : lo (BitVec.ofNat 32 n) = BitVec.ofNat 3 n := BitVec.setWidth_ofNat_of_le (by decide) n

theorem lo_inj {x d : Word} (hx : x.toNat < 8) (hd : d.toNat < 8) (h : lo x = lo d) : x = d := by
  apply BitVec.eq_of_toNat_eq
  have := congrArg BitVec.toNat h
  simp only [lo, BitVec.toNat_setWidth] at this
  omega

theorem and_beq_lo (w c d : Word) (hc : c.toNat < 8) (hd : d.toNat < 8) :
    (w &&& c == d) = (lo w &&& lo c == lo d) := by
  have hx : (w &&& c).toNat < 8 := by
    rw [BitVec.toNat_and]; exact Nat.lt_of_le_of_lt Nat.and_le_right hc
  rw [← lo_and, Bool.eq_iff_iff, beq_iff_eq, beq_iff_eq]
  exact ⟨congrArg lo, lo_inj hx hd⟩

theorem mLocked_eq : mLocked = 1#32 := by decide
theorem mWoken_eq : mWoken = 2#32 := by decide
theorem mStarving_eq : mStarving = 4#32 := by decide
theorem mShift_eq : mShift = 3 := by decide
theorem mOneWaiter_eq : mOneWaiter = 8#32 := by decide

/-- rewrite a goal about the flag bits of 32-bit words into one about their 3 low bits; the side conditions of
    `and_beq_lo` (mask and comparand below 8) are closed literals -/
macro "lo_norm" : tactic => `(tactic|
  simp (disch := decide) only [isLocked, isStarving, isWoken, bne, mLocked_eq, mWoken_eq, mStarving_eq, mOneWaiter_eq,
    and_beq_lo, apply_ite lo, lo_add, lo_sub, lo_or, lo_and, lo_not, lo_ofNat] at *)

/-- finish: generalise `lo w` and decide over its 8 values -/
macro "lo_decide" w:term : tactic => `(tactic| (lo_norm; generalize lo $w = x at *; revert x; decide))

theorem zero_flags : isLocked 0 = false ∧ isStarving 0 = false := by decide
theorem locked_flags : isLocked mLocked = true := by decide

/-- `state & mutexLocked`, the summand of Count -/
theorem and_mLocked (w : Word) : w &&& mLocked = if isLocked w then 1#32 else 0#32 := by
  apply lo_inj (by rw [BitVec.toNat_and]; exact Nat.lt_of_le_of_lt Nat.and_le_right (by decide)) (by split <;> decide)
  lo_decide w

/-- TryLock's second CAS -/
theorem tryCas2_flags (w : Word) (h : (w &&& (mLocked ||| mStarving ||| mWoken) != 0) = false) :
    isLocked w = false ∧ isStarving w = false ∧ isLocked (w ||| mLocked) = true := by
  lo_decide w

/-- Unlock's AddInt32(-mutexLocked) on a locked word -/
theorem sub_locked (w : Word) (h : isLocked w = true) : isLocked (w - mLocked) = false := by
  lo_decide w

theorem or_woken (w : Word) :
    isLocked (w ||| mWoken) = isLocked w ∧ isStarving (w ||| mWoken) = isStarving w := by
  lo_decide w

theorem clear_woken (w : Word) :
    isLocked (w &&& ~~~mWoken) = isLocked w ∧ isStarving (w &&& ~~~mWoken) = isStarving w := by
  lo_decide w

theorem or_mLocked (w : Word) : isLocked (w ||| mLocked) = true ∧ isStarving (w ||| mLocked) = isStarving w := by
  lo_decide w

theorem or_mStarving (w : Word) : isLocked (w ||| mStarving) = isLocked w ∧ isStarving (w ||| mStarving) = true := by
  lo_decide w

theorem add_waiter (w : Word) :
    isLocked (w + mOneWaiter) = isLocked w ∧ isStarving (w + mOneWaiter) = isStarving w := by
  lo_decide w

/-- unlockSlow's CAS -/
theorem wake_flags (w : Word) (h : (w &&& (mLocked ||| mWoken ||| mStarving) != 0) = false) :
    isLocked ((w - mOneWaiter) ||| mWoken) = isLocked w ∧ isStarving w = false := by
  lo_decide w

theorem lockSlowNew_flags (old : Word) (awoke starving : Bool) :
    isLocked (lockSlowNew old awoke starving) = (isLocked old || !isStarving old) ∧
    isStarving (lockSlowNew old awoke starving) = (isStarving old || (starving && isLocked old)) := by
  have e1 : (old &&& mStarving == 0) = !isStarving old := by simp [isStarving, bne]
  have e2 : (old &&& mLocked != 0) = isLocked old := rfl
  unfold lockSlowNew
  -- none of the four operations touches a flag it does not name, so only the guards of `||| mLocked` and `||| mStarving` remain
  simp only [e1, e2, apply_ite isLocked, apply_ite isStarving, or_mLocked, add_waiter, or_mStarving, clear_woken, ite_self]
  cases isLocked old <;> cases isStarving old <;> cases starving <;> simp

/-- lockSlow's test `old&(mutexLocked|mutexStarving) == 0` -/
theorem free_eq (w : Word) : (w &&& (mLocked ||| mStarving) == 0) = (!isLocked w && !isStarving w) := by
  lo_decide w

/-- the starvation hand-off `AddInt32(delta)`, whichever `delta` the waiter count selects -/
theorem handoff_flags (old : Word) (starving : Bool)
    (hs : (old &&& mStarving != 0) = true) (hl : isLocked old = false) :
    isLocked (old + handoffDelta old starving) = true := by
  unfold handoffDelta
  generalize (!starving || waitersBV old == 1) = b
  revert b
  lo_decide old

def mask7 : Word := mLocked ||| mStarving ||| mWoken

structure MInv (s : MSt) : Prop where
  locked_iff : isLocked s.word = !s.holders.isEmpty
  le_one : s.holders.length ≤ 1
  handoff : s.handoff = true → isStarving s.word = true ∧ isLocked s.word = false
  cas2 : ∀ t old, s.pc t = .cas2 old → (old &&& (mLocked ||| mStarving ||| mWoken) != 0) = false

@[simp] theorem upd_same {α} (f : Nat → α) (t : Nat) (v : α) : upd f t v t = v := by simp [upd]
theorem upd_other {α} {f : Nat → α} {t u : Nat} {v : α} (h : u ≠ t) : upd f t v u = f u := by simp [upd, h]

theorem of_upd_eq {α} {f : Nat → α} {t u : Nat} {v x : α} (h : upd f t v u = x) : (u = t ∧ v = x) ∨ f u = x := by
  by_cases e : u = t
  · subst e; rw [upd_same] at h; exact Or.inl ⟨rfl, h⟩
  · rw [upd_other e] at h; exact Or.inr h

theorem holders_nil_of_unlocked {s : MSt} (h : MInv s) (hl : isLocked s.word = false) : s.holders = [] := by
  have := h.locked_iff
  rw [hl] at this
  cases hh : s.holders with
  | nil => rfl
  | cons a l => rw [hh] at this; simp at this

theorem holders_of_mem {s : MSt} (h : MInv s) {t : Nat} (hm : t ∈ s.holders) :
    s.holders = [t] ∧ isLocked s.word = true := by
  have h1 := h.le_one
  have h2 := h.locked_iff
  rcases hs : s.holders with _ | ⟨a, _ | ⟨b, l⟩⟩ <;> simp_all

theorem handoff_false_of {s : MSt} (h : MInv s) (hs : isStarving s.word = false ∨ isLocked s.word = true) :
    s.handoff = false := by
  cases hh : s.handoff with
  | false => rfl
  | true =>
    have := h.handoff hh
    rcases hs with hs | hs <;> simp_all

theorem pc_inv {s : MSt} (h : MInv s) (t : Nat) (v : TPc) (res' : Nat → Option Bool)
    (hv : ∀ old, v = .cas2 old → (old &&& (mLocked ||| mStarving ||| mWoken) != 0) = false) :
    MInv { s with pc := upd s.pc t v, res := res' } :=
  ⟨h.locked_iff, h.le_one, h.handoff, fun u old hu => (of_upd_eq hu).elim (fun e => hv old e.2) (h.cas2 u old)⟩

theorem word_inv {s : MSt} (h : MInv s) (w' : Word) (hl : isLocked w' = isLocked s.word)
    (hs : isStarving s.word = true → isStarving w' = true) : MInv { s with word := w' } :=
  ⟨hl ▸ h.locked_iff, h.le_one, fun hx => ⟨hs (h.handoff hx).1, hl ▸ (h.handoff hx).2⟩, h.cas2⟩

theorem acquire_inv {s : MSt} (h : MInv s) (t : Nat) (w' : Word) (ho' : Bool)
    (hl : isLocked s.word = false) (hl' : isLocked w' = true) (ho : ho' = false) :
    MInv { s with word := w', holders := t :: s.holders, handoff := ho' } := by
  have hn := holders_nil_of_unlocked h hl
  refine ⟨?_, ?_, ?_, h.cas2⟩
  · simp [hl']
  · simp [hn]
  · intro hh; rw [ho] at hh; cases hh

/-- What each enabled action does, with the part of its guard that the proofs use: a step stutters or is one of these
    (`stepM_move`), so `MMove.inv` need not unfold `stepM`; likewise `FMove`, `AMove`. -/
inductive MMove (s : MSt) : MAct → MSt → Prop
  | tryStart (t : Nat) : MMove s (.tryStart t) { s with pc := upd s.pc t .cas1 }
  | cas1Win (t : Nat) : s.pc t = .cas1 → s.word = 0 →
      MMove s (.tryCas1 t)
        { s with word := mLocked, holders := t :: s.holders, pc := upd s.pc t .idle, res := upd s.res t (some true) }
  | cas1Fail (t : Nat) : MMove s (.tryCas1 t) { s with pc := upd s.pc t .load }
  | loadRefuse (t : Nat) : MMove s (.tryLoad t) { s with pc := upd s.pc t .idle, res := upd s.res t (some false) }
  | loadPass (t : Nat) : (s.word &&& (mLocked ||| mStarving ||| mWoken) != 0) = false →
      MMove s (.tryLoad t) { s with pc := upd s.pc t (.cas2 s.word) }
  | cas2Win (t : Nat) (old : Word) : s.pc t = .cas2 old → s.word = old →
      MMove s (.tryCas2 t)
        { s with word := old ||| mLocked, holders := t :: s.holders, pc := upd s.pc t .idle,
                 res := upd s.res t (some true) }
  | cas2Fail (t : Nat) : MMove s (.tryCas2 t) { s with pc := upd s.pc t .idle, res := upd s.res t (some false) }
  | unlock (t : Nat) : t ∈ s.holders →
      MMove s (.unlock t)
        { s with word := s.word - mLocked, holders := s.holders.erase t,
                 handoff := s.handoff || (s.word - mLocked &&& mStarving != 0) }
  | lockFast (t : Nat) : s.word = 0 → MMove s (.lockFast t) { s with word := mLocked, holders := t :: s.holders }
  | slowAcquire (t : Nat) (awoke starving : Bool) : (s.word &&& (mLocked ||| mStarving) == 0) = true →
      MMove s (.lockSlowCas t awoke starving)
        { s with word := lockSlowNew s.word awoke starving, holders := t :: s.holders }
  | slowQueue (t : Nat) (awoke starving : Bool) : (s.word &&& (mLocked ||| mStarving) == 0) = false →
      MMove s (.lockSlowCas t awoke starving) { s with word := lockSlowNew s.word awoke starving }
  | spinWoken (t : Nat) : MMove s (.spinWoken t) { s with word := s.word ||| mWoken }
  | wake (t : Nat) : (s.word &&& (mLocked ||| mWoken ||| mStarving) != 0) = false →
      MMove s (.wake t) { s with word := (s.word - mOneWaiter) ||| mWoken }
  | handoffTake (t : Nat) (starving : Bool) : s.handoff = true → (s.word &&& mStarving != 0) = true →
      MMove s (.handoffTake t starving)
        { s with word := s.word + handoffDelta s.word starving, holders := t :: s.holders, handoff := false }

theorem stepM_move (s : MSt) (a : MAct) : stepM s a = s ∨ MMove s a (stepM s a) := by
  cases a <;> simp only [stepM] <;> (repeat' split) <;>
    first | exact Or.inl rfl | exact Or.inr (by constructor <;> first | assumption | simp_all)

theorem MMove.inv {s s' : MSt} {a : MAct} (m : MMove s a s') (h : MInv s) : MInv s' := by
  cases m with
  | tryStart t | cas1Fail t | loadRefuse t | cas2Fail t => exact pc_inv h t _ _ nofun
  | cas1Win t _ hw =>
    exact pc_inv (acquire_inv h t _ _ (hw ▸ zero_flags.1) locked_flags
      (handoff_false_of h (Or.inl (hw ▸ zero_flags.2)))) t _ _ nofun
  | loadPass t hm => exact pc_inv h t _ _ (fun old e => by cases e; exact hm)
  | cas2Win t old hpc hw =>
    have hf := tryCas2_flags old (h.cas2 t old hpc)
    exact pc_inv (acquire_inv h t _ _ (hw ▸ hf.1) hf.2.2 (handoff_false_of h (Or.inl (hw ▸ hf.2.1)))) t _ _ nofun
  | unlock t hmem =>
    obtain ⟨hone, hl⟩ := holders_of_mem h hmem
    have hf := sub_locked s.word hl
    have hh : s.handoff = false := handoff_false_of h (Or.inr hl)
    refine ⟨?_, ?_, ?_, h.cas2⟩
    · simp [hone, hf]
    · simp [hone]
    · intro hx
      simp only [hh, Bool.false_or] at hx
      exact ⟨by simpa [isStarving] using hx, hf⟩
  | lockFast t hw =>
    exact acquire_inv h t _ _ (hw ▸ zero_flags.1) locked_flags (handoff_false_of h (Or.inl (hw ▸ zero_flags.2)))
  | slowAcquire t awoke starving hz =>
    rw [free_eq] at hz
    obtain ⟨hl, hs⟩ : isLocked s.word = false ∧ isStarving s.word = false := by simpa using hz
    have hf := lockSlowNew_flags s.word awoke starving
    exact acquire_inv h t _ _ hl (by rw [hf.1, hs]; simp) (handoff_false_of h (Or.inl hs))
  | slowQueue t awoke starving hz =>
    -- queued: the word is locked or starving, so lockSlowNew's `||| mLocked` is not applied or changes nothing
    rw [free_eq] at hz
    have hf := lockSlowNew_flags s.word awoke starving
    refine word_inv h _ ?_ (fun hs => by rw [hf.2, hs]; rfl)
    rw [hf.1]
    cases hl : isLocked s.word <;> simp_all
  | spinWoken t =>
    have hf := or_woken s.word
    exact word_inv h _ hf.1 (fun hs => hf.2.trans hs)
  | wake t hg =>
    have hf := wake_flags s.word hg
    exact word_inv h _ hf.1 (fun hs => by rw [hf.2] at hs; cases hs)
  | handoffTake t starving hh hs =>
    have hi := h.handoff hh
    exact acquire_inv h t _ _ hi.2 (handoff_flags s.word starving hs hi.2) rfl

theorem stepM_inv (s : MSt) (a : MAct) (h : MInv s) : MInv (stepM s a) :=
  (stepM_move s a).elim (fun e => e.symm ▸ h) fun m => m.inv h

theorem runM_inv (s : MSt) (acts : List MAct) (h : MInv s) : MInv (runM s acts) :=
  Lts.foldl_inv_of (P := MInv) stepM_move MMove.inv acts h

theorem initM_inv (w : Word) (hl : isLocked w = false) : MInv (initM w) :=
  ⟨by simp [initM, hl], by simp [initM], by intro h; simp [initM] at h, by intro t old h; simp [initM] at h⟩

def foldOps (v0 : W64) (log : List (Nat × FOp)) : W64 := log.foldl (fun v e => e.2.apply v) v0

def countBy (t : Nat) (log : List (Nat × FOp)) : Nat := (log.filter (fun e => e.1 == t)).length

theorem foldOps_append (v0 : W64) (l : List (Nat × FOp)) (e : Nat × FOp) :
    foldOps v0 (l ++ [e]) = e.2.apply (foldOps v0 l) := by
  simp [foldOps, List.foldl_append]

theorem countBy_append (t : Nat) (l : List (Nat × FOp)) (e : Nat × FOp) :
    countBy t (l ++ [e]) = countBy t l + (if e.1 = t then 1 else 0) := by
  simp only [countBy, List.filter_append, List.length_append, List.filter_cons, List.filter_nil]
  by_cases h : e.1 = t <;> simp [h]

structure FInv (v0 : W64) (s : FSt) : Prop where
  val_eq : s.val = foldOps v0 s.log
  once : ∀ t, countBy t s.log + (if s.pc t = .idle then 0 else 1) = s.calls t

theorem initF_inv (v0 : W64) : FInv v0 (initF v0) :=
  ⟨by simp [initF, foldOps], by intro t; simp [initF, countBy]⟩

theorem pending_inv {v0 : W64} {s : FSt} (h : FInv v0 s) (t : Nat) (v : FPc) (hpc : s.pc t ≠ .idle)
    (hv : v ≠ .idle) : FInv v0 { s with pc := upd s.pc t v } := by
  refine ⟨h.val_eq, fun u => ?_⟩
  have := h.once u
  by_cases e : u = t
  · subst e; simpa [upd_same, hpc, hv] using this
  · simpa [upd_other e] using this

inductive FMove (s : FSt) : FAct → FSt → Prop
  | invoke (t : Nat) (op : FOp) : s.pc t = .idle →
      FMove s (.invoke t op) { s with pc := upd s.pc t (.load op), calls := upd s.calls t (s.calls t + 1) }
  | load (t : Nat) (op : FOp) : s.pc t = .load op → FMove s (.load t) { s with pc := upd s.pc t (.cas op s.val) }
  | casWin (t : Nat) (op : FOp) : s.pc t = .cas op s.val →
      FMove s (.cas t) { s with val := op.apply s.val, pc := upd s.pc t .idle, log := s.log ++ [(t, op)] }
  | casFail (t : Nat) (op : FOp) (last : W64) : s.pc t = .cas op last →
      FMove s (.cas t) { s with pc := upd s.pc t (.load op) }

theorem stepF_move (s : FSt) (a : FAct) : stepF s a = s ∨ FMove s a (stepF s a) := by
  cases a <;> simp only [stepF] <;> (repeat' split) <;>
    first | exact Or.inl rfl | exact Or.inr (by subst_vars; constructor; assumption)

theorem FMove.inv {v0 : W64} {s s' : FSt} {a : FAct} (m : FMove s a s') (h : FInv v0 s) : FInv v0 s' := by
  cases m with
  | invoke t op hpc =>
    refine ⟨h.val_eq, fun u => ?_⟩
    have := h.once u
    by_cases e : u = t
    · subst e; simp only [upd_same]; rw [hpc] at this; simp at this ⊢; omega
    · simp only [upd_other e]; exact this
  | load t op hpc | casFail t op _ hpc => exact pending_inv h t _ (by rw [hpc]; nofun) nofun
  | casWin t op hpc =>
    refine ⟨?_, fun u => ?_⟩
    · show op.apply s.val = foldOps v0 (s.log ++ [(t, op)])
      rw [foldOps_append, ← h.val_eq]
    · have := h.once u
      show countBy u (s.log ++ [(t, op)]) + _ = _
      rw [countBy_append]
      by_cases e : u = t
      · subst e; simp only [upd_same]; rw [hpc] at this; simp at this ⊢; omega
      · have e' : ¬ t = u := fun x => e x.symm
        simp only [upd_other e, e', if_false]; exact this

theorem runF_inv (v0 : W64) (s : FSt) (acts : List FAct) (h : FInv v0 s) : FInv v0 (runF s acts) :=
  Lts.foldl_inv_of (P := FInv v0) stepF_move FMove.inv acts h

theorem foldOps_adds (v0 : W64) (log : List (Nat × FOp)) (h : ∀ e ∈ log, ∃ f, e.2 = .add f) :
    foldOps v0 log = orFlags v0 log := by
  induction log generalizing v0 with
  | nil => rfl
  | cons e l ih =>
    obtain ⟨f, hf⟩ := h e (by simp)
    simp only [foldOps, orFlags, List.foldl_cons, hf, FOp.apply]
    exact ih _ (fun e' he' => h e' (by simp [he']))

theorem or_and_absorb (f g : W64) : f ||| g &&& f = f := by
  ext i hi
  simp only [BitVec.getElem_or, BitVec.getElem_and]
  cases f[i] <;> cases g[i] <;> rfl

theorem and_or_keep (v f g : W64) (h : v &&& f = f) : (v ||| g) &&& f = f := by
  rw [BitVec.and_or_distrib_right, h, or_and_absorb]

theorem or_and_self (v f : W64) : (v ||| f) &&& f = f := by
  rw [BitVec.and_or_distrib_right, BitVec.and_self, BitVec.or_comm, or_and_absorb]

theorem orFlags_mono (v0 : W64) (log : List (Nat × FOp)) (f : W64) (h : v0 &&& f = f) :
    orFlags v0 log &&& f = f := by
  induction log generalizing v0 with
  | nil => exact h
  | cons e l ih =>
    simp only [orFlags, List.foldl_cons]
    cases e.2 with
    | add g => exact ih _ (and_or_keep v0 f g h)
    | remove g => exact ih _ h

theorem orFlags_contains (v0 : W64) (log : List (Nat × FOp)) (e : Nat × FOp) (f : W64)
    (he : e ∈ log) (hf : e.2 = .add f) : orFlags v0 log &&& f = f := by
  induction log generalizing v0 with
  | nil => cases he
  | cons e' l ih =>
    simp only [orFlags, List.foldl_cons]
    rcases List.mem_cons.mp he with rfl | hmem
    · rw [hf]; exact orFlags_mono _ l f (or_and_self v0 f)
    · exact ih _ hmem

structure AInv (pred : W64 → W64 → Bool) (Inv : W64 → Prop) (v0 : W64) (s : ASt) : Prop where
  inv : Inv s.val
  seen : ∀ t d e, s.pc t = .cas d e → pred d e = true
  sum : s.val = s.added.foldl (· + ·) v0

theorem acas_upd {pc : Nat → APc} {P : W64 → W64 → Prop} (h : ∀ t d e, pc t = .cas d e → P d e)
    (t : Nat) (v : APc) (hv : ∀ d e, v = .cas d e → P d e) :
    ∀ u d e, upd pc t v u = .cas d e → P d e :=
  fun u d e hu => (of_upd_eq hu).elim (fun x => hv d e x.2) (h u d e)

inductive AMove (pred : W64 → W64 → Bool) (s : ASt) : AAct → ASt → Prop
  | invoke (t : Nat) (d : W64) : AMove pred s (.invoke t d) { s with pc := upd s.pc t (.load d) }
  | loadRefuse (t : Nat) : AMove pred s (.load t) { s with pc := upd s.pc t .idle, res := upd s.res t (some false) }
  | loadPass (t : Nat) (d : W64) : pred d s.val = true →
      AMove pred s (.load t) { s with pc := upd s.pc t (.cas d s.val) }
  | casWin (t : Nat) (d : W64) : s.pc t = .cas d s.val →
      AMove pred s (.cas t)
        { s with val := s.val + d, pc := upd s.pc t .idle, res := upd s.res t (some true), added := s.added ++ [d] }
  | casFail (t : Nat) (d : W64) : AMove pred s (.cas t) { s with pc := upd s.pc t (.load d) }

theorem stepA_move (pred : W64 → W64 → Bool) (s : ASt) (a : AAct) : stepA pred s a = s ∨ AMove pred s a (stepA pred s a) := by
  cases a <;> simp only [stepA] <;> (repeat' split) <;>
    first | exact Or.inl rfl | exact Or.inr (by subst_vars; constructor <;> first | assumption | simp_all)

theorem AMove.inv {pred : W64 → W64 → Bool} {Inv : W64 → Prop} (hcl : ∀ d v, pred d v = true → Inv v → Inv (v + d))
    {v0 : W64} {s s' : ASt} {a : AAct} (m : AMove pred s a s') (h : AInv pred Inv v0 s) : AInv pred Inv v0 s' := by
  cases m with
  | invoke t d | loadRefuse t | casFail t d => exact ⟨h.inv, acas_upd h.seen t _ nofun, h.sum⟩
  | loadPass t d hp => exact ⟨h.inv, acas_upd h.seen t _ (fun d' e' x => by cases x; exact hp), h.sum⟩
  | casWin t d hpc =>
    refine ⟨hcl d _ (h.seen t d _ hpc) h.inv, acas_upd h.seen t _ nofun, ?_⟩
    show s.val + d = (s.added ++ [d]).foldl (· + ·) v0
    rw [List.foldl_append, ← h.sum]; rfl

theorem runA_inv (pred : W64 → W64 → Bool) (Inv : W64 → Prop)
    (hcl : ∀ d v, pred d v = true → Inv v → Inv (v + d)) (v0 : W64) (s : ASt) (acts : List AAct)
    (h : AInv pred Inv v0 s) : AInv pred Inv v0 (runA pred s acts) :=
  Lts.foldl_inv_of (P := AInv pred Inv v0) (stepA_move pred) (AMove.inv hcl) acts h

theorem initA_inv (pred : W64 → W64 → Bool) (Inv : W64 → Prop) (v0 : W64) (h0 : Inv v0) :
    AInv pred Inv v0 (initA v0) :=
  ⟨h0, by intro t d e h; simp [initA] at h, by simp [initA]⟩

theorem limitPred_closed (limit : Int) (d v : W64) (hp : limitPred limit d v = true) : (v + d).toInt ≤ limit := by
  simpa [limitPred] using hp

end Got.Lemmas.Atomics
