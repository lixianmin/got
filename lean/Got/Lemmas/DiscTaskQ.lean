import Got.Model.TaskQEvents
import Got.Lemmas.TaskQ
import Got.Lemmas.DisciplineOnce
/-
C18 for taskx (taskCallback.result / err) from the LTS of Got/Model/TaskQ.lean: for every execution (any number of
producers and client goroutines, every interleaving, every position of close) in which the handler of task `k` runs at
most once, the `result/err` trace of `k` (Got/Model/TaskQEvents.lean) is accepted by the publication-discipline
monitor, hence race free (`accepts_raceFree`).
-/

namespace Got.Lemmas.DiscTaskQ
open Got.Model.TaskQ Got.Model.TaskQEvents Got.Model.Discipline Got.Lemmas.Discipline

/-- the monitor after a release, written out (it is `Discipline.relM`) -/
def relM (m : Mon) (t a : Nat) : Mon :=
  { m with carW := fun b => m.carW b || (decide (b = a) && m.wcur t),
           carA := fun b => m.carA b || (decide (b = a) && m.acur t) }

theorem run_nil (m : Mon) : m.run [] = some m := rfl

theorem rel_put (m : Mon) (t a : Nat) (h : m.wcur t = true) : (relM m t a).carW a = true := Discipline.rel_put m t a h

/-- the fields are written once, by the consumer's store of `k` (written = stored or handled); from then on the consumer is
    ordered after the write, and once the first Do completed (`handled k`) the WaitGroup object carries it (released by
    Done after the store) -/
def need (k : Nat) (s : State) : Once :=
  ⟨s.handled k = true ∨ s.cpc = .stored k, fun u => u = consT, fun a => a = wgObj k ∧ s.handled k = true⟩

/-- the handler ran before `k` was handled and, as it runs at most once, the consumer is never again between handler return
    and store of `k` -/
structure Ran (k : Nat) (s : State) : Prop where
  post : s.handled k = true → 1 ≤ execCount k s
  ranOk : ∀ r, s.cpc = .ran k r → s.handled k = false

/-- a step that does not move task `k` between its phases, after events that led to `q`, which demands no less than `need k s` -/
theorem sim_end {k : Nat} {s s' : State} {q : Once}
    (hh : s'.handled k = s.handled k) (hlog : execCount k s ≤ execCount k s')
    (hst : s'.cpc = .stored k ↔ s.cpc = .stored k) (hran : ∀ r, s'.cpc = .ran k r → s.cpc = .ran k r)
    (h : Ran k s) (hW : q.W ↔ (need k s).W) (hK : q.K consT) (hC : (need k s).C (wgObj k) → q.C (wgObj k)) :
    Ran k s' ∧ q.Sim [] (need k s') :=
  ⟨⟨fun h1 => Nat.le_trans (h.post (hh ▸ h1)) hlog, fun r hr => hh ▸ h.ranOk r (hran r hr)⟩,
   .nil (by rw [hW]; show (_ ∨ _) ↔ (_ ∨ _); rw [hh, hst]) (fun _ _ e => e ▸ hK)
     (fun _ _ ⟨e, h1⟩ => e ▸ hC ⟨rfl, hh ▸ h1⟩)⟩

theorem sim_silent {k : Nat} {s s' : State}
    (hh : s'.handled k = s.handled k) (hlog : s'.execLog = s.execLog)
    (hst : s'.cpc = .stored k ↔ s.cpc = .stored k) (hran : ∀ r, s'.cpc = .ran k r → s.cpc = .ran k r)
    (h : Ran k s) : Ran k s' ∧ (need k s).Sim [] (need k s') :=
  sim_end hh (by simp [execCount, hlog]) hst hran h .rfl rfl id

theorem alloc_handled {s : State} (hI : Inv s) (k : Nat) : upd s.handled s.nextTask false k = s.handled k := by
  by_cases hk : k = s.nextTask
  · subst hk
    rw [upd_same]
    cases hh : s.handled s.nextTask with
    | false => rfl
    | true => exact absurd (hI.handledLt _ hh) (Nat.lt_irrefl _)
  · rw [upd_other hk]

theorem evOf_disabled {k : Nat} {s : State} {a : Act} (hs : step s a = none) : evOf k s (.act a) = [] := by
  cases a <;> try rfl
  case put p =>
    cases hp : s.ppc p with
    | idle => simp only [evOf, hp]
    | sel msg =>
      simp only [step, hp] at hs
      split at hs
      · cases hs
      · rename_i hlen; simp only [evOf, hp, hlen, and_false, if_false]
  case recv => cases hc : s.cpc <;> cases hch : s.chan <;> simp [step, evOf, hc, hch] at hs ⊢
  case store => cases hc : s.cpc <;> simp [step, evOf, hc] at hs ⊢
  case finish =>
    cases hc : s.cpc with
    | stored id => simp only [step, hc] at hs; split at hs <;> cases hs
    | _ => simp only [evOf, hc]

theorem dstep (k : Nat) {s : State} (a : XAct) (hI : Inv s) (h : Ran k s) (hb : execCount k (xstep s a) ≤ 1) :
    Ran k (xstep s a) ∧ (need k s).Sim (evOf k s a) (need k (xstep s a)) := by
  cases a with
  | get2 t id =>
    dsimp only [xstep, evOf]
    split
    · rename_i hc
      -- `wg.Wait` returns: the client acquires what `wg.Done` released, then reads
      have hh := (hI.doneOk k hc.2).1
      exact ⟨h, .acq _ _ (.rd _ (.inl hh) (.inr ⟨rfl, rfl, hh⟩) (.nil .rfl (fun _ _ e => .inl e) (fun _ _ e => e)))⟩
    · exact ⟨h, .refl _⟩
  | act a =>
    dsimp only [xstep, stepD] at hb ⊢
    cases hs : step s a with
    | none => rw [evOf_disabled hs]; exact ⟨h, .refl _⟩
    | some s' =>
      rw [hs] at hb
      simp only [Option.getD_some] at hb ⊢
      cases step_move hs with
      | sendNil | sendTaskNil | sendTask | abort | close => exact sim_silent (s := s) rfl rfl Iff.rfl (fun _ x => x) h
      | sendCallback => exact sim_silent (s := s) (alloc_handled hI k) rfl Iff.rfl (fun _ x => x) h
      | doOther t hc | redo id hc =>
        exact sim_silent (s := s) rfl rfl (by simp [hc]) (fun r hr => (nomatch hr)) h
      | put p msg hp hlen =>
        simp only [evOf, hp, hlen, and_true]
        split
        · exact And.imp id (.rel _ _) (sim_end (s := s) rfl (Nat.le_refl _) Iff.rfl (fun _ x => x) h .rfl rfl .inl)
        · exact sim_silent (s := s) rfl rfl Iff.rfl (fun _ x => x) h
      | recv msg rest hc hch =>
        simp only [evOf, hc, hch]
        split
        · exact And.imp id (.acq _ _)
            (sim_end (s := s) rfl (Nat.le_refl _) (by simp [hc]) (fun r hr => (nomatch hr)) h .rfl (.inl rfl) id)
        · exact sim_silent (s := s) rfl rfl (by simp [hc]) (fun r hr => (nomatch hr)) h
      | call id r hc =>
        by_cases hid : id = k
        · subst hid
          -- the handler of k runs: it is its only run, so k was not handled before
          have hcnt : execCount id s = 0 := by
            simp only [execCount, List.countP_append, List.countP_cons, List.countP_nil] at hb ⊢
            simp only [decide_true, if_true] at hb
            omega
          have hnh : s.handled id = false := by
            cases hh : s.handled id with
            | false => rfl
            | true => have := h.post hh; omega
          exact ⟨⟨fun h1 => (by rw [show s.handled id = true from h1] at hnh; cases hnh), fun _ _ => hnh⟩,
            .nil (by show (_ ∨ _) ↔ (_ ∨ _); simp [hc]) (fun _ _ e => e) (fun _ _ e => e)⟩
        · refine sim_end (s := s) rfl ?_ ?_ ?_ h .rfl rfl fun x => x
          · simp [execCount, List.countP_append]
          · simp [hc]
          · intro r' hr'
            simp only [CPc.ran.injEq] at hr'
            exact absurd hr'.1 hid
      | store id r hc =>
        simp only [evOf, hc]
        by_cases hid : id = k
        · subst hid
          simp only [if_true]
          have hnh := h.ranOk r hc
          exact ⟨⟨h.post, fun r' hr' => (nomatch hr')⟩,
            .wr _ (fun w => w.elim (fun w => (by rw [hnh] at w; cases w)) fun w => (by rw [hc] at w; cases w))
              (.nil ⟨fun _ => trivial, fun _ => .inr rfl⟩ (fun _ _ e => e)
                fun _ _ ⟨_, (w : s.handled id = true)⟩ => by rw [hnh] at w; cases w)⟩
        · simp only [hid, if_false]
          refine sim_silent (s := s) rfl rfl ?_ (fun r' hr' => (nomatch hr')) h
          simp only [hc, CPc.stored.injEq]
          exact ⟨fun x => absurd x hid, fun x => (nomatch x)⟩
      | finishAgain id hc hh =>
        simp only [evOf, hc]
        by_cases hid : id = k
        · subst hid
          -- a later Do: no Done, `return task.err`
          simp only [if_true, hh, List.nil_append]
          exact ⟨⟨h.post, fun r hr => (nomatch hr)⟩, .rd _ (.inl hh) rfl
            (.nil ⟨fun _ => .inl hh, fun _ => .inl hh⟩ (fun _ _ e => e) (fun _ _ e => e))⟩
        · simp only [hid, if_false]
          refine sim_silent (s := s) rfl rfl ?_ (fun r hr => (nomatch hr)) h
          simp only [hc, CPc.stored.injEq]
          exact ⟨fun x => (nomatch x), fun x => absurd x hid⟩
      | finish id hc hh =>
        simp only [evOf, hc]
        simp only [Bool.not_eq_true] at hh
        by_cases hid : id = k
        · subst hid
          simp only [if_true, hh, Bool.false_eq_true, if_false, List.cons_append, List.nil_append]
          have hlog : 1 ≤ execCount id s := by
            have := hI.cpcOk
            rw [hc] at this
            exact List.countP_pos_iff.2 ⟨_, this.2, by simp⟩
          exact ⟨⟨fun _ => hlog, fun r hr => (nomatch hr)⟩, .rel _ _ (.rd _ (.inr hc) rfl
            (.nil ⟨fun _ => .inr hc, fun _ => .inl (upd_same ..)⟩ (fun _ _ e => e) fun _ _ ⟨e, _⟩ => .inr ⟨e, rfl⟩))⟩
        · simp only [hid, if_false]
          have hne : ¬ k = id := fun x => hid x.symm
          refine sim_silent (s := s) (by simp only [upd, hne, if_false]) rfl ?_ (fun r hr => (nomatch hr)) h
          simp only [hc, CPc.stored.injEq]
          exact ⟨fun x => (nomatch x), fun x => absurd x hid⟩

theorem execCount_mono_step (k : Nat) (s : State) (a : XAct) : execCount k s ≤ execCount k (xstep s a) := by
  cases a with
  | get2 t id => exact Nat.le_refl _
  | act a =>
    refine Lts.step_inv_of (P := fun x => execCount k s ≤ execCount k x) stepD_cases (fun m h => Nat.le_trans h ?_)
      (Nat.le_refl _) a
    cases m with
    | call => simp [execCount, List.countP_append]
    | _ => exact Nat.le_refl _

theorem inv_xstep {s : State} (a : XAct) (hI : Inv s) : Inv (xstep s a) := by
  cases a with
  | get2 t id => exact hI
  | act a => exact inv_stepD hI

/-- taskx.Queue with a single consumer: in every execution in which the handler of task `k` is executed at most once,
    the plain accesses of `task.result / task.err` follow the publication discipline -/
theorem result_accepted (cap : Nat) (acts : List XAct) (k : Nat)
    (honce : execCount k (xrun (init cap) acts) ≤ 1) : accepts (resultEvents k (init cap) acts) = true := by
  -- the count never decreases, so a run that ends with at most one execution never had more
  obtain ⟨m', hm⟩ := run_once_scoped (tr := resultEvents k) (J := fun s => Inv s ∧ Ran k s)
    (Q := fun s => execCount k s ≤ 1) (fun _ => rfl) (fun _ _ _ => rfl)
    (fun s a h => Nat.le_trans (execCount_mono_step k s a) h) (need k)
    (fun s a ⟨hI, h⟩ hb => (dstep k a hI h hb).imp (⟨inv_xstep a hI, ·⟩) id)
    acts (init cap) Mon.init ⟨inv_init cap, nofun, nofun⟩ (Once.met_init (by rintro (h | h) <;> cases h)) honce
  exact accepts_of_run hm

/-- one producer, one consumer, two clients: send, receive, Do, both clients Get2 -/
def okActs : List XAct :=
  [.act (.sendCallback 0 true), .act (.put 0), .get2 0 0, .act .recv, .act (.call (some 7, none)), .get2 1 0,
   .act .store, .act .finish, .get2 0 0, .get2 1 0]

theorem ok_trace : resultEvents 0 (init 1) okActs =
    [.rel (prodT 0) chanObj, .acq consT chanObj, .wr consT, .rel consT (wgObj 0), .rd consT,
     .acq (cliT 0) (wgObj 0), .rd (cliT 0), .acq (cliT 1) (wgObj 0), .rd (cliT 1)] := by decide

theorem ok_once : execCount 0 (xrun (init 1) okActs) = 1 := by decide

theorem ok_accepted : accepts (resultEvents 0 (init 1) okActs) = true := by decide

/-- the documented limitation: the consumer calls Do again after a client's Get2 returned — the second store is a plain
    write that is not ordered after the client's read (rejected: `C18_taskq_second_do_rejected`, Props/C18.lean) -/
def redoActs : List XAct :=
  [.act (.sendCallback 0 true), .act (.put 0), .act .recv, .act (.call (some 7, none)), .act .store, .act .finish,
   .get2 0 0, .act (.redo 0), .act (.call (some 8, none)), .act .store]

theorem redo_twice : execCount 0 (xrun (init 1) redoActs) = 2 := by decide

/-- the same through SendTask: the task is sent and received a second time -/
def resendActs : List XAct :=
  [.act (.sendCallback 0 true), .act (.put 0), .act .recv, .act (.call (some 7, none)), .act .store, .act .finish,
   .get2 0 0, .act (.sendTask 0 (some (.cb 0))), .act (.put 0), .act .recv, .act (.call (some 8, none)), .act .store]

end Got.Lemmas.DiscTaskQ
