import Got.Lemmas.SortAstSmall
import Got.Lemmas.SortBounds
/- Translator tie of C15 for the four scan loops of doPivot_func. -/
namespace Got.Lemmas.SortAst
open Got.Model.MiniGoSort Got.Model.Sort Got.Model.SortAst
open Got.Generated.AstSortxSort

variable {K V : Type}

/-- `for ; a < BOUND && data.Less(a, pivot); a++ {}`; the bound is variable `vc` (8 = c before the partition loop,
    9 = b inside the protect loop) -/
def scanUpLtStmt (vc : Nat) : Stmt :=
  .loop (.and (.lt (.var 7) (.var vc)) (.less (.var 7) (.var 6))) [] [.set 7 (.add (.var 7) (.lit 1))]

/-- the bound is read through `hb` (`rfl` for a concrete `vc`), every other variable off the literal -/
theorem scanUpLt_runs (P : String → Option Fn) (less : LessFn K V) (vc : Nat) (hvc : vc ≠ 7) (pivot bd : Nat)
    (hp : pivot < B62) (hbd : bd < B62) {lo hi ml mh m t c b prot d : Int} (a : Nat) (s : St K V) :
    ∀ env : Env, Frame [lo, hi, ml, mh, m, t, pivot, a, c, b, prot, d] env →
      [lo, hi, ml, mh, m, t, (pivot : Int), (a : Int), c, b, prot, d][vc]? = some (bd : Int) →
      ∃ env', Frame [lo, hi, ml, mh, m, t, pivot, ((scanUpLt less pivot bd a s).1 : Nat), c, b, prot, d] env' ∧
        Seg (sortWorld less) P [scanUpLtStmt vc] env s env' (scanUpLt less pivot bd a s).2 := by
  fun_induction scanUpLt less pivot bd a s with
  | case1 a s hac r s1 hr ih =>
    intro env h hb
    have ha : a < B62 := Nat.lt_trans hac hbd
    have hcnd := (evalC_and_true (evalC_lt_nat (W := sortWorld less) s (h.var 7 rfl) (h.var vc hb) (decide_eq_true hac))).trans
      (evalC_less s (h.var 7 rfl) (h.var 6 rfl) ha hp)
    obtain ⟨env', h', hk⟩ := ih _ (h.set 7 ((a + 1 : Nat) : Int)) ((List.getElem?_set_ne (Ne.symm hvc)).trans hb)
    exact ⟨env', h', Seg.loop_iter (hcnd.trans (congrArg (·, s1) hr)) Seg.nil (Seg.set (eval_add1 (h.get 7 rfl) ha)) hk⟩
  | case2 a s hac r s1 hr =>
    intro env h hb
    have hcnd := (evalC_and_true (evalC_lt_nat (W := sortWorld less) s (h.var 7 rfl) (h.var vc hb) (decide_eq_true hac))).trans
      (evalC_less s (h.var 7 rfl) (h.var 6 rfl) (Nat.lt_trans hac hbd) hp)
    exact ⟨env, h, Seg.loop_done (hcnd.trans (congrArg (·, s1) (Bool.eq_false_iff.2 hr)))⟩
  | case3 a s hac =>
    intro env h hb
    exact ⟨env, h, Seg.loop_done (evalC_and_false
      (evalC_lt_nat (W := sortWorld less) s (h.var 7 rfl) (h.var vc hb) (decide_eq_false hac)))⟩

/-- `for ; b < c && !data.Less(pivot, b); b++ {}` -/
def scanUpNotGtStmt : Stmt :=
  .loop (.and (.lt (.var 9) (.var 8)) (.not (.less (.var 6) (.var 9)))) [] [.set 9 (.add (.var 9) (.lit 1))]

theorem scanUpNotGt_runs (P : String → Option Fn) (less : LessFn K V) (pivot c : Nat)
    (hp : pivot < B62) (hc : c < B62) {lo hi ml mh m t a prot d : Int} (b : Nat) (s : St K V) :
    ∀ env : Env, Frame [lo, hi, ml, mh, m, t, pivot, a, c, b, prot, d] env →
      ∃ env', Frame [lo, hi, ml, mh, m, t, pivot, a, c, ((scanUpNotGt less pivot c b s).1 : Nat), prot, d] env' ∧
        Seg (sortWorld less) P [scanUpNotGtStmt] env s env' (scanUpNotGt less pivot c b s).2 := by
  fun_induction scanUpNotGt less pivot c b s with
  | case1 b s hbc r s1 hr ih =>
    intro env h
    have hb : b < B62 := Nat.lt_trans hbc hc
    have hcnd := (evalC_and_true (evalC_lt_nat (W := sortWorld less) s (h.var 9 rfl) (h.var 8 rfl) (decide_eq_true hbc))).trans
      (evalC_notLess s (h.var 6 rfl) (h.var 9 rfl) hp hb)
    obtain ⟨env', h', hk⟩ := ih _ (h.set 9 ((b + 1 : Nat) : Int))
    exact ⟨env', h', Seg.loop_iter (hcnd.trans (congrArg (·, s1) hr)) Seg.nil (Seg.set (eval_add1 (h.get 9 rfl) hb)) hk⟩
  | case2 b s hbc r s1 hr =>
    intro env h
    have hcnd := (evalC_and_true (evalC_lt_nat (W := sortWorld less) s (h.var 9 rfl) (h.var 8 rfl) (decide_eq_true hbc))).trans
      (evalC_notLess s (h.var 6 rfl) (h.var 9 rfl) hp (Nat.lt_trans hbc hc))
    exact ⟨env, h, Seg.loop_done (hcnd.trans (congrArg (·, s1) (Bool.eq_false_iff.2 hr)))⟩
  | case3 b s hbc =>
    intro env h
    exact ⟨env, h, Seg.loop_done (evalC_and_false
      (evalC_lt_nat (W := sortWorld less) s (h.var 9 rfl) (h.var 8 rfl) (decide_eq_false hbc)))⟩

/-- `for ; b < c && data.Less(pivot, c-1); c-- {}` -/
def scanDownGtStmt : Stmt :=
  .loop (.and (.lt (.var 9) (.var 8)) (.less (.var 6) (.sub (.var 8) (.lit 1)))) [] [.set 8 (.sub (.var 8) (.lit 1))]

theorem scanDownGt_runs (P : String → Option Fn) (less : LessFn K V) (pivot b : Nat) (hp : pivot < B62)
    {lo hi ml mh m t a prot d : Int} :
    ∀ (c : Nat) (env : Env) (s : St K V), c < B62 → Frame [lo, hi, ml, mh, m, t, pivot, a, c, b, prot, d] env →
      ∃ env', Frame [lo, hi, ml, mh, m, t, pivot, a, ((scanDownGt less pivot b c s).1 : Nat), b, prot, d] env' ∧
        Seg (sortWorld less) P [scanDownGtStmt] env s env' (scanDownGt less pivot b c s).2 := by
  intro c
  induction c with
  | zero =>
    intro env s hc h
    rw [scanDownGt]
    exact ⟨env, h, Seg.loop_done (evalC_and_false
      (evalC_lt_nat s (h.var 9 rfl) (h.var 8 rfl) (decide_eq_false (Nat.not_lt_zero b))))⟩
  | succ c ih =>
    intro env s hc h
    have hc' : c < B62 := Nat.lt_of_succ_lt hc
    have e1 : eval env (.sub (.var 8) (.lit 1)) = (c : Int) := eval_sub1 (h.get 8 rfl) hc (Nat.le_add_left 1 c)
    have hlt := evalC_lt_nat (W := sortWorld less) s (h.var 9 rfl) (h.var 8 rfl)
    rw [scanDownGt]
    by_cases hbc : b < c + 1
    · rw [if_pos hbc]
      have hcnd := (evalC_and_true (hlt (decide_eq_true hbc))).trans
        (evalC_less s (h.var 6 rfl) e1 hp hc')
      cases hr : less s pivot c
      · simp only [Bool.false_eq_true, if_false]
        exact ⟨env, h, Seg.loop_done (hr ▸ hcnd)⟩
      · simp only [if_true]
        obtain ⟨env', h', hk⟩ := ih _ (s.note pivot c true) hc' (h.set 8 (c : Int))
        exact ⟨env', h', Seg.loop_iter (hr ▸ hcnd) Seg.nil (Seg.set e1) hk⟩
    · rw [if_neg hbc]
      exact ⟨env, h, Seg.loop_done (evalC_and_false (hlt (decide_eq_false hbc)))⟩

/-- `for ; a < b && !data.Less(b-1, pivot); b-- {}` -/
def scanDownNotLtStmt : Stmt :=
  .loop (.and (.lt (.var 7) (.var 9)) (.not (.less (.sub (.var 9) (.lit 1)) (.var 6)))) [] [.set 9 (.sub (.var 9) (.lit 1))]

theorem scanDownNotLt_runs (P : String → Option Fn) (less : LessFn K V) (pivot a : Nat) (hp : pivot < B62)
    {lo hi ml mh m t c prot d : Int} :
    ∀ (b : Nat) (env : Env) (s : St K V), b < B62 → Frame [lo, hi, ml, mh, m, t, pivot, a, c, b, prot, d] env →
      ∃ env', Frame [lo, hi, ml, mh, m, t, pivot, a, c, ((scanDownNotLt less pivot a b s).1 : Nat), prot, d] env' ∧
        Seg (sortWorld less) P [scanDownNotLtStmt] env s env' (scanDownNotLt less pivot a b s).2 := by
  intro b
  induction b with
  | zero =>
    intro env s hb h
    rw [scanDownNotLt]
    exact ⟨env, h, Seg.loop_done (evalC_and_false
      (evalC_lt_nat s (h.var 7 rfl) (h.var 9 rfl) (decide_eq_false (Nat.not_lt_zero a))))⟩
  | succ b ih =>
    intro env s hb h
    have hb' : b < B62 := Nat.lt_of_succ_lt hb
    have e1 : eval env (.sub (.var 9) (.lit 1)) = (b : Int) := eval_sub1 (h.get 9 rfl) hb (Nat.le_add_left 1 b)
    have hlt := evalC_lt_nat (W := sortWorld less) s (h.var 7 rfl) (h.var 9 rfl)
    rw [scanDownNotLt]
    by_cases hab : a < b + 1
    · rw [if_pos hab]
      have hcnd := (evalC_and_true (hlt (decide_eq_true hab))).trans
        (evalC_notLess s e1 (h.var 6 rfl) hb' hp)
      cases hr : less s b pivot <;> rw [hr] at hcnd
      · simp only [Bool.not_false, if_true]
        obtain ⟨env', h', hk⟩ := ih _ (s.note b pivot false) hb' (h.set 9 (b : Int))
        exact ⟨env', h', Seg.loop_iter hcnd Seg.nil (Seg.set e1) hk⟩
      · simp only [Bool.not_true, Bool.false_eq_true, if_false]
        exact ⟨env, h, Seg.loop_done hcnd⟩
    · rw [if_neg hab]
      exact ⟨env, h, Seg.loop_done (evalC_and_false (hlt (decide_eq_false hab)))⟩

end Got.Lemmas.SortAst
