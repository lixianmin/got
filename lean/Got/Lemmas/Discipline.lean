import Got.Model.Discipline
import Got.Lemmas.ListFacts
/-
Soundness of the monitor of Got/Model/Discipline.lean: `Inv` reads its four sets as facts (`Cur`, `Car`) about the
declarative happens-before of the trace seen so far.  Then the monitor's moves as functions, ordered by "knows at least
as much", and the simulation theorems by which a transition system is shown to emit accepted traces only.
-/
namespace Got.Lemmas.Discipline
open Got.Model.Discipline

theorem HB.mono {tr : List Ev} (x : Ev) {i j : Nat} (h : HB tr i j) : HB (tr ++ [x]) i j := by
  induction h with
  | po i j e f hij hi hj ht => exact HB.po i j e f hij (List.getElem?_append_some hi) (List.getElem?_append_some hj) ht
  | sw i j t u a hij hi hj => exact HB.sw i j t u a hij (List.getElem?_append_some hi) (List.getElem?_append_some hj)
  | trans i j k _ _ ih1 ih2 => exact HB.trans i j k ih1 ih2

/-- `t` has an event at position `i` itself or happens-after it -/
def After (tr : List Ev) (t : Nat) (i : Nat) : Prop :=
  ∃ k e, tr[k]? = some e ∧ e.thr = t ∧ (k = i ∨ HB tr i k)

theorem After.mono {tr : List Ev} (x : Ev) {t i : Nat} (h : After tr t i) : After (tr ++ [x]) t i := by
  obtain ⟨k, e, hk, ht, hor⟩ := h
  exact ⟨k, e, List.getElem?_append_some hk, ht, hor.imp id (HB.mono x)⟩

theorem After.toNew {tr : List Ev} {x : Ev} {i : Nat} (h : After tr x.thr i) : HB (tr ++ [x]) i tr.length := by
  obtain ⟨k, e, hk, ht, hor⟩ := h
  have hpo : HB (tr ++ [x]) k tr.length :=
    HB.po k tr.length e x (List.lt_length_of_getElem? hk) (List.getElem?_append_some hk) List.getElem?_concat_length ht
  rcases hor with rfl | hb
  · exact hpo
  · exact HB.trans i k tr.length (HB.mono x hb) hpo

/-- thread `t` is current for `P`: at or after every `P`-event of `tr` -/
def Cur (P : Ev → Bool) (tr : List Ev) (t : Nat) : Prop :=
  ∀ i e, tr[i]? = some e → P e = true → After tr t i

/-- object `o` carries `P`: a release on `o` happens after every `P`-event of `tr` -/
def Car (P : Ev → Bool) (tr : List Ev) (o : Nat) : Prop :=
  ∃ r t', tr[r]? = some (.rel t' o) ∧ ∀ i e, tr[i]? = some e → P e = true → HB tr i r

theorem Cur.snoc_skip {P : Ev → Bool} {tr : List Ev} {t : Nat} {x : Ev} (h : Cur P tr t) (hx : P x = false) :
    Cur P (tr ++ [x]) t := by
  intro i e hi hP
  rcases List.getElem?_snoc hi with hi' | ⟨_, rfl⟩
  · exact (h i e hi' hP).mono x
  · rw [hx] at hP; cases hP

theorem Cur.snoc_self {P : Ev → Bool} {tr : List Ev} {x : Ev} (h : Cur P tr x.thr) : Cur P (tr ++ [x]) x.thr := by
  intro i e hi hP
  rcases List.getElem?_snoc hi with hi' | ⟨rfl, rfl⟩
  · exact (h i e hi' hP).mono x
  · exact ⟨tr.length, e, List.getElem?_concat_length, rfl, Or.inl rfl⟩

theorem Car.snoc {P : Ev → Bool} {tr : List Ev} {o : Nat} {x : Ev} (h : Car P tr o) (hx : P x = false) :
    Car P (tr ++ [x]) o := by
  obtain ⟨r, t', hr, hall⟩ := h
  refine ⟨r, t', List.getElem?_append_some hr, fun i e hi hP => ?_⟩
  rcases List.getElem?_snoc hi with hi' | ⟨_, rfl⟩
  · exact HB.mono x (hall i e hi' hP)
  · rw [hx] at hP; cases hP

theorem Cur.rel {P : Ev → Bool} {tr : List Ev} {t : Nat} (o : Nat) (h : Cur P tr t) (hx : P (.rel t o) = false) :
    Car P (tr ++ [.rel t o]) o := by
  refine ⟨tr.length, t, List.getElem?_concat_length, fun i e hi hP => ?_⟩
  rcases List.getElem?_snoc hi with hi' | ⟨_, rfl⟩
  · exact (h i e hi' hP).toNew
  · rw [hx] at hP; cases hP

theorem Car.acq {P : Ev → Bool} {tr : List Ev} {o : Nat} (u : Nat) (h : Car P tr o) (hx : P (.acq u o) = false) :
    Cur P (tr ++ [.acq u o]) u := by
  obtain ⟨r, t', hr, hall⟩ := h
  intro i e hi hP
  rcases List.getElem?_snoc hi with hi' | ⟨_, rfl⟩
  · exact ⟨tr.length, _, List.getElem?_concat_length, rfl, Or.inr (HB.trans i r _ (HB.mono _ (hall i e hi' hP))
      (HB.sw r _ t' u o (List.lt_length_of_getElem? hr) (List.getElem?_append_some hr) List.getElem?_concat_length))⟩
  · rw [hx] at hP; cases hP

structure Inv (tr : List Ev) (m : Mon) : Prop where
  rf : RaceFree tr
  w : ∀ t, m.wcur t = true → Cur Ev.isWr tr t
  a : ∀ t, m.acur t = true → Cur Ev.isAcc tr t
  cw : ∀ o, m.carW o = true → Car Ev.isWr tr o
  ca : ∀ o, m.carA o = true → Car Ev.isAcc tr o

theorem inv_init : Inv [] Mon.init :=
  ⟨fun _ _ _ _ _ hi => (nomatch hi), fun _ _ _ _ hi => (nomatch hi), fun _ _ _ _ hi => (nomatch hi),
   fun _ h => (nomatch h), fun _ h => (nomatch h)⟩

theorem isWr_isAcc (e : Ev) (h : e.isWr = true) : e.isAcc = true := by
  cases e <;> first | rfl | cases h

theorem raceFree_snoc {tr : List Ev} {x : Ev} (h : RaceFree tr)
    (hx : ∀ i e, tr[i]? = some e → conflict e x = true → After tr x.thr i) : RaceFree (tr ++ [x]) := by
  intro i j e f hij hi hj hc
  rcases List.getElem?_snoc hj with hj' | ⟨rfl, rfl⟩
  · rw [List.getElem?_append_left (Nat.lt_trans hij (List.lt_length_of_getElem? hj'))] at hi
    exact HB.mono x (h i j e f hij hi hj' hc)
  · rw [List.getElem?_append_left hij] at hi
    exact (hx i e hi hc).toNew

theorem raceFree_snoc_sync {tr : List Ev} {x : Ev} (h : RaceFree tr) (hx : x.isAcc = false) : RaceFree (tr ++ [x]) :=
  raceFree_snoc h fun _ e _ hc => by simp [conflict, hx] at hc

theorem conflict_rd {e : Ev} {t : Nat} (h : conflict e (.rd t) = true) : e.isWr = true := by
  simp [conflict, Ev.isWr, Ev.isAcc] at h; exact h.1.2

theorem conflict_wr {e : Ev} {t : Nat} (h : conflict e (.wr t) = true) : e.isAcc = true := by
  simp [conflict] at h; exact h.1.1.1

/-- each guard of `Mon.step` is what `raceFree_snoc` asks for, and each update of the four sets is one of the
    `Cur`/`Car` rules -/
theorem inv_step {tr : List Ev} {m m' : Mon} {x : Ev} (hI : Inv tr m) (hs : m.step x = some m') :
    Inv (tr ++ [x]) m' := by
  cases x with
  | rd t =>
    simp only [Mon.step] at hs
    split at hs
    · rename_i hw
      cases hs
      refine ⟨raceFree_snoc hI.rf fun i e hi hc => hI.w t hw i e hi (conflict_rd hc),
        fun u hu => (hI.w u hu).snoc_skip rfl, fun u hu => ?_, fun o ho => (hI.cw o ho).snoc rfl,
        fun o ho => (nomatch ho)⟩
      simp only [Bool.and_eq_true, decide_eq_true_eq] at hu
      obtain ⟨hu, rfl⟩ := hu
      exact (hI.a u hu).snoc_self (x := .rd u)
    · cases hs
  | wr t =>
    simp only [Mon.step] at hs
    split at hs
    · rename_i ha
      cases hs
      have hcur : Cur Ev.isAcc (tr ++ [.wr t]) t := (hI.a t ha).snoc_self (x := .wr t)
      refine ⟨raceFree_snoc hI.rf fun i e hi hc => hI.a t ha i e hi (conflict_wr hc),
        fun u hu => ?_, fun u hu => ?_, fun o ho => (nomatch ho), fun o ho => (nomatch ho)⟩ <;>
        cases of_decide_eq_true hu
      · exact fun i e hi hw => hcur i e hi (isWr_isAcc e hw)
      · exact hcur
    · cases hs
  | rel t o =>
    cases hs
    refine ⟨raceFree_snoc_sync hI.rf rfl, fun u hu => (hI.w u hu).snoc_skip rfl, fun u hu => (hI.a u hu).snoc_skip rfl,
      fun b hb => ?_, fun b hb => ?_⟩ <;>
      simp only [Bool.or_eq_true, Bool.and_eq_true, decide_eq_true_eq] at hb
    · rcases hb with hb | ⟨rfl, hw⟩
      · exact (hI.cw b hb).snoc rfl
      · exact (hI.w t hw).rel b rfl
    · rcases hb with hb | ⟨rfl, ha⟩
      · exact (hI.ca b hb).snoc rfl
      · exact (hI.a t ha).rel b rfl
  | acq t o =>
    cases hs
    refine ⟨raceFree_snoc_sync hI.rf rfl, fun u hu => ?_, fun u hu => ?_, fun b hb => (hI.cw b hb).snoc rfl,
      fun b hb => (hI.ca b hb).snoc rfl⟩ <;>
      simp only [Bool.or_eq_true, Bool.and_eq_true, decide_eq_true_eq] at hu
    · rcases hu with hu | ⟨rfl, hc⟩
      · exact (hI.w u hu).snoc_skip rfl
      · exact (hI.cw o hc).acq u rfl
    · rcases hu with hu | ⟨rfl, hc⟩
      · exact (hI.a u hu).snoc_skip rfl
      · exact (hI.ca o hc).acq u rfl

theorem inv_run {tr0 : List Ev} {m0 : Mon} (hI : Inv tr0 m0) :
    ∀ (es : List Ev) (m : Mon), m0.run es = some m → Inv (tr0 ++ es) m := by
  intro es
  induction es generalizing tr0 m0 with
  | nil => intro m h; cases h; rw [List.append_nil]; exact hI
  | cons e es ih =>
    intro m h
    simp only [Mon.run] at h
    cases hs : m0.step e with
    | none => rw [hs] at h; cases h
    | some m1 =>
      rw [hs] at h
      have := ih (inv_step hI hs) m h
      rwa [List.append_assoc] at this

theorem accepts_raceFree (tr : List Ev) (h : accepts tr = true) : RaceFree tr := by
  unfold accepts at h
  cases hr : Mon.init.run tr with
  | none => rw [hr] at h; cases h
  | some m => exact (inv_run inv_init tr m hr).rf

def acqM (m : Mon) (t a : Nat) : Mon :=
  { m with wcur := fun u => m.wcur u || (decide (u = t) && m.carW a),
           acur := fun u => m.acur u || (decide (u = t) && m.carA a) }
def relM (m : Mon) (t a : Nat) : Mon :=
  { m with carW := fun b => m.carW b || (decide (b = a) && m.wcur t),
           carA := fun b => m.carA b || (decide (b = a) && m.acur t) }
def rdM (m : Mon) (t : Nat) : Mon :=
  { m with acur := fun u => m.acur u && decide (u = t), carA := fun _ => false }
def wrM (t : Nat) : Mon :=
  { wcur := fun u => decide (u = t), acur := fun u => decide (u = t), carW := fun _ => false, carA := fun _ => false }

theorem step_acq (m : Mon) (t a : Nat) : m.step (.acq t a) = some (acqM m t a) := rfl
theorem step_rel (m : Mon) (t a : Nat) : m.step (.rel t a) = some (relM m t a) := rfl
theorem step_rd (m : Mon) (t : Nat) (h : m.wcur t = true) : m.step (.rd t) = some (rdM m t) := by
  simp only [Mon.step, h, if_true]; rfl
theorem step_wr (m : Mon) (t : Nat) (h : m.acur t = true) : m.step (.wr t) = some (wrM t) := by
  simp only [Mon.step, h, if_true]; rfl

theorem run_cons {m m1 : Mon} {e : Ev} (es : List Ev) (h : m.step e = some m1) : m.run (e :: es) = m1.run es := by
  simp only [Mon.run, h]

theorem run_append (m : Mon) (a b : List Ev) :
    m.run (a ++ b) = (m.run a).bind (fun m' => m'.run b) := by
  induction a generalizing m with
  | nil => rfl
  | cons e es ih =>
    simp only [List.cons_append, Mon.run]
    cases m.step e with
    | none => rfl
    | some m' => exact ih m'

theorem run_append_some {m m1 : Mon} {a : List Ev} (b : List Ev) (h : m.run a = some m1) :
    m.run (a ++ b) = m1.run b := by
  rw [run_append, h]; rfl

theorem run_acq (m : Mon) (t a : Nat) : m.run [.acq t a] = some (acqM m t a) := rfl
theorem run_rel (m : Mon) (t a : Nat) : m.run [.rel t a] = some (relM m t a) := rfl
theorem run_acq_rel (m : Mon) (t a : Nat) : m.run [.acq t a, .rel t a] = some (relM (acqM m t a) t a) := rfl
theorem run_rd (m : Mon) (t : Nat) (h : m.wcur t = true) : m.run [.rd t] = some (rdM m t) := by
  rw [run_cons _ (step_rd m t h)]; rfl
theorem run_wr (m : Mon) (t : Nat) (h : m.acur t = true) : m.run [.wr t] = some (wrM t) := by
  rw [run_cons _ (step_wr m t h)]; rfl

theorem accepts_of_run {tr : List Ev} {m : Mon} (h : Mon.init.run tr = some m) : accepts tr = true := by
  unfold accepts; rw [h]; rfl

/-- `Le m m'`: `m'` knows at least as much as `m` (acquire and release only add knowledge) -/
structure Le (m m' : Mon) : Prop where
  wcur : ∀ t, m.wcur t = true → m'.wcur t = true
  carW : ∀ a, m.carW a = true → m'.carW a = true
  acur : ∀ t, m.acur t = true → m'.acur t = true
  carA : ∀ a, m.carA a = true → m'.carA a = true

theorem Le.refl (m : Mon) : Le m m := ⟨fun _ h => h, fun _ h => h, fun _ h => h, fun _ h => h⟩
theorem Le.trans {a b c : Mon} (h1 : Le a b) (h2 : Le b c) : Le a c :=
  ⟨fun t h => h2.wcur t (h1.wcur t h), fun x h => h2.carW x (h1.carW x h), fun t h => h2.acur t (h1.acur t h),
    fun x h => h2.carA x (h1.carA x h)⟩

theorem le_acq (m : Mon) (t a : Nat) : Le m (acqM m t a) :=
  ⟨fun u h => by simp [acqM, h], fun _ h => h, fun u h => by simp [acqM, h], fun _ h => h⟩
theorem le_rel (m : Mon) (t a : Nat) : Le m (relM m t a) :=
  ⟨fun _ h => h, fun b h => by simp [relM, h], fun _ h => h, fun b h => by simp [relM, h]⟩
theorem le_acq_rel (m : Mon) (t a : Nat) : Le m (relM (acqM m t a) t a) := (le_acq m t a).trans (le_rel _ t a)

theorem acq_get (m : Mon) (t a : Nat) (h : m.carW a = true) : (acqM m t a).wcur t = true := by simp [acqM, h]
theorem rel_put (m : Mon) (t a : Nat) (h : m.wcur t = true) : (relM m t a).carW a = true := by simp [relM, h]
theorem acq_getA (m : Mon) (t a : Nat) (h : m.carA a = true) : (acqM m t a).acur t = true := by simp [acqM, h]
theorem rel_putA (m : Mon) (t a : Nat) (h : m.acur t = true) : (relM m t a).carA a = true := by simp [relM, h]
theorem wr_self (t : Nat) : (wrM t).wcur t = true ∧ (wrM t).acur t = true := by simp [wrM]

/-- no access so far, as far as the guards can tell: every thread may still read and write -/
def Fresh (m : Mon) : Prop := ∀ t, m.wcur t = true ∧ m.acur t = true

theorem fresh_init : Fresh Mon.init := fun _ => ⟨rfl, rfl⟩
theorem Fresh.mono {m m' : Mon} (h : Fresh m) (hle : Le m m') : Fresh m' :=
  fun t => ⟨hle.wcur t (h t).1, hle.acur t (h t).2⟩

/- The simulation theorem, once for each way the models define their traces: `step` total (`run_sim_scoped`, `run_sim`);
   `step` partial and the trace ending at the first disabled action (`run_sim_partial`: `ok` restricts the actions, not the
   states); `step` returning the events and `run` being `none` as a whole when an action is disabled (`run_sim_emit`). -/

/-- `Q`: a scope that no step re-enters, so that a run ending inside it stayed inside -/
theorem run_sim_scoped {σ α : Type} {step : σ → α → σ} {ev : σ → α → List Ev} {tr : σ → List α → List Ev}
    (tr_nil : ∀ s, tr s [] = []) (tr_cons : ∀ s a as, tr s (a :: as) = ev s a ++ tr (step s a) as)
    {I : σ → Mon → Prop} {Q : σ → Prop} (hQ : ∀ s a, Q (step s a) → Q s)
    (hstep : ∀ s m a, I s m → Q (step s a) → ∃ m', m.run (ev s a) = some m' ∧ I (step s a) m') :
    ∀ (as : List α) (s : σ) (m : Mon), I s m → Q (as.foldl step s) → ∃ m', m.run (tr s as) = some m' := by
  have back : ∀ (as : List α) (s : σ), Q (as.foldl step s) → Q s := by
    intro as
    induction as with
    | nil => exact fun _ h => h
    | cons a as ih => exact fun s h => hQ s a (ih _ h)
  intro as
  induction as with
  | nil => intro s m _ _; exact ⟨m, by rw [tr_nil]; rfl⟩
  | cons a as ih =>
    intro s m h hq
    obtain ⟨m1, h1, hI1⟩ := hstep s m a h (back as _ hq)
    obtain ⟨m2, h2⟩ := ih _ m1 hI1 hq
    exact ⟨m2, by rw [tr_cons, run_append_some _ h1, h2]⟩

theorem run_sim {σ α : Type} {step : σ → α → σ} {ev : σ → α → List Ev} {tr : σ → List α → List Ev}
    (tr_nil : ∀ s, tr s [] = []) (tr_cons : ∀ s a as, tr s (a :: as) = ev s a ++ tr (step s a) as)
    {I : σ → Mon → Prop} (hstep : ∀ s m a, I s m → ∃ m', m.run (ev s a) = some m' ∧ I (step s a) m')
    (as : List α) (s : σ) (m : Mon) (h : I s m) : ∃ m', m.run (tr s as) = some m' :=
  run_sim_scoped (Q := fun _ => True) tr_nil tr_cons (fun _ _ _ => trivial) (fun s m a h _ => hstep s m a h) as s m h
    trivial

theorem run_sim_partial {σ α : Type} {step : σ → α → Option σ} {ev : σ → α → List Ev} {tr : σ → List α → List Ev}
    (tr_nil : ∀ s, tr s [] = []) (tr_none : ∀ s a as, step s a = none → tr s (a :: as) = [])
    (tr_some : ∀ s a as s', step s a = some s' → tr s (a :: as) = ev s a ++ tr s' as)
    {I : σ → Mon → Prop} {ok : α → Prop}
    (hstep : ∀ s m a s', I s m → ok a → step s a = some s' → ∃ m', m.run (ev s a) = some m' ∧ I s' m') :
    ∀ (as : List α) (s : σ) (m : Mon), I s m → (∀ a ∈ as, ok a) → ∃ m', m.run (tr s as) = some m' := by
  intro as
  induction as with
  | nil => intro s m _ _; exact ⟨m, by rw [tr_nil]; rfl⟩
  | cons a as ih =>
    intro s m h hok
    cases hs : step s a with
    | none => exact ⟨m, by rw [tr_none s a as hs]; rfl⟩
    | some s' =>
      obtain ⟨m1, h1, hI1⟩ := hstep s m a s' h (hok a (List.mem_cons_self ..)) hs
      obtain ⟨m2, h2⟩ := ih s' m1 hI1 (fun x hx => hok x (List.mem_cons_of_mem _ hx))
      exact ⟨m2, by rw [tr_some s a as s' hs, run_append_some _ h1, h2]⟩

theorem run_sim_emit {σ α : Type} {step : σ → α → Option (σ × List Ev)} {run : σ → List α → Option (σ × List Ev)}
    (run_nil : ∀ s, run s [] = some (s, []))
    (run_none : ∀ s a as, step s a = none → run s (a :: as) = none)
    (run_some : ∀ s a as s1 ev, step s a = some (s1, ev) →
      run s (a :: as) = (run s1 as).map fun q => (q.1, ev ++ q.2))
    {I : σ → Mon → Prop}
    (hstep : ∀ {s s' m a ev}, I s m → step s a = some (s', ev) → ∃ m', m.run ev = some m' ∧ I s' m') :
    ∀ (as : List α) {s s' : σ} {m : Mon} {evs : List Ev}, I s m → run s as = some (s', evs) →
      ∃ m', m.run evs = some m' := by
  intro as
  induction as with
  | nil => intro s s' m evs _ h; rw [run_nil] at h; cases h; exact ⟨m, rfl⟩
  | cons a as ih =>
    intro s s' m evs hI h
    cases hs : step s a with
    | none => rw [run_none s a as hs] at h; cases h
    | some p =>
      obtain ⟨s1, ev⟩ := p
      rw [run_some s a as s1 ev hs] at h
      cases hr : run s1 as with
      | none => rw [hr] at h; cases h
      | some q =>
        rw [hr] at h
        cases h
        obtain ⟨m1, hm1, hI1⟩ := hstep hI hs
        obtain ⟨m2, hm2⟩ := ih hI1 hr
        exact ⟨m2, by rw [run_append_some _ hm1, hm2]⟩

end Got.Lemmas.Discipline
