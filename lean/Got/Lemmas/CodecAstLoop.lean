import Got.Lemmas.CodecAst
import Got.Lemmas.CodecRead
/-
Translator tie of the iox codec: the loops (Write7BitEncodedInt, Read7BitEncodedInt) and WriteBytes / WriteString.  The
loop statements of the generated bodies are written out here (`W7LOOP`, `R7LOOP`; `w7_body` / `r7_body` check them against
the generated term by `rfl`) and the refinement goes by induction along the model's own loop.
-/
namespace Got.Lemmas.CodecAst
open Got.Model.MiniGoBytes Got.Generated.AstIox
open Got.Model.Codec (writeByte write7Loop write7 read7Loop read7 writeBytes writeString)

def W7LOOP : Stmt :=
  .loop (.lt (.lit (.bv 32 false) 127) (.var "v0")) [] [
    .call ["_"] "OctetsStream.WriteByte" [(.conv (.bv 8 false) (.or (.var "v0") (.lit (.bv 32 false) 4294967168)))],
    .assign "v0" (.shr (.var "v0") (.lit .int 7))]

def W7TAIL : List Stmt :=
  [.call ["r0"] "OctetsStream.WriteByte" [(.conv (.bv 8 false) (.var "v0"))], .ret [(.var "r0")]]

theorem w7_body : OctetsWriter_Write7BitEncodedInt.body =
    .decl "v0" (.conv (.bv 32 false) (.var "a0")) :: W7LOOP :: W7TAIL := rfl

theorem w7_params : OctetsWriter_Write7BitEncodedInt.params = ["a0"] := rfl

/-- `a0` is read only by the final `return`, which reports the parameters' slices (`outsOf`: `a0` is no slice) -/
theorem w7_loop (d : BitVec 32) : ∀ (n : Nat) (num : BitVec 32) (bs : List Byte) (env : Env) (st : St) (fuel : Nat),
    write7Loop n num = some bs → env.lookup "v0" = some (.bv 32 false num) →
    env.lookup "a0" = some (.bv 32 true d) → n + 6 ≤ fuel →
    finish ["a0"] (exec table ["a0"] fuel (W7LOOP :: W7TAIL) env st) = some (writeOut st bs) := by
  intro n
  induction n with
  | zero => intro num bs env st fuel h; simp [write7Loop] at h
  | succ n ih =>
    intro num bs env st fuel h hv ha hf
    obtain ⟨g, rfl⟩ : ∃ g, fuel = g + 7 := ⟨fuel - 7, by omega⟩
    rw [Got.Lemmas.Codec.write7Loop_succ] at h
    by_cases hc : num > 127#32
    · rw [if_pos hc] at h
      cases ht : write7Loop n (num >>> 7) with
      | none => simp [ht] at h
      | some t =>
        simp only [ht, Option.map_some, Option.some.injEq] at h
        subst h
        have hc' : (127#32 < num) := hc
        have ih' := ih (num >>> 7) t (("v0", .bv 32 false (num >>> 7)) :: ("_", .err none) :: env)
          { st with buffer := st.buffer ++ [(num ||| 4294967168#32).setWidth 8] } (g + 6) ht
          (by simp [List.lookup]) (by simp [List.lookup, ha]) (by omega)
        rw [exec_loop' (L := W7LOOP) (hL := rfl)]
        ast_eval [hv, hc']
        rw [exec_call (vs := [.bv 8 false ((num ||| 4294967168#32).setWidth 8)]) (h := by ast_eval [hv]),
          s_writeByte_ast _ st (g + 5) (by omega)]
        simp only [writeOut, writeByte]
        ast_eval [hv]
        simpa [writeOut, finish, outsOf] using ih'
    · rw [if_neg hc] at h
      simp only [Option.some.injEq] at h
      subst h
      have hc' : ¬ (127#32 < num) := hc
      rw [exec_loop' (L := W7LOOP) (hL := rfl)]
      ast_eval [hv, hc']
      unfold W7TAIL
      rw [exec_call (vs := [.bv 8 false (num.setWidth 8)]) (h := by ast_eval [hv]),
        s_writeByte_ast _ st (g + 5) (by omega)]
      simp only [writeOut, writeByte]
      ast_eval [ha]

theorem w_write7_ast (d : BitVec 32) (st : St) (fuel : Nat) (hf : 72 ≤ fuel) :
    run table "OctetsWriter.Write7BitEncodedInt" fuel [.bv 32 true d] st = (write7 d).map (writeOut st) := by
  have hw := Got.Lemmas.Codec.write7_eq d
  rw [hw, Option.map_some]
  refine (run_table (fn := OctetsWriter_Write7BitEncodedInt) 1 (by omega) _ _ rfl).trans ?_
  rw [w7_body, w7_params, exec_decl]
  ast_eval
  -- 64 = `write7Fuel`, the model's loop fuel (`hw`); `w7_loop` then asks for 64 + 6 units behind the `decl`:
  -- 72 rounds 71 up
  exact w7_loop d 64 d _ _ st (fuel - 1) hw (by simp [List.lookup]) (by simp [List.lookup]) (by omega)

def R7LOOP : Stmt :=
  .loop (.lt (.var "v1") (.lit .int 28)) [.assign "v1" (.add (.var "v1") (.lit .int 7))] [
    .call ["v2", "v3"] "OctetsReader.ReadByte" [],
    .ite (.ne (.var "v3") .nil) [.ret [(.lit (.bv 32 true) 0), (.var "v3")]] [],
    .assign "v0" (.or (.var "v0") (.shl (.conv (.bv 32 false) (.and (.var "v2") (.lit (.bv 8 false) 127))) (.var "v1"))),
    .ite (.le (.var "v2") (.lit (.bv 8 false) 127)) [.ret [(.conv (.bv 32 true) (.var "v0")), .nil]] []]

def R7TAIL : List Stmt :=
  [.call ["v4", "v5"] "OctetsReader.ReadByte" [],
   .ite (.ne (.var "v5") .nil) [.ret [(.lit (.bv 32 true) 0), (.var "v5")]] [],
   .ite (.lt (.lit (.bv 8 false) 15) (.var "v4")) [.ret [(.lit (.bv 32 true) 0), (.errc .Bad7BitInt)]] [],
   .ret [(.or (.conv (.bv 32 true) (.var "v0")) (.shl (.conv (.bv 32 true) (.var "v4")) (.lit .int 28))), .nil]]

theorem r7_body : OctetsReader_Read7BitEncodedInt.body =
    .decl "v0" (.lit (.bv 32 false) 0) :: .decl "v1" (.lit .int 0) :: R7LOOP :: R7TAIL := rfl

theorem r7_params : OctetsReader_Read7BitEncodedInt.params = [] := rfl

theorem r7_tail (buf : List Byte) (num : BitVec 32) (pos a : Nat) (env : Env) (fuel : Nat)
    (hv : env.lookup "v0" = some (.bv 32 false num)) (hf : 12 ≤ fuel) :
    finish [] (exec table [] fuel R7TAIL env ⟨buf, pos, a⟩) =
      some (readOut (.bv 32 true) (.bv 32 true 0) ⟨buf, pos, a⟩ (Got.Lemmas.Codec.last7 buf num pos)) := by
  obtain ⟨g, rfl⟩ : ∃ g, fuel = g + 12 := ⟨fuel - 12, by omega⟩
  unfold R7TAIL
  rw [exec_call (vs := []) (h := rfl), r_readByte_ast buf pos a (g + 11) (by omega)]
  unfold Got.Lemmas.Codec.last7
  by_cases h : pos < buf.length
  · rw [Got.Lemmas.Codec.readByte_lt buf pos h]
    simp only [readOut]
    by_cases hb : buf[pos] > 15#8
    · have hb' : 15#8 < buf[pos] := hb
      ast_eval [hv, hb']
      simp [cv]
    · have hb' : ¬ (15#8 < buf[pos]) := hb
      ast_eval [hv, hb']
  · rw [Got.Lemmas.Codec.readByte_ge buf pos (by omega)]
    simp only [readOut]
    ast_eval [hv]
    simp [cv]

theorem r7_exit (buf : List Byte) (a n i : Nat) (num : BitVec 32) (pos : Nat) (env : Env) (g : Nat)
    (hv : env.lookup "v0" = some (.bv 32 false num)) (hi : env.lookup "v1" = some (.int (i : Int))) (hge : ¬ i < 28)
    (hf : 12 ≤ g) :
    finish [] (exec table [] (g + 1) (R7LOOP :: R7TAIL) env ⟨buf, pos, a⟩) =
      some (readOut (.bv 32 true) (.bv 32 true 0) ⟨buf, pos, a⟩ (read7Loop buf (n + 1) i num pos)) := by
  have hc : ¬ ((i : Int) < 28) := by omega
  rw [Got.Lemmas.Codec.read7Loop_ge buf n i num pos hge, exec_loop' (L := R7LOOP) (hL := rfl)]
  ast_eval [hi, hc]
  exact r7_tail buf num pos a env g hv hf

/-- `n` more rounds leave the loop (`28 ≤ i + 7 * n`), so the model's loop does not run out of its `n + 1` units; the
    term spends one unit per round at the loop statement, and 14 cover the exit (`r7_exit`) -/
theorem r7_loop (buf : List Byte) (a : Nat) : ∀ (n i : Nat) (num : BitVec 32) (pos : Nat) (env : Env) (fuel : Nat),
    env.lookup "v0" = some (.bv 32 false num) → env.lookup "v1" = some (.int (i : Int)) →
    28 ≤ i + 7 * n → n + 14 ≤ fuel →
    finish [] (exec table [] fuel (R7LOOP :: R7TAIL) env ⟨buf, pos, a⟩) =
      some (readOut (.bv 32 true) (.bv 32 true 0) ⟨buf, pos, a⟩ (read7Loop buf (n + 1) i num pos)) := by
  intro n
  induction n with
  | zero =>
    intro i num pos env fuel hv hi hn hf
    obtain ⟨g, rfl⟩ : ∃ g, fuel = g + 1 := ⟨fuel - 1, by omega⟩
    exact r7_exit buf a 0 i num pos env g hv hi (by omega) (by omega)
  | succ n ih =>
    intro i num pos env fuel hv hi hn hf
    obtain ⟨g, rfl⟩ : ∃ g, fuel = g + 6 := ⟨fuel - 6, by omega⟩
    by_cases hlt : i < 28
    · have hc : (i : Int) < 28 := by omega
      have hneg : ¬ ((i : Int) < 0) := by omega
      rw [Got.Lemmas.Codec.read7Loop_lt buf (n + 1) i num pos hlt, exec_loop' (L := R7LOOP) (hL := rfl)]
      ast_eval [hi, hc]
      rw [exec_call (vs := []) (h := rfl), r_readByte_ast buf pos a (g + 4) (by omega)]
      unfold Got.Lemmas.Codec.step7
      by_cases h : pos < buf.length
      · rw [Got.Lemmas.Codec.readByte_lt buf pos h]
        simp only [readOut]
        by_cases hb : buf[pos] ≤ 127#8
        · ast_eval [hv, hi, hb, hneg]
        · ast_eval [hv, hi, hb, hneg]
          have ih' := ih (i + 7) (num ||| ((buf[pos] &&& 127#8).setWidth 32 <<< i)) (pos + 1)
            (("v1", .int ((i : Int) + 7)) ::
              ("v0", .bv 32 false (num ||| ((buf[pos] &&& 127#8).setWidth 32 <<< i))) ::
              ("v2", .bv 8 false buf[pos]) :: ("v3", .err none) :: env) (g + 5)
            (by simp [List.lookup]) (by simp [List.lookup]) (by omega) (by omega)
          simpa [hb, finish, outsOf, readOut] using ih'
      · rw [Got.Lemmas.Codec.readByte_ge buf pos (by omega)]
        simp only [readOut]
        ast_eval [hv, hi]
        simp [cv]
    · exact r7_exit buf a (n + 1) i num pos env (g + 5) hv hi hlt (by omega)

theorem r_read7_ast (buf : List Byte) (pos a : Nat) (fuel : Nat) (hf : 90 ≤ fuel) :
    run table "OctetsReader.Read7BitEncodedInt" fuel [] ⟨buf, pos, a⟩ =
      some (readOut (.bv 32 true) (.bv 32 true 0) ⟨buf, pos, a⟩ (read7 buf pos)) := by
  refine (run_table (fn := OctetsReader_Read7BitEncodedInt) 2 (by omega) _ _ rfl).trans ?_
  rw [r7_body, r7_params, exec_decl]
  ast_eval
  -- 63 = `read7Fuel - 1` (`r7_loop` is stated for `read7Loop buf (n + 1)`); it asks for 63 + 14 units behind the two
  -- `decl`s: 90 rounds 79 up.  The 80 of WriteBytes and the 90 of WriteString below likewise round up 72 + 2 and 80 + 2.
  exact r7_loop buf a 63 0 0#32 pos _ (fuel - 2) (by simp [List.lookup]) (by simp [List.lookup]) (by omega) (by omega)

/-- what the translated WriteBytes / WriteString return: `nil`, the argument slice unchanged, the bytes appended -/
def writeSliceOut (st : St) (data : List Byte) (bs : List Byte) : Out :=
  .ret [.err none] [some data] { st with buffer := st.buffer ++ bs }

theorem w_writeBytes_ast (data : List Byte) (st : St) (fuel : Nat) (hf : 80 ≤ fuel) :
    run table "OctetsWriter.WriteBytes" fuel [.bytes data] st = (writeBytes data).map (writeSliceOut st data) := by
  have hw := Got.Lemmas.Codec.write7_eq (BitVec.ofNat 32 data.length)
  unfold writeBytes
  rw [hw, Option.map_some, Option.map_some]
  refine (run_table (fn := OctetsWriter_WriteBytes) 8 (by omega) _ _ rfl).trans ?_
  simp only [OctetsWriter_WriteBytes]
  rw [exec_decl]
  ast_eval
  rw [exec_call (vs := [.bv 32 true (BitVec.ofNat 32 data.length)]) (h := by ast_eval [BitVec.ofInt_natCast]),
    w_write7_ast _ st (fuel - 8 + 6) (by omega), hw, Option.map_some]
  simp only [writeOut]
  ast_eval
  rw [exec_call (vs := [.bytes data]) (h := by ast_eval), s_write_ast data _ (fuel - 8 + 4) (by omega)]
  ast_eval
  rw [writeSliceOut, List.append_assoc]

theorem w_writeString_ast (data : List Byte) (st : St) (fuel : Nat) (hf : 90 ≤ fuel) :
    run table "OctetsWriter.WriteString" fuel [.bytes data] st = (writeString data).map (writeSliceOut st data) := by
  refine (run_table (fn := OctetsWriter_WriteString) 4 (by omega) _ _ rfl).trans ?_
  simp only [OctetsWriter_WriteString]
  rw [exec_decl]
  ast_eval
  rw [exec_call (vs := [.bytes data]) (h := by ast_eval), w_writeBytes_ast data st (fuel - 4 + 2) (by omega)]
  unfold writeString
  cases writeBytes data with
  | none => rfl
  | some bs =>
    simp only [Option.map_some, writeSliceOut]
    ast_eval

end Got.Lemmas.CodecAst
