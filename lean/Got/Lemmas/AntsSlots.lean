import Got.Lemmas.AntsInv
/- ants model: the global transition function as a relation (`Step`, over `TStep` of Ants.lean), what a step can change,
   and the first global invariant built on them: inner-worker slots and the running-handler counter
   (C08_max_concurrency) -/
namespace Got.Model.Ants

/-- transitions whose enabledness and effect are those of the task-local part alone -/
def Act.plain : Act → Bool
  | .busyTest _ | .discardCb _ | .loopTest _ | .hook3 _ | .selDone _ | .selCtx _ | .hook2 _ | .decide _ | .writeDE _
  | .waitDone _ | .cancel _ | .errTest _ | .onError _ | .wgDone _ | .fire _ _ | .wCheck _ _ | .hook1 _ _ | .wCas _ _
  | .wWrite _ _ | .hook4 _ _ => true
  | _ => false

/-- `step` as a relation: the clock, the `plain` transitions, and one constructor for each of the eight that also change the
    task list, a channel, a slot or the counter -/
inductive Step (c : Cfg) (s : State) : Act → State → Prop
  | advance {t} : s.now < t ∧ timersAllow s t = true → Step c s (.advance t) { s with now := t }
  | plain {act t'} : act.plain = true → TStep c s.now s.taskQ.length (s.task act.task) act t' →
      Step c s act (s.setTask act.task t')
  | send {k o t'} : TStep c s.now s.taskQ.length (s.task k) (.send k o) t' →
      Step c s (.send k o) { s.setTask k t' with tasks := s.tasks ++ [k] }
  | enq {k t'} : TStep c s.now s.taskQ.length (s.task k) (.enq k) t' → s.taskQ.length < c.N →
      Step c s (.enq k) { s.setTask k t' with taskQ := s.taskQ ++ [k] }
  | take {k rest t'} : TStep c s.now s.taskQ.length (s.task k) (.take k) t' → s.taskQ = k :: rest →
      dispatching s < c.N → Step c s (.take k) { s.setTask k t' with taskQ := rest }
  | sendCl {k t'} : TStep c s.now s.taskQ.length (s.task k) (.sendCl k) t' → s.innerQ.length < c.N →
      Step c s (.sendCl k) { s.setTask k t' with innerQ := s.innerQ ++ [(k, (s.task k).cur)] }
  | wTake {k a w rest t'} : TStep c s.now s.taskQ.length (s.task k) (.wTake k a w) t' → s.innerQ = (k, a) :: rest →
      w < c.N → s.slot w = none →
      Step c s (.wTake k a w) { s.setTask k t' with innerQ := rest, slot := upd s.slot w (some (k, a)) }
  | wStart {k a hon t'} : TStep c s.now s.taskQ.length (s.task k) (.wStart k a hon) t' →
      Step c s (.wStart k a hon)
        { s.setTask k t' with running := s.running + 1, maxRunning := max s.maxRunning (s.running + 1) }
  | wEnd {k a v e t'} : TStep c s.now s.taskQ.length (s.task k) (.wEnd k a v e) t' →
      Step c s (.wEnd k a v e) { s.setTask k t' with running := s.running - 1 }
  | wClose {k a w t'} : TStep c s.now s.taskQ.length (s.task k) (.wClose k a) t' →
      ((s.task k).at_ a).pc.slot? = some w → Step c s (.wClose k a) { s.setTask k t' with slot := upd s.slot w none }

theorem step_plain {c : Cfg} {s : State} {act : Act} (hpl : act.plain = true) :
    step c s act = (tstep c s.now s.taskQ.length (s.task act.task) act).map (fun t' => s.setTask act.task t') := by
  cases act <;> first
    | (cases hpl; done)
    | (simp only [step]; cases tstep c s.now s.taskQ.length (s.task _) _ <;> rfl)

theorem Step.of_step {c : Cfg} {s s2 : State} {act : Act} (h : step c s act = some s2) : Step c s act s2 := by
  rcases step_task h with ⟨t, rfl, _⟩ | ⟨t', ht, _⟩
  · simp only [step] at h
    split at h <;> cases h
    exact .advance ‹_›
  have hT := TStep.of_tstep ht
  by_cases hpl : act.plain = true
  · rw [step_plain hpl, ht] at h; cases h; exact .plain hpl hT
  cases act <;> (try exact absurd rfl hpl) <;> simp only [step, ht] at h
  case take k =>
    (repeat' split at h) <;> cases h
    rename_i k' rest hq hg
    obtain ⟨rfl, hd⟩ := hg
    exact .take hT hq hd
  case wTake k a w =>
    (repeat' split at h) <;> cases h
    rename_i p rest hq hg
    obtain ⟨rfl, hw, hf⟩ := hg
    exact .wTake hT hq hw hf
  case advance => cases hT
  case send => cases h; exact .send hT
  case enq => split at h <;> cases h; exact .enq hT ‹_›
  case sendCl => split at h <;> cases h; exact .sendCl hT ‹_›
  case wStart => cases h; exact .wStart hT
  case wEnd => cases h; exact .wEnd hT
  case wClose => split at h <;> cases h; exact .wClose hT ‹_›

theorem Step.to_step {c : Cfg} {s s2 : State} {act : Act} (h : Step c s act s2) : step c s act = some s2 := by
  cases h with
  | advance hg => simp only [step, hg, and_self, ↓reduceIte]
  | plain hp ht => rw [step_plain hp, ht.to_tstep]; rfl
  | send ht | wStart ht | wEnd ht => simp only [step, Act.task, ht.to_tstep]
  | enq ht hl | sendCl ht hl => simp only [step, Act.task, ht.to_tstep, hl, ↓reduceIte]
  | take ht hq hd => simp only [step, Act.task, ht.to_tstep]; simp only [hq, hd, and_self, ↓reduceIte]
  | wTake ht hq hw hf => simp only [step, Act.task, ht.to_tstep, hq, hw, hf, and_self, ↓reduceIte]
  | wClose ht hs => simp only [step, Act.task, ht.to_tstep, hs]

def Act.isSend : Act → Bool
  | .send _ _ => true
  | _ => false

def Act.isClock : Act → Bool
  | .advance _ => true
  | _ => false

theorem step_self {c : Cfg} {s s2 : State} {act : Act} (hc : act.isClock = false) (h : step c s act = some s2) :
    TStep c s.now s.taskQ.length (s.task act.task) act (s2.task act.task) := by
  rcases step_task h with ⟨_, rfl, _⟩ | ⟨t', ht, e⟩
  · cases hc
  · rw [e, upd_same]; exact .of_tstep ht

theorem step_now {c : Cfg} {s s2 : State} {act : Act} (h : step c s act = some s2) :
    s2.now = s.now ∨ ∃ t, act = .advance t := by
  cases Step.of_step h <;> first | exact .inl rfl | exact .inr ⟨_, rfl⟩

theorem step_tasks {c : Cfg} {s s2 : State} {act : Act} (h : step c s act = some s2) :
    s2.tasks = if act.isSend then s.tasks ++ [act.task] else s.tasks := by
  cases Step.of_step h
  case plain hp _ => cases act <;> first | rfl | cases hp
  all_goals rfl

theorem step_taskQ {c : Cfg} {s s2 : State} {act : Act} (h : step c s act = some s2) :
    (∃ k, act = .enq k ∧ s.taskQ.length < c.N ∧ s2.taskQ = s.taskQ ++ [k]) ∨
    (∃ k, act = .take k ∧ dispatching s < c.N ∧ s.taskQ = k :: s2.taskQ) ∨
    ((∀ k, act ≠ .enq k) ∧ (∀ k, act ≠ .take k) ∧ s2.taskQ = s.taskQ) := by
  cases Step.of_step h
  case enq hl => exact .inl ⟨_, rfl, hl, rfl⟩
  case take hq hd => exact .inr (.inl ⟨_, rfl, hd, hq⟩)
  case plain hp _ => exact .inr (.inr ⟨(by rintro _ rfl; cases hp), (by rintro _ rfl; cases hp), rfl⟩)
  all_goals exact .inr (.inr ⟨nofun, nofun, rfl⟩)

theorem step_innerQ {c : Cfg} {s s2 : State} {act : Act} (h : step c s act = some s2) :
    (∃ k, act = .sendCl k ∧ s2.innerQ = s.innerQ ++ [(k, (s.task k).cur)]) ∨
    (∃ k a w, act = .wTake k a w ∧ s.innerQ = (k, a) :: s2.innerQ) ∨
    ((∀ k, act ≠ .sendCl k) ∧ (∀ k a w, act ≠ .wTake k a w) ∧ s2.innerQ = s.innerQ) := by
  cases Step.of_step h
  case sendCl => exact .inl ⟨_, rfl, rfl⟩
  case wTake hq _ _ => exact .inr (.inl ⟨_, _, _, rfl, hq⟩)
  case plain hp _ => exact .inr (.inr ⟨(by rintro _ rfl; cases hp), (by rintro _ _ _ rfl; cases hp), rfl⟩)
  all_goals exact .inr (.inr ⟨nofun, nofun, rfl⟩)

/-- the actions that move a closure into or out of a slot, or a handler call into or out of the counter -/
def Act.slotAct : Act → Bool
  | .wTake _ _ _ | .wStart _ _ _ | .wEnd _ _ _ _ | .wClose _ _ => true
  | _ => false

theorem step_slot_same {c : Cfg} {s s2 : State} {act : Act} (hs : act.slotAct = false)
    (h : step c s act = some s2) : s2.slot = s.slot ∧ s2.running = s.running := by
  cases Step.of_step h <;> first | exact ⟨rfl, rfl⟩ | cases hs

theorem step_max {c : Cfg} {s s2 : State} {act : Act} (h : step c s act = some s2) :
    s2.maxRunning = s.maxRunning ∨ s2.maxRunning = max s.maxRunning s2.running := by
  cases Step.of_step h <;> first | exact .inl rfl | exact .inr rfl

def CPc.isRunning : CPc → Bool | .running _ _ => true | _ => false

/-- inner worker w is inside a handler call -/
def inH (s : State) (w : Nat) : Bool :=
  match s.slot w with
  | some (k, a) => ((s.task k).at_ a).pc.isRunning
  | none => false

def cnt (p : Nat → Bool) : Nat → Nat
  | 0 => 0
  | n + 1 => cnt p n + (if p n then 1 else 0)

theorem cnt_le (p : Nat → Bool) (n : Nat) : cnt p n ≤ n := by
  induction n with
  | zero => simp [cnt]
  | succ m ih => simp only [cnt]; split <;> omega

theorem cnt_congr (p q : Nat → Bool) (n : Nat) (h : ∀ w, w < n → p w = q w) : cnt p n = cnt q n := by
  induction n with
  | zero => rfl
  | succ m ih =>
    simp only [cnt]
    rw [ih (fun w hw => h w (by omega)), h m (by omega)]

theorem cnt_flip (p q : Nat → Bool) (n w : Nat) (hw : w < n) (h : ∀ w', w' < n → w' ≠ w → p w' = q w') :
    cnt q n + (if p w then 1 else 0) = cnt p n + (if q w then 1 else 0) := by
  induction n with
  | zero => omega
  | succ m ih =>
    simp only [cnt]
    by_cases hm : m = w
    · subst hm
      rw [cnt_congr p q m (fun w' hw' => h w' (by omega) (by omega))]
      omega
    · have := ih (by omega) (fun w' hw' hne => h w' (by omega) hne)
      rw [h m (by omega) hm]
      omega

theorem cnt_false (p : Nat → Bool) (n : Nat) (h : ∀ w, p w = false) : cnt p n = 0 := by
  induction n with
  | zero => rfl
  | succ m ih => simp [cnt, ih, h]

/-- slot ownership is a bijection between busy slots and closures held by a worker; the ghost counter `running`
    counts the slots whose closure is inside the handler -/
structure SlotInv (c : Cfg) (s : State) : Prop where
  own : ∀ k a w, ((s.task k).at_ a).pc.slot? = some w → s.slot w = some (k, a) ∧ w < c.N
  back : ∀ w k a, s.slot w = some (k, a) → ((s.task k).at_ a).pc.slot? = some w
  run : s.running = cnt (inH s) c.N

theorem slotInv_init (c : Cfg) : SlotInv c init := by
  constructor
  · intro k a w h; simp [init, CPc.slot?] at h
  · intro w k a h; simp [init] at h
  · rw [cnt_false _ _ fun w => by simp [inH, init]]; rfl

theorem upd_proj {β : Type} (g : Att → β) {f : Nat → Att} {a : Nat} {x : Att} (h : g x = g (f a)) (b : Nat) :
    g (upd f a x b) = g (f b) := by
  by_cases hb : b = a
  · rw [hb, upd_same, h]
  · rw [upd_other hb]

/-- the control flow of a closure: transition `act` takes the closure of attempt `b` of task `k` from stage `p` to
    stage `p'` -/
inductive CMove (k b : Nat) : CPc → Act → CPc → Prop
  | sendCl : CMove k b .none (.sendCl k) .queued
  | wTake {w} : CMove k b .queued (.wTake k b w) (.taken w)
  | wStart {w hon} : CMove k b (.taken w) (.wStart k b hon) (.running w hon)
  | wEnd {w hon v e} : CMove k b (.running w hon) (.wEnd k b v e) (.returned w v e)
  | checkDone {w v e} : CMove k b (.returned w v e) (.wCheck k b) (.closing w)
  | checkLive {w v e} : CMove k b (.returned w v e) (.wCheck k b) (.hook1 w v e)
  | hook1Old {w v e} : CMove k b (.hook1 w v e) (.hook1 k b) (.write w v e)
  | hook1 {w v e} : CMove k b (.hook1 w v e) (.hook1 k b) (.cas w v e)
  | casWin {w v e} : CMove k b (.cas w v e) (.wCas k b) (.hook4 w v e)
  | casLose {w v e} : CMove k b (.cas w v e) (.wCas k b) (.closing w)
  | hook4 {w v e} : CMove k b (.hook4 w v e) (.hook4 k b) (.write w v e)
  | wWrite {w v e} : CMove k b (.write w v e) (.wWrite k b) (.closing w)
  | wClose {w} : CMove k b (.closing w) (.wClose k b) .closed

theorem cmove_upd {a cur : Nat} {f : Nat → Att} {x : Att} {act : Act}
    (m : ∃ k, CMove k a (f a).pc act x.pc ∧ (act = .sendCl k → a = cur)) (b : Nat) :
    (upd f a x b).pc = (f b).pc ∨ ∃ k, CMove k b (f b).pc act (upd f a x b).pc ∧ (act = .sendCl k → b = cur) := by
  by_cases hba : b = a
  · rw [hba, upd_same]; exact .inr m
  · rw [upd_other hba]; exact .inl rfl

/-- `k` is the task the action names; the second component: the hand-over moves no closure but that of the current attempt -/
theorem tstep_cpc {c : Cfg} {now qlen : Nat} {t t' : Task} {act : Act} (ok : TaskOK t)
    (h : TStep c now qlen t act t') (b : Nat) :
    (t'.at_ b).pc = (t.at_ b).pc ∨
      ∃ k, CMove k b (t.at_ b).pc act (t'.at_ b).pc ∧ (act = .sendCl k → b = t.cur) := by
  -- `begin` overwrites the record `t.att`, which is untouched so far
  have hb := ok.beyond t.att (Nat.le_refl _)
  cases h
  case begin => exact .inl (upd_proj (·.pc) (by rw [hb]) b)
  case decideWin | cancel | fire => exact .inl (upd_proj (·.pc) (by rfl) b)
  case sendCl hp =>
    exact cmove_upd ⟨_, by rw [hp.2]; constructor, fun _ => rfl⟩ b
  case wTake hp | wStart hp | wEnd hp | checkDone hp _ | checkLive hp _ | hook1Old hp _ | hook1 hp _ | casWin hp _
      | casLose hp _ | hook4 hp | wWrite hp | wClose hp =>
    exact cmove_upd ⟨_, by rw [hp]; constructor, by intro e; cases e⟩ b
  all_goals exact .inl rfl

/-- what `SlotInv` reads of an attempt record: the slot its closure holds, and whether it is inside the handler -/
def sig (x : Att) : Option Nat × Bool := (x.pc.slot?, x.pc.isRunning)

theorem tstep_sig {c : Cfg} {now qlen : Nat} {t t' : Task} {act : Act} (hs : act.slotAct = false) (ok : TaskOK t)
    (h : TStep c now qlen t act t') (b : Nat) : sig (t'.at_ b) = sig (t.at_ b) := by
  unfold sig
  rcases tstep_cpc ok h b with e | ⟨k, m, _⟩
  · rw [e]
  · generalize (t.at_ b).pc = p, (t'.at_ b).pc = p' at m
    cases m <;> first | rfl | cases hs

theorem inH_congr {s s2 : State} {w : Nat} (hs : s2.slot w = s.slot w)
    (hr : ∀ k a, s.slot w = some (k, a) → ((s2.task k).at_ a).pc.isRunning = ((s.task k).at_ a).pc.isRunning) :
    inH s2 w = inH s w := by
  simp only [inH, hs]
  split
  · exact hr _ _ ‹_›
  · rfl

theorem slotInv_same {c : Cfg} {s s2 : State} (hi : SlotInv c s) (hs : s2.slot = s.slot) (hr : s2.running = s.running)
    (hsig : ∀ k a, sig ((s2.task k).at_ a) = sig ((s.task k).at_ a)) : SlotInv c s2 := by
  have hsl : ∀ k a, ((s2.task k).at_ a).pc.slot? = ((s.task k).at_ a).pc.slot? := fun k a =>
    congrArg Prod.fst (hsig k a)
  constructor
  · intro k a w h; rw [hsl] at h; rw [hs]; exact hi.own k a w h
  · intro w k a h; rw [hs] at h; rw [hsl]; exact hi.back w k a h
  · rw [hr, hi.run]
    exact (cnt_congr _ _ _ fun w _ => inH_congr (congrFun hs w) fun k a _ => congrArg Prod.snd (hsig k a)).symm

def OnlyChanged (s s2 : State) (k a : Nat) : Prop :=
  ∀ k' a', ¬(k' = k ∧ a' = a) → (s2.task k').at_ a' = (s.task k').at_ a'

theorem running_pos {c : Cfg} {s : State} (hi : SlotInv c s) {k a w : Nat} {hon : Bool}
    (hq : ((s.task k).at_ a).pc = .running w hon) : 1 ≤ s.running := by
  have hold : ((s.task k).at_ a).pc.slot? = some w := by rw [hq]; rfl
  obtain ⟨hsw, hwN⟩ := hi.own k a w hold
  have h1 : inH s w = true := by simp [inH, hsw, hq, CPc.isRunning]
  have := cnt_flip (inH s) (fun w' => if w' = w then false else inH s w') c.N w hwN
    (fun w' _ hne => by simp [hne])
  simp [h1] at this
  rw [hi.run]
  omega

/-- slot `w` and closure `(k, a)` belong to each other, or the slot is free and the closure holds none -/
def Paired (s : State) (w k a : Nat) : Prop :=
  s.slot w = some (k, a) ∧ ((s.task k).at_ a).pc.slot? = some w ∨
  s.slot w = none ∧ ((s.task k).at_ a).pc.slot? = none

theorem slotInv_move {c : Cfg} {s s2 : State} {k a w : Nat} (hi : SlotInv c s) (hch : OnlyChanged s s2 k a)
    (hsl : ∀ w', w' ≠ w → s2.slot w' = s.slot w') (hw : w < c.N) (hold : Paired s w k a) (hnew : Paired s2 w k a)
    (hr : s2.running + (if inH s w then 1 else 0) = s.running + (if inH s2 w then 1 else 0)) : SlotInv c s2 := by
  have hcl : ∀ k' a' w', ¬(k' = k ∧ a' = a) → ((s.task k').at_ a').pc.slot? = some w' → w' ≠ w := by
    rintro k' a' w' hka h rfl
    have := (hi.own k' a' _ h).1
    rcases hold with ⟨e, _⟩ | ⟨e, _⟩ <;> rw [e] at this <;> cases this
    exact hka ⟨rfl, rfl⟩
  have hsw : ∀ w' k' a', w' ≠ w → s.slot w' = some (k', a') → ¬(k' = k ∧ a' = a) := by
    rintro w' k' a' hww h ⟨rfl, rfl⟩
    have := hi.back w' _ _ h
    rcases hold with ⟨_, e⟩ | ⟨_, e⟩ <;> rw [e] at this <;> cases this
    exact hww rfl
  constructor
  · intro k' a' w' h
    by_cases hka : k' = k ∧ a' = a
    · obtain ⟨rfl, rfl⟩ := hka
      rcases hnew with ⟨e1, e2⟩ | ⟨_, e2⟩ <;> rw [e2] at h <;> cases h
      exact ⟨e1, hw⟩
    · rw [hch k' a' hka] at h
      rw [hsl w' (hcl k' a' w' hka h)]; exact hi.own k' a' w' h
  · intro w' k' a' h
    by_cases hww : w' = w
    · subst hww
      rcases hnew with ⟨e1, e2⟩ | ⟨e1, _⟩ <;> rw [e1] at h <;> cases h
      exact e2
    · rw [hsl w' hww] at h
      rw [hch k' a' (hsw w' k' a' hww h)]; exact hi.back w' k' a' h
  · have hother : ∀ w', w' < c.N → w' ≠ w → inH s w' = inH s2 w' := fun w' _ hww =>
      (inH_congr (hsl w' hww) fun k' a' h => by rw [hch k' a' (hsw w' k' a' hww h)]).symm
    have := cnt_flip (inH s) (inH s2) c.N w hw hother
    have := hi.run
    omega

theorem onlyChanged_setAt {s : State} {k a : Nat} {x : Att} {t' : Task} {s2 : State} (hs : s2.task = upd s.task k t')
    (ht : t'.at_ = upd (s.task k).at_ a x) : OnlyChanged s s2 k a := by
  intro k' a' hne
  rw [hs]
  by_cases hk : k' = k
  · subst hk; rw [upd_same, ht, upd_other fun h => hne ⟨rfl, h⟩]
  · rw [upd_other hk]

theorem slotInv_step_slotAct {c : Cfg} {s s2 : State} {act : Act} (hs : act.slotAct = true) (hi : SlotInv c s)
    (h : Step c s act s2) : SlotInv c s2 := by
  cases h with
  | plain hp => cases act <;> first | (cases hs; done) | cases hp
  | wTake ht hq hw hf =>
    cases ht with | wTake hpc =>
    refine slotInv_move hi (onlyChanged_setAt rfl rfl) (fun w' hww => upd_other hww) hw
      (.inr ⟨hf, by rw [hpc]; rfl⟩) (.inl ⟨upd_same _ _ _, by simp [State.setTask, CPc.slot?]⟩) ?_
    simp [inH, hf, State.setTask, CPc.isRunning]
  | wStart ht =>
    cases ht with | wStart hpc =>
    rename_i k a hon w
    obtain ⟨hsw, hwN⟩ := hi.own k a w (by rw [hpc]; rfl)
    refine slotInv_move hi (onlyChanged_setAt rfl rfl) (fun _ _ => rfl) hwN (.inl ⟨hsw, by rw [hpc]; rfl⟩)
      (.inl ⟨hsw, by simp [State.setTask, CPc.slot?]⟩) ?_
    simp [inH, hsw, hpc, State.setTask, CPc.isRunning]
  | wEnd ht =>
    cases ht with | wEnd hpc =>
    rename_i k a v e w hon
    obtain ⟨hsw, hwN⟩ := hi.own k a w (by rw [hpc]; rfl)
    have hpos := running_pos hi hpc
    refine slotInv_move hi (onlyChanged_setAt rfl rfl) (fun _ _ => rfl) hwN (.inl ⟨hsw, by rw [hpc]; rfl⟩)
      (.inl ⟨hsw, by simp [State.setTask, CPc.slot?]⟩) ?_
    simp [inH, hsw, hpc, State.setTask, CPc.isRunning]
    omega
  | wClose ht hsl =>
    cases ht with | wClose hpc =>
    rename_i k a w w'
    rw [hpc] at hsl; cases hsl
    obtain ⟨hsw, hwN⟩ := hi.own k a w (by rw [hpc]; rfl)
    refine slotInv_move hi (onlyChanged_setAt rfl rfl) (fun w' hww => upd_other hww) hwN
      (.inl ⟨hsw, by rw [hpc]; rfl⟩) (.inr ⟨upd_same _ _ _, by simp [State.setTask, CPc.slot?]⟩) ?_
    simp [inH, hsw, hpc, State.setTask, CPc.isRunning]
  | _ => cases hs

theorem slotInv_step {c : Cfg} {s s2 : State} {act : Act} (hinv : Inv s) (hi : SlotInv c s)
    (h : step c s act = some s2) : SlotInv c s2 := by
  cases hs : act.slotAct
  · obtain ⟨e1, e2⟩ := step_slot_same hs h
    refine slotInv_same hi e1 e2 fun k a => ?_
    rcases step_task_cases h k with e | ⟨rfl, ht⟩
    · rw [e]
    · exact tstep_sig hs (hinv _) ht a
  · exact slotInv_step_slotAct hs hi (.of_step h)

theorem slotInv_reachable {c : Cfg} (hc : c.old = false) {s : State} (h : Reachable c s) :
    SlotInv c s ∧ s.maxRunning ≤ c.N := by
  obtain ⟨acts, ha⟩ := h
  refine (run_inv (P := fun s => Inv s ∧ SlotInv c s ∧ s.maxRunning ≤ c.N) ?_ ⟨inv_init, slotInv_init c, Nat.zero_le _⟩ ha).2
  intro s s1 act ⟨hinv, hi, hm⟩ hs
  have hi1 := slotInv_step hinv hi hs
  refine ⟨inv_step hc hinv hs, hi1, ?_⟩
  rcases step_max hs with e | e <;> rw [e]
  · exact hm
  · exact Nat.max_le.mpr ⟨hm, by rw [hi1.run]; exact cnt_le _ _⟩

end Got.Model.Ants
