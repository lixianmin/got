import Got.Model.Aes
/-
Lemmas for C19.  The block modes are treated on block lists of the shape `Blocks` that `chunks` produces.  Each of the
four methods is `crypt` (allocate, one library call) under its guards: what it does to memory goes through `Frame`,
what it returns is the value-level function of the bytes the input slice reads.
-/
namespace Got.Lemmas.Aes
open Got.Model.Aes
open Got.Spec.Aes (Byte xorBytes chunks chunksAux cbcEncBlocks cbcDecBlocks cfbEncBlocks cfbDecBlocks pkcs7)

theorem xor_cancel (a b : UInt8) : (a ^^^ b) ^^^ b = a := by
  rw [UInt8.xor_assoc, UInt8.xor_self, UInt8.xor_zero]

theorem xorBytes_length (a b : List Byte) : (xorBytes a b).length = min a.length b.length := by
  simp [xorBytes]

theorem xorBytes_cancel : ∀ (p k : List Byte), p.length ≤ k.length → xorBytes (xorBytes p k) k = p
  | [], _, _ => by simp [xorBytes]
  | _ :: _, [], h => by simp at h
  | a :: p, b :: k, h => by
    have ih := xorBytes_cancel p k (by simpa using h)
    simp only [xorBytes] at ih ⊢
    simp only [List.zipWith_cons_cons, xor_cancel, ih]

theorem chunksAux_fuel (n : Nat) (hn : 0 < n) : ∀ (f1 f2 : Nat) (l : List Byte),
    l.length ≤ f1 → l.length ≤ f2 → chunksAux n f1 l = chunksAux n f2 l := by
  intro f1
  induction f1 with
  | zero =>
    intro f2 l h1 _
    have : l = [] := List.eq_nil_of_length_eq_zero (by omega)
    subst this
    cases f2 <;> simp [chunksAux]
  | succ f1 ih =>
    intro f2 l h1 h2
    cases f2 with
    | zero =>
      have : l = [] := List.eq_nil_of_length_eq_zero (by omega)
      subst this
      simp [chunksAux]
    | succ f2 =>
      simp only [chunksAux]
      split
      · rfl
      · rename_i hne
        have hl : 0 < l.length := by
          cases l with
          | nil => simp at hne
          | cons _ _ => simp
        rw [ih f2 (l.drop n) (by simp; omega) (by simp; omega)]

theorem chunks_nil (n : Nat) : chunks n [] = [] := by simp [chunks, chunksAux]

theorem chunks_cons (n : Nat) (hn : 0 < n) (l : List Byte) (h0 : 0 < l.length) :
    chunks n l = l.take n :: chunks n (l.drop n) := by
  unfold chunks
  obtain ⟨k, hk⟩ : ∃ k, l.length = k + 1 := ⟨l.length - 1, by omega⟩
  rw [hk, chunksAux, if_neg (by rw [List.isEmpty_iff_length_eq_zero]; omega),
    chunksAux_fuel n hn k _ _ (by rw [List.length_drop]; omega) (Nat.le_refl _)]

theorem chunks_append (n : Nat) (hn : 0 < n) (b rest : List Byte) (hb : b.length = n) :
    chunks n (b ++ rest) = b :: chunks n rest := by
  rw [chunks_cons n hn _ (by rw [List.length_append]; omega), List.take_left' hb, List.drop_left' hb]

theorem chunks_single (n : Nat) (b : List Byte) (h0 : 0 < b.length) (hb : b.length ≤ n) :
    chunks n b = [b] := by
  rw [chunks_cons n (Nat.lt_of_lt_of_le h0 hb) b h0, List.take_of_length_le hb, List.drop_of_length_le hb, chunks_nil]

/-- shape of what `chunks n` produces: all blocks full except possibly the last, which is non-empty -/
inductive Blocks (n : Nat) : List (List Byte) → Prop
  | nil : Blocks n []
  | last (b : List Byte) : 0 < b.length → b.length ≤ n → Blocks n [b]
  | cons (b : List Byte) (rest : List (List Byte)) : b.length = n → Blocks n rest → Blocks n (b :: rest)

theorem chunks_flatten (n : Nat) (hn : 0 < n) (bs : List (List Byte)) (h : Blocks n bs) :
    chunks n bs.flatten = bs := by
  induction h with
  | nil => simp [chunks_nil]
  | last b h0 hb => simpa using chunks_single n b h0 hb
  | cons b rest hb _ ih => simp only [List.flatten_cons]; rw [chunks_append n hn b _ hb, ih]

theorem chunks_spec (n : Nat) (hn : 0 < n) (l : List Byte) : Blocks n (chunks n l) ∧ (chunks n l).flatten = l := by
  induction hk : l.length using Nat.strongRecOn generalizing l with
  | _ k ih =>
    by_cases hl : l.length ≤ n
    · by_cases h0 : l.length = 0
      · obtain rfl := List.eq_nil_of_length_eq_zero h0
        rw [chunks_nil]
        exact ⟨Blocks.nil, rfl⟩
      · rw [chunks_single n l (by omega) hl]
        exact ⟨Blocks.last l (by omega) hl, List.append_nil l⟩
    · have htl : (l.take n).length = n := by rw [List.length_take]; omega
      obtain ⟨h1, h2⟩ := ih _ (by rw [← hk, List.length_drop]; omega) (l.drop n) rfl
      rw [← List.take_append_drop n l, chunks_append n hn _ _ htl]
      exact ⟨Blocks.cons _ _ htl h1, by rw [List.flatten_cons, h2, List.take_append_drop]⟩

def AllLen (n : Nat) (bs : List (List Byte)) : Prop := ∀ b ∈ bs, b.length = n

theorem AllLen.blocks {n : Nat} (hn : 0 < n) : ∀ {bs : List (List Byte)}, AllLen n bs → Blocks n bs
  | [], _ => Blocks.nil
  | b :: rest, h => Blocks.cons b rest (h b (by simp)) (AllLen.blocks hn (fun x hx => h x (by simp [hx])))

theorem Blocks.allLen {n : Nat} {bs : List (List Byte)} (h : Blocks n bs) (hm : bs.flatten.length % n = 0) :
    AllLen n bs := by
  induction h with
  | nil => intro b hb; cases hb
  | last b h0 hb =>
    intro x hx
    obtain rfl := List.mem_singleton.1 hx
    rw [List.flatten_cons, List.flatten_nil, List.append_nil] at hm
    rcases Nat.lt_or_ge x.length n with hlt | hge
    · rw [Nat.mod_eq_of_lt hlt] at hm; omega
    · omega
  | cons b rest hb _ ih =>
    rw [List.flatten_cons, List.length_append, hb, Nat.add_mod_left] at hm
    intro x hx
    rcases List.mem_cons.1 hx with rfl | hx
    · exact hb
    · exact ih hm x hx

theorem chunks_allLen (n : Nat) (hn : 0 < n) (l : List Byte) (hm : l.length % n = 0) : AllLen n (chunks n l) :=
  (chunks_spec n hn l).1.allLen (by rw [(chunks_spec n hn l).2]; exact hm)

theorem pos16 : 0 < 16 := by decide

/-- CBC applies `D` to a whole block, hence `AllLen` and the inverse as a hypothesis of the third part; CFB
    (`cfb_blocks`) xors with `E prev` both ways and takes a short last block -/
theorem cbc_blocks (E D : BlockFn) (hE : ∀ b : List Byte, b.length = 16 → (E b).length = 16) :
    ∀ (ps : List (List Byte)) (prev : List Byte), prev.length = 16 → AllLen 16 ps →
      AllLen 16 (cbcEncBlocks E prev ps) ∧ (cbcEncBlocks E prev ps).flatten.length = ps.flatten.length ∧
      ((∀ b : List Byte, b.length = 16 → D (E b) = b) → cbcDecBlocks D prev (cbcEncBlocks E prev ps) = ps)
  | [], _, _, _ => ⟨nofun, rfl, fun _ => rfl⟩
  | p :: ps, prev, hp, h => by
    have hpl : p.length = 16 := h p (by simp)
    have hx : (xorBytes p prev).length = 16 := by rw [xorBytes_length]; omega
    have hc : (E (xorBytes p prev)).length = 16 := hE _ hx
    obtain ⟨i1, i2, i3⟩ := cbc_blocks E D hE ps _ hc (fun x hx => h x (by simp [hx]))
    refine ⟨fun b hb => ?_, ?_, fun hD => ?_⟩
    · rcases List.mem_cons.mp hb with rfl | hb
      · exact hc
      · exact i1 b hb
    · simp only [cbcEncBlocks, List.flatten_cons, List.length_append, hc, hpl, i2]
    · simp only [cbcEncBlocks, cbcDecBlocks]
      rw [hD _ hx, xorBytes_cancel p prev (by omega), i3 hD]

theorem cbcEncrypt_length (E : BlockFn) (hE : ∀ b : List Byte, b.length = 16 → (E b).length = 16)
    (iv p : List Byte) (hiv : iv.length = 16) (hp : p.length % 16 = 0) :
    (Got.Spec.Aes.cbcEncrypt E iv p).length = p.length := by
  have := (cbc_blocks E E hE _ iv hiv (chunks_allLen 16 pos16 p hp)).2.1
  unfold Got.Spec.Aes.cbcEncrypt
  rw [this, (chunks_spec 16 pos16 p).2]

theorem cbc_roundtrip (E D : BlockFn) (hE : ∀ b : List Byte, b.length = 16 → (E b).length = 16)
    (hD : ∀ b : List Byte, b.length = 16 → D (E b) = b) (iv p : List Byte) (hiv : iv.length = 16)
    (hp : p.length % 16 = 0) :
    Got.Spec.Aes.cbcDecrypt D iv (Got.Spec.Aes.cbcEncrypt E iv p) = p := by
  obtain ⟨h1, _, h2⟩ := cbc_blocks E D hE _ iv hiv (chunks_allLen 16 pos16 p hp)
  unfold Got.Spec.Aes.cbcDecrypt Got.Spec.Aes.cbcEncrypt
  rw [chunks_flatten 16 pos16 _ (AllLen.blocks pos16 h1), h2 hD, (chunks_spec 16 pos16 p).2]

theorem cfb_blocks (E : BlockFn) (hE : ∀ b : List Byte, b.length = 16 → (E b).length = 16) :
    ∀ (ps : List (List Byte)) (prev : List Byte), prev.length = 16 → Blocks 16 ps →
      Blocks 16 (cfbEncBlocks E prev ps) ∧ (cfbEncBlocks E prev ps).flatten.length = ps.flatten.length ∧
      cfbDecBlocks E prev (cfbEncBlocks E prev ps) = ps := by
  intro ps prev hprev h
  induction h generalizing prev with
  | nil => exact ⟨Blocks.nil, rfl, rfl⟩
  | last b h0 hb =>
    have hk : (E prev).length = 16 := hE _ hprev
    have hl : (xorBytes b (E prev)).length = b.length := by rw [xorBytes_length, hk]; exact Nat.min_eq_left hb
    refine ⟨?_, ?_, ?_⟩
    · simp only [cfbEncBlocks]; exact Blocks.last _ (hl.symm ▸ h0) (hl.symm ▸ hb)
    · simp [cfbEncBlocks, hl]
    · simp only [cfbEncBlocks, cfbDecBlocks]; rw [xorBytes_cancel b _ (hk.symm ▸ hb)]
  | cons b rest hb _ ih =>
    have hk : (E prev).length = 16 := hE _ hprev
    have hl : (xorBytes b (E prev)).length = 16 := by rw [xorBytes_length, hk, hb, Nat.min_self]
    obtain ⟨i1, i2, i3⟩ := ih (xorBytes b (E prev)) hl
    refine ⟨?_, ?_, ?_⟩
    · simp only [cfbEncBlocks]; exact Blocks.cons _ _ hl i1
    · simp only [cfbEncBlocks, List.flatten_cons, List.length_append, hl, hb, i2]
    · simp only [cfbEncBlocks, cfbDecBlocks]; rw [xorBytes_cancel b _ (Nat.le_of_eq (hb.trans hk.symm)), i3]

theorem cfbEncrypt_length (E : BlockFn) (hE : ∀ b : List Byte, b.length = 16 → (E b).length = 16)
    (iv p : List Byte) (hiv : iv.length = 16) : (Got.Spec.Aes.cfbEncrypt E iv p).length = p.length := by
  obtain ⟨hb, hfl⟩ := chunks_spec 16 pos16 p
  have := (cfb_blocks E hE _ iv hiv hb).2.1
  unfold Got.Spec.Aes.cfbEncrypt
  rw [this, hfl]

theorem cfb_roundtrip (E : BlockFn) (hE : ∀ b : List Byte, b.length = 16 → (E b).length = 16)
    (iv p : List Byte) (hiv : iv.length = 16) :
    Got.Spec.Aes.cfbDecrypt E iv (Got.Spec.Aes.cfbEncrypt E iv p) = p := by
  obtain ⟨hb, hfl⟩ := chunks_spec 16 pos16 p
  obtain ⟨h1, _, h2⟩ := cfb_blocks E hE _ iv hiv hb
  unfold Got.Spec.Aes.cfbDecrypt Got.Spec.Aes.cfbEncrypt
  rw [chunks_flatten 16 pos16 _ h1, h2, hfl]

theorem arr_append_lt (st : Store) (x : List Byte) (i : Nat) (h : i < st.length) :
    Store.arr (st ++ [x]) i = st.arr i := by
  simp [Store.arr, List.getD_eq_getElem?_getD, List.getElem?_append_left h]

theorem arr_append_eq (st : Store) (x : List Byte) : Store.arr (st ++ [x]) st.length = x := by
  simp [Store.arr, List.getD_eq_getElem?_getD]

theorem length_write (st : Store) (id pos : Nat) (xs : List Byte) : (st.write id pos xs).length = st.length := by
  simp [Store.write]

theorem arr_write_ne (st : Store) (id pos i : Nat) (xs : List Byte) (h : i ≠ id) :
    (st.write id pos xs).arr i = st.arr i := by
  simp only [Store.arr, Store.write, List.getD_eq_getElem?_getD, List.getElem?_set]
  rw [if_neg (by omega)]

theorem arr_write_eq (st : Store) (id pos : Nat) (xs : List Byte) (h : id < st.length) :
    (st.write id pos xs).arr id = writeAt (st.arr id) pos xs := by
  simp only [Store.write]
  generalize writeAt (st.arr id) pos xs = v
  simp [Store.arr, List.getD_eq_getElem?_getD, h]

theorem writeAt_length (l xs : List Byte) (pos : Nat) (h : pos + xs.length ≤ l.length) :
    (writeAt l pos xs).length = l.length := by
  simp only [writeAt, List.length_append, List.length_take, List.length_drop]; omega

theorem writeAt_window (l xs : List Byte) (off len : Nat) (h : off + len + xs.length ≤ l.length) :
    ((writeAt l (off + len) xs).drop off).take (len + xs.length) = (l.drop off).take len ++ xs := by
  rw [writeAt, List.take_add (l := l) (i := off), List.append_assoc, List.append_assoc, List.drop_left' (by rw [List.length_take]; omega),
    ← List.append_assoc, List.take_left' (by simp only [List.length_append, List.length_take, List.length_drop]; omega)]

theorem writeAt_zero_full (l xs : List Byte) (h : xs.length = l.length) : writeAt l 0 xs = xs := by
  simp [writeAt, h]

/-- `st'` extends `st` without changing any array that existed in `st` -/
def Frame (st st' : Store) : Prop := st.length ≤ st'.length ∧ ∀ i, i < st.length → st'.arr i = st.arr i

theorem Frame.refl (st : Store) : Frame st st := ⟨Nat.le_refl _, fun _ _ => rfl⟩

theorem Frame.snoc (st : Store) (x : List Byte) : Frame st (st ++ [x]) :=
  ⟨by simp, fun i hi => arr_append_lt st _ i hi⟩

theorem Frame.make (st : Store) (len cap : Nat) : Frame st (make st len cap).1 := Frame.snoc st _

theorem Frame.write {st st' : Store} (h : Frame st st') (id pos : Nat) (xs : List Byte) (hid : st.length ≤ id) :
    Frame st (st'.write id pos xs) :=
  ⟨by rw [length_write]; exact h.1, fun i hi => by rw [arr_write_ne _ _ _ _ _ (by omega)]; exact h.2 i hi⟩

theorem Frame.trans {a b c : Store} (h1 : Frame a b) (h2 : Frame b c) : Frame a c :=
  ⟨Nat.le_trans h1.1 h2.1, fun i hi => by rw [h2.2 i (Nat.lt_of_lt_of_le hi h1.1), h1.2 i hi]⟩

theorem Frame.append {st st' : Store} (h : Frame st st') (s : Slice) (xs : List Byte) (hid : st.length ≤ s.id) :
    Frame st (append st' s xs).1 ∧ st.length ≤ (append st' s xs).2.id := by
  unfold Got.Model.Aes.append
  split
  · exact ⟨h.write _ _ _ hid, hid⟩
  · simp only [Got.Model.Aes.make]
    have := h.1
    refine ⟨(h.trans (Frame.snoc st' _)).write _ _ _ (by omega), by omega⟩

theorem bytes_length_valid {st : Store} {s : Slice} (hv : s.valid st) : (s.bytes st).length = s.len := by
  have := hv.2.1
  have := hv.2.2
  simp only [Slice.bytes, List.length_take, List.length_drop]; omega

theorem bytes_of_frame {st st' : Store} (h : Frame st st') (s : Slice) (hid : s.id < st.length) :
    s.bytes st' = s.bytes st := by
  simp only [Slice.bytes, h.2 s.id hid]

theorem append_inplace (st : Store) (s : Slice) (xs : List Byte) (hv : s.valid st) (hfit : s.len + xs.length ≤ s.cap) :
    append st s xs = (st.write s.id (s.off + s.len) xs, { s with len := s.len + xs.length }) ∧
    ({ s with len := s.len + xs.length } : Slice).valid (st.write s.id (s.off + s.len) xs) ∧
    ({ s with len := s.len + xs.length } : Slice).bytes (st.write s.id (s.off + s.len) xs) = s.bytes st ++ xs := by
  obtain ⟨hid, _, hcap⟩ := hv
  refine ⟨by simp [Got.Model.Aes.append, hfit], ⟨by rw [length_write]; exact hid, hfit, ?_⟩, ?_⟩
  · show s.off + s.cap ≤ ((st.write s.id (s.off + s.len) xs).arr s.id).length
    rw [arr_write_eq st _ _ _ hid, writeAt_length _ _ _ (by omega)]
    exact hcap
  · simp only [Slice.bytes, arr_write_eq st _ _ _ hid]
    exact writeAt_window _ _ _ _ (by omega)

theorem make_empty (st : Store) (cap : Nat) :
    (make st 0 cap).2.valid (make st 0 cap).1 ∧ (make st 0 cap).2.bytes (make st 0 cap).1 = [] :=
  ⟨⟨by simp [Got.Model.Aes.make], Nat.zero_le _, by simp [Got.Model.Aes.make, arr_append_eq]⟩, rfl⟩

theorem pad16 (n : Nat) : (n + (16 - n % 16)) % 16 = 0 ∧ n + (16 - n % 16) = 16 * (n / 16 + 1) := by omega

theorem pkcs7_length (bs : Nat) (p : List Byte) : (pkcs7 bs p).length = p.length + (bs - p.length % bs) := by
  simp [pkcs7]

/-- value-level pkcs5Trimming -/
def trimV (l : List Byte) : List Byte :=
  if l.length = 0 then l
  else if l.length < (l.getD (l.length - 1) 0).toNat then l
  else l.take (l.length - (l.getD (l.length - 1) 0).toNat)

theorem trimV_append_replicate (p : List Byte) (n : Nat) (h0 : 0 < n) (h1 : n ≤ 255) :
    trimV (p ++ List.replicate n (UInt8.ofNat n)) = p := by
  have hlen : (p ++ List.replicate n (UInt8.ofNat n)).length = p.length + n := by
    rw [List.length_append, List.length_replicate]
  have hlast : (p ++ List.replicate n (UInt8.ofNat n)).getD (p.length + n - 1) 0 = UInt8.ofNat n := by
    rw [List.getD_eq_getElem?_getD, List.getElem?_append_right (by omega), List.getElem?_replicate, if_pos (by omega)]
    rfl
  unfold trimV
  rw [hlen, hlast, UInt8.toNat_ofNat', Nat.mod_eq_of_lt (by omega), if_neg (by omega), if_neg (by omega),
    Nat.add_sub_cancel, List.take_left' rfl]

theorem trimV_pkcs7 (bs : Nat) (h0 : 0 < bs) (h1 : bs ≤ 255) (p : List Byte) : trimV (pkcs7 bs p) = p :=
  have := Nat.mod_lt p.length h0
  trimV_append_replicate p _ (by omega) (by omega)

theorem pkcs5Trimming_bytes (st : Store) (s : Slice) (hv : s.valid st) :
    (pkcs5Trimming st s).bytes st = trimV (s.bytes st) := by
  unfold pkcs5Trimming trimV
  rw [bytes_length_valid hv]
  by_cases h0 : s.len = 0
  · simp [h0]
  · simp only [h0, if_false]
    generalize ((s.bytes st).getD (s.len - 1) 0).toNat = n
    split
    · rw [if_pos (by omega)]
    · -- `upper ≥ 0`: the `Int` subtraction of the model is the `Nat` one
      rw [if_neg (by omega)]
      simp only [Slice.bytes, List.take_take]
      congr 1
      omega

theorem pkcs5Trimming_id (st : Store) (s : Slice) : (pkcs5Trimming st s).id = s.id := by
  unfold pkcs5Trimming
  by_cases h0 : s.len = 0
  · simp [h0]
  · simp only [h0, if_false]; split <;> rfl

/-- the `let`s of `pkcs5Padding` expanded, so that its two `append`s can be rewritten one after the other -/
theorem pkcs5Padding_eq (st : Store) (c : Slice) (bs : Nat) :
    pkcs5Padding st c bs =
      append
        (append (st ++ [List.replicate (c.len + (bs - c.len % bs)) 0]) ⟨st.length, 0, 0, c.len + (bs - c.len % bs)⟩
          (c.bytes (st ++ [List.replicate (c.len + (bs - c.len % bs)) 0]))).1
        (append (st ++ [List.replicate (c.len + (bs - c.len % bs)) 0]) ⟨st.length, 0, 0, c.len + (bs - c.len % bs)⟩
          (c.bytes (st ++ [List.replicate (c.len + (bs - c.len % bs)) 0]))).2
        (List.replicate (bs - c.len % bs) (UInt8.ofNat (bs - c.len % bs))) := rfl

theorem pkcs5Padding_frame (st : Store) (c : Slice) (bs : Nat) :
    Frame st (pkcs5Padding st c bs).1 := by
  rw [pkcs5Padding_eq]
  have h1 := Frame.append (Frame.snoc st (List.replicate (c.len + (bs - c.len % bs)) 0))
    ⟨st.length, 0, 0, c.len + (bs - c.len % bs)⟩
    (c.bytes (st ++ [List.replicate (c.len + (bs - c.len % bs)) 0])) (Nat.le_refl _)
  exact (Frame.append h1.1 _ _ h1.2).1

/-- both `append`s of pkcs5Padding find room in the array made for them -/
theorem pkcs5Padding_spec (st : Store) (c : Slice) (bs : Nat) (hv : c.valid st) :
    (pkcs5Padding st c bs).2.valid (pkcs5Padding st c bs).1 ∧
    (pkcs5Padding st c bs).2.bytes (pkcs5Padding st c bs).1 = pkcs7 bs (c.bytes st) ∧
    (pkcs5Padding st c bs).2.len = c.len + (bs - c.len % bs) := by
  have hbl := bytes_length_valid hv
  rw [pkcs5Padding_eq]
  generalize hpad : bs - c.len % bs = pad
  rw [bytes_of_frame (Frame.snoc st _) c hv.1]
  obtain ⟨hv0, hb0⟩ := make_empty st (c.len + pad)
  obtain ⟨e1, hv1, hb1⟩ := append_inplace _ _ (c.bytes st) hv0 (by rw [hbl]; exact Nat.le_trans (by simp [Got.Model.Aes.make]) (Nat.le_add_right _ pad))
  obtain ⟨e2, hv2, hb2⟩ := append_inplace _ _ (List.replicate pad (UInt8.ofNat pad)) hv1
    (by simp [Got.Model.Aes.make, hbl])
  simp only [Got.Model.Aes.make] at e1 e2 hv2 hb2 hb1 hb0
  rw [e1, e2]
  exact ⟨hv2, by rw [hb2, hb1, hb0]; simp only [pkcs7, hbl, hpad, List.nil_append], by simp [hbl]⟩

/-- the step the four Encrypt / Decrypt methods share: `output := make([]byte, n)`, then one library call that writes
    `f(input)` to `output`.  It ends three of them; CBC Decrypt goes on with `pkcs5Trimming`. -/
def crypt (f : List Byte → List Byte) (st : Store) (input : Slice) (n : Nat) : Store × Slice :=
  ((make st n n).1.write (make st n n).2.id 0 (f (input.bytes (make st n n).1)), (make st n n).2)

theorem crypt_frame (f : List Byte → List Byte) (st : Store) (input : Slice) (n : Nat) :
    Frame st (crypt f st input n).1 ∧ st.length ≤ (crypt f st input n).2.id :=
  ⟨(Frame.make st n n).write _ _ _ (Nat.le_refl _), Nat.le_refl _⟩

theorem crypt_spec (f : List Byte → List Byte) (st : Store) (input : Slice) (n : Nat) (hid : input.id < st.length)
    (h : (f (input.bytes st)).length = n) :
    (crypt f st input n).2.bytes (crypt f st input n).1 = f (input.bytes st) ∧
    (crypt f st input n).2.valid (crypt f st input n).1 ∧ (crypt f st input n).2.len = n := by
  unfold crypt
  rw [bytes_of_frame (Frame.make st n n) input hid]
  generalize f (input.bytes st) = xs at h ⊢
  subst h
  -- writing `xs` over the whole fresh array is appending it to the array's empty prefix
  obtain ⟨hv0, hb0⟩ := make_empty st xs.length
  obtain ⟨-, hv1, hb1⟩ := append_inplace _ _ xs hv0 (Nat.le_of_eq (Nat.zero_add _))
  simp only [Got.Model.Aes.make, Nat.zero_add, Nat.add_zero] at hv1 hb1 hb0
  rw [hb0] at hb1
  exact ⟨hb1, hv1, rfl⟩

theorem cbcEncryptWith_eq (pad : Store → Slice → Nat → Store × Slice) (E : BlockFn) (iv : List Byte) (st : Store) (c : Slice) :
    cbcEncryptWith pad E iv st c =
      if iv.length ≠ 16 then .error .ivLength
      else if (pad st c 16).2.len % 16 ≠ 0 then .error .notFullBlocks
      else .ok (crypt (Got.Spec.Aes.cbcEncrypt E iv) (pad st c 16).1 (pad st c 16).2 (pad st c 16).2.len) := rfl

theorem cbcDecrypt_eq (D : BlockFn) (iv : List Byte) (st : Store) (c : Slice) :
    cbcDecrypt D iv st c =
      if iv.length ≠ 16 then .error .ivLength
      else if c.len % 16 ≠ 0 then .error .notFullBlocks
      else .ok ((crypt (Got.Spec.Aes.cbcDecrypt D iv) st c c.len).1,
                pkcs5Trimming (crypt (Got.Spec.Aes.cbcDecrypt D iv) st c c.len).1
                  (crypt (Got.Spec.Aes.cbcDecrypt D iv) st c c.len).2) := rfl

theorem cfbEncrypt_eq (E : BlockFn) (iv : List Byte) (st : Store) (c : Slice) :
    cfbEncrypt E iv st c =
      if iv.length ≠ 16 then .error .ivLength else .ok (crypt (Got.Spec.Aes.cfbEncrypt E iv) st c c.len) := rfl

theorem cfbDecrypt_eq (E : BlockFn) (iv : List Byte) (st : Store) (c : Slice) :
    cfbDecrypt E iv st c =
      if iv.length ≠ 16 then .error .ivLength else .ok (crypt (Got.Spec.Aes.cfbDecrypt E iv) st c c.len) := rfl

/-- the call left the caller's memory alone: every array that existed before it keeps its contents, and the returned
    slice lives in an array the call allocated -/
def Untouched (st : Store) : Except Panic (Store × Slice) → Prop
  | .ok (st', out) => Frame st st' ∧ st.length ≤ out.id
  | .error _ => True

theorem Untouched.guard {st : Store} {r : Except Panic (Store × Slice)} (p : Prop) [Decidable p] (e : Panic)
    (h : Untouched st r) : Untouched st (if p then .error e else r) := by
  split
  · trivial
  · exact h

theorem cbcEncrypt_untouched (E : BlockFn) (iv : List Byte) (st : Store) (c : Slice) :
    Untouched st (cbcEncrypt E iv st c) := by
  have hf := pkcs5Padding_frame st c 16
  obtain ⟨h1, h2⟩ := crypt_frame (Got.Spec.Aes.cbcEncrypt E iv) (pkcs5Padding st c 16).1 (pkcs5Padding st c 16).2
    (pkcs5Padding st c 16).2.len
  unfold cbcEncrypt
  rw [cbcEncryptWith_eq]
  exact .guard _ _ (.guard _ _ ⟨hf.trans h1, Nat.le_trans hf.1 h2⟩)

theorem cbcDecrypt_untouched (D : BlockFn) (iv : List Byte) (st : Store) (c : Slice) :
    Untouched st (cbcDecrypt D iv st c) := by
  obtain ⟨h1, h2⟩ := crypt_frame (Got.Spec.Aes.cbcDecrypt D iv) st c c.len
  exact .guard _ _ (.guard _ _ ⟨h1, by rw [pkcs5Trimming_id]; exact h2⟩)

theorem cfbEncrypt_untouched (E : BlockFn) (iv : List Byte) (st : Store) (c : Slice) :
    Untouched st (cfbEncrypt E iv st c) :=
  .guard _ _ (crypt_frame _ st c c.len)

theorem cfbDecrypt_untouched (E : BlockFn) (iv : List Byte) (st : Store) (c : Slice) :
    Untouched st (cfbDecrypt E iv st c) :=
  .guard _ _ (crypt_frame _ st c c.len)

theorem cbcEncryptWith_spec (pad : Store → Slice → Nat → Store × Slice) (E : BlockFn)
    (hE : ∀ b : List Byte, b.length = 16 → (E b).length = 16) (iv : List Byte) (hiv : iv.length = 16)
    (st : Store) (c : Slice) (hv : (pad st c 16).2.valid (pad st c 16).1) (hm : (pad st c 16).2.len % 16 = 0) :
    ∃ st' out, cbcEncryptWith pad E iv st c = .ok (st', out) ∧
      out.bytes st' = Got.Spec.Aes.cbcEncrypt E iv ((pad st c 16).2.bytes (pad st c 16).1) ∧ out.valid st' ∧
      out.len = (pad st c 16).2.len := by
  rw [cbcEncryptWith_eq, if_neg (· hiv), if_neg (· hm)]
  have hl := bytes_length_valid hv
  exact ⟨_, _, rfl, crypt_spec _ _ _ _ hv.1 (by rw [cbcEncrypt_length E hE iv _ hiv (hl.symm ▸ hm), hl])⟩

theorem cbcEncrypt_spec (E : BlockFn) (hE : ∀ b : List Byte, b.length = 16 → (E b).length = 16)
    (iv : List Byte) (hiv : iv.length = 16) (st : Store) (c : Slice) (hv : c.valid st) :
    ∃ st' out, cbcEncrypt E iv st c = .ok (st', out) ∧
      out.bytes st' = Got.Spec.Aes.cbcEncrypt E iv (pkcs7 16 (c.bytes st)) ∧ out.valid st' ∧
      out.len = 16 * (c.len / 16 + 1) := by
  obtain ⟨hpv, hb, hl⟩ := pkcs5Padding_spec st c 16 hv
  obtain ⟨st', out, he, hob, hov, hol⟩ := cbcEncryptWith_spec pkcs5Padding E hE iv hiv st c hpv (by rw [hl]; exact (pad16 _).1)
  exact ⟨st', out, he, by rw [hob, hb], hov, by rw [hol, hl]; exact (pad16 _).2⟩

theorem cbcDecrypt_spec (D : BlockFn) (iv : List Byte) (hiv : iv.length = 16) (st : Store) (c : Slice)
    (hv : c.valid st) (hm : c.len % 16 = 0) (hlen : (Got.Spec.Aes.cbcDecrypt D iv (c.bytes st)).length = c.len) :
    ∃ st' out, cbcDecrypt D iv st c = .ok (st', out) ∧
      out.bytes st' = trimV (Got.Spec.Aes.cbcDecrypt D iv (c.bytes st)) := by
  obtain ⟨hb, hval, _⟩ := crypt_spec (Got.Spec.Aes.cbcDecrypt D iv) st c c.len hv.1 hlen
  rw [cbcDecrypt_eq, if_neg (· hiv), if_neg (· hm)]
  refine ⟨_, _, rfl, ?_⟩
  rw [pkcs5Trimming_bytes _ _ hval, hb]

theorem cfbEncrypt_spec (E : BlockFn) (hE : ∀ b : List Byte, b.length = 16 → (E b).length = 16)
    (iv : List Byte) (hiv : iv.length = 16) (st : Store) (c : Slice) (hv : c.valid st) :
    ∃ st' out, cfbEncrypt E iv st c = .ok (st', out) ∧
      out.bytes st' = Got.Spec.Aes.cfbEncrypt E iv (c.bytes st) ∧ out.valid st' ∧ out.len = c.len := by
  rw [cfbEncrypt_eq, if_neg (· hiv)]
  exact ⟨_, _, rfl, crypt_spec _ st c c.len hv.1 (by rw [cfbEncrypt_length E hE iv _ hiv, bytes_length_valid hv])⟩

theorem cfbDecrypt_spec (E : BlockFn) (iv : List Byte) (hiv : iv.length = 16) (st : Store) (c : Slice)
    (hv : c.valid st) (hlen : (Got.Spec.Aes.cfbDecrypt E iv (c.bytes st)).length = c.len) :
    ∃ st' out, cfbDecrypt E iv st c = .ok (st', out) ∧
      out.bytes st' = Got.Spec.Aes.cfbDecrypt E iv (c.bytes st) := by
  rw [cfbDecrypt_eq, if_neg (· hiv)]
  exact ⟨_, _, rfl, (crypt_spec _ st c c.len hv.1 hlen).1⟩

theorem cbcDecrypt_encrypted (E D : BlockFn) (hE : ∀ b : List Byte, b.length = 16 → (E b).length = 16)
    (hD : ∀ b : List Byte, b.length = 16 → D (E b) = b) (iv : List Byte) (hiv : iv.length = 16)
    (st : Store) (c : Slice) (hv : c.valid st) (p : List Byte)
    (hc : c.bytes st = Got.Spec.Aes.cbcEncrypt E iv (pkcs7 16 p)) :
    ∃ st' out, cbcDecrypt D iv st c = .ok (st', out) ∧ out.bytes st' = p := by
  have hpm : (pkcs7 16 p).length % 16 = 0 := by rw [pkcs7_length]; exact (pad16 _).1
  have hrt := cbc_roundtrip E D hE hD iv _ hiv hpm
  have hcl : c.len = (pkcs7 16 p).length := by
    rw [← bytes_length_valid hv, hc, cbcEncrypt_length E hE iv _ hiv hpm]
  obtain ⟨st', out, hd, hob⟩ := cbcDecrypt_spec D iv hiv st c hv (hcl ▸ hpm) (by rw [hc, hrt]; exact hcl.symm)
  exact ⟨st', out, hd, by rw [hob, hc, hrt, trimV_pkcs7 16 pos16 (by omega)]⟩

theorem cfbDecrypt_encrypted (E : BlockFn) (hE : ∀ b : List Byte, b.length = 16 → (E b).length = 16)
    (iv : List Byte) (hiv : iv.length = 16) (st : Store) (c : Slice) (hv : c.valid st) (p : List Byte)
    (hc : c.bytes st = Got.Spec.Aes.cfbEncrypt E iv p) :
    ∃ st' out, cfbDecrypt E iv st c = .ok (st', out) ∧ out.bytes st' = p := by
  have hrt := cfb_roundtrip E hE iv p hiv
  have hcl : c.len = p.length := by rw [← bytes_length_valid hv, hc, cfbEncrypt_length E hE iv _ hiv]
  obtain ⟨st', out, hd, hob⟩ := cfbDecrypt_spec E iv hiv st c hv (by rw [hc, hrt]; exact hcl.symm)
  exact ⟨st', out, hd, by rw [hob, hc, hrt]⟩

end Got.Lemmas.Aes
