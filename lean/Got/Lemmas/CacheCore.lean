import Got.Spec.Cache
import Got.Lemmas.Lts
/-
The status arithmetic of cachex's decision core, and `step?` as a relation (`Step`), for case analyses on an enabled
transition.
-/
namespace Got.Lemmas.Cache
open Got.Model.CacheCore Got.Model.Cache Got.Spec.Cache

theorem rotFactor_eq : rotFactor = 2 := by decide
theorem tickFactor_eq : tickFactor = 4 := by decide

theorem status_unresolved (now u En Ee : Nat) (e : Bool) : status now u e En Ee false = .good := by
  simp [status]

theorem status_cases (now u En Ee : Nat) (e : Bool) :
    status now u e En Ee true =
      if now - u < expiryOf e En Ee then .good
      else if now - u < 2 * expiryOf e En Ee then .expired else .rotted := by
  simp [status, rotFactor_eq]

theorem status_ne_empty (now u En Ee : Nat) (e r : Bool) : status now u e En Ee r ≠ .empty := by
  cases r
  · simp [status]
  · rw [status_cases]; split
    · simp
    · split <;> simp

theorem status_good_iff (now u En Ee : Nat) (e : Bool) :
    status now u e En Ee true = .good ↔ now - u < expiryOf e En Ee := by
  rw [status_cases]; split
  · simp [*]
  · split <;> simp [*]

theorem status_expired_iff (now u En Ee : Nat) (e : Bool) :
    status now u e En Ee true = .expired ↔ expiryOf e En Ee ≤ now - u ∧ now - u < 2 * expiryOf e En Ee := by
  rw [status_cases]; repeat' split
  all_goals simp; omega

theorem status_rotted_iff (now u En Ee : Nat) (e : Bool) :
    status now u e En Ee true = .rotted ↔ 2 * expiryOf e En Ee ≤ now - u := by
  rw [status_cases]; repeat' split
  all_goals simp; omega

theorem status_rotted_resolved (now u En Ee : Nat) (e r : Bool) (h : status now u e En Ee r = .rotted) : r = true := by
  cases r
  · simp [status] at h
  · rfl

theorem status_rotted_mono (now now' u En Ee : Nat) (e r : Bool) (hle : now ≤ now')
    (h : status now u e En Ee r = .rotted) : status now' u e En Ee r = .rotted := by
  have hr := status_rotted_resolved _ _ _ _ _ _ h
  subst hr
  rw [status_rotted_iff] at *
  omega

theorem statusAt_none (cfg : Cfg) (s : State) : statusAt cfg s none = .empty := rfl

theorem statusAt_some (cfg : Cfg) (s : State) (f : FutId) :
    statusAt cfg s (some f) =
      status s.now (s.fut f).upd ((s.fut f).res.bind (·.err)).isSome cfg.En cfg.Ee (s.fut f).res.isSome := rfl

theorem statusAt_unresolved (cfg : Cfg) (s : State) (f : FutId) (h : (s.fut f).res = none) :
    statusAt cfg s (some f) = .good := by
  simp [statusAt_some, h, status]

theorem statusAt_resolved (cfg : Cfg) (s : State) (f : FutId) (r : Res) (h : (s.fut f).res = some r) :
    statusAt cfg s (some f) = status s.now (s.fut f).upd r.err.isSome cfg.En cfg.Ee true := by
  simp [statusAt_some, h]

theorem statusAt_empty_iff (cfg : Cfg) (s : State) (o : Option FutId) : statusAt cfg s o = .empty ↔ o = none := by
  cases o with
  | none => simp [statusAt_none]
  | some f => simp [statusAt_some, status_ne_empty]

theorem statusAt_view_congr (cfg : Cfg) (s t : State) (o : Option FutId) (hn : s.now = t.now)
    (hf : ∀ f, o = some f → view (s.fut f) = view (t.fut f)) : statusAt cfg s o = statusAt cfg t o := by
  cases o with
  | none => rfl
  | some f => simp [statusAt, statusOf, hn, hf f rfl]

theorem statusAt_congr (cfg : Cfg) (s t : State) (o : Option FutId) (hn : s.now = t.now)
    (hf : ∀ f, o = some f → s.fut f = t.fut f) : statusAt cfg s o = statusAt cfg t o :=
  statusAt_view_congr cfg s t o hn fun f e => by rw [hf f e]

theorem servable_of_status (cfg : Cfg) (s : State) (f : FutId)
    (h : statusAt cfg s (some f) = .good ∨ statusAt cfg s (some f) = .expired) : Servable cfg s f := by
  intro r hr
  rw [statusAt_resolved cfg s f r hr] at h
  unfold futExpiry
  rcases h with h | h
  · rw [status_good_iff] at h; omega
  · rw [status_expired_iff] at h; omega

theorem servable_of_unresolved (cfg : Cfg) (s : State) (f : FutId) (h : (s.fut f).res = none) : Servable cfg s f := by
  intro r hr; rw [h] at hr; cases hr

theorem not_servable_of_rotted (cfg : Cfg) (s : State) (f : FutId) (h : statusAt cfg s (some f) = .rotted) :
    ¬ Servable cfg s f := by
  intro hs
  cases hres : (s.fut f).res with
  | none => rw [statusAt_unresolved cfg s f hres] at h; cases h
  | some r =>
    rw [statusAt_resolved cfg s f r hres, status_rotted_iff] at h
    have := hs r hres
    unfold futExpiry at this
    omega

theorem hidden_status {cfg : Cfg} {s : State} {o : Option FutId} (h : Hidden cfg s o) :
    statusAt cfg s o = .rotted ∨ statusAt cfg s o = .empty :=
  h.symm.imp_right fun (e : o = none) => e ▸ rfl

theorem loadOut_good (old : Bool) (sh l nf k ld : Nat) :
    loadOut old sh (some l) .good nf k ld = ⟨false, none, .ldUnlock sh none (.fetch l)⟩ := rfl

theorem loadOut_expired (old : Bool) (sh l nf k ld : Nat) :
    loadOut old sh (some l) .expired nf k ld =
      ⟨true, some l, if old then .ldSend ⟨k, nf, ld⟩ (.ret l) (some sh) else .ldUnlock sh (some ⟨k, nf, ld⟩) (.ret l)⟩ := rfl

theorem loadOut_hidden (old : Bool) (sh : Nat) (last : Option FutId) (st : Status) (nf k ld : Nat)
    (h : st = .rotted ∨ st = .empty) :
    loadOut old sh last st nf k ld =
      ⟨true, none, if old then .ldSend ⟨k, nf, ld⟩ (.ret nf) (some sh) else .ldUnlock sh (some ⟨k, nf, ld⟩) (.ret nf)⟩ := by
  rcases h with rfl | rfl <;> cases last <;> rfl

theorem g2Next_good (f : FutId) : g2Next .good (some f) = .fetch f true := rfl
theorem g2Next_expired (f : FutId) : g2Next .expired (some f) = .wait f := rfl
theorem g2Next_hidden (st : Status) (o : Option FutId) (h : st = .rotted ∨ st = .empty) : g2Next st o = .retNil := by
  rcases h with rfl | rfl <;> cases o <;> rfl

theorem loadCS_good {cfg : Cfg} {s : State} {k : Key} {l : FutId} (c : Cid) (ld : Nat) (hmap : s.map k = some l)
    (hst : statusAt cfg s (some l) = .good) :
    loadCS cfg s c k ld = { s with lock := upd s.lock (cfg.shardOf k) (some c),
                                   cpc := upd s.cpc c (.ldUnlock (cfg.shardOf k) none (.fetch l)) } := by
  simp [loadCS, hmap, hst, loadOut_good, applyLoad]

/-- the state after a critical section of Load that inserts the future `s.nfut` with predecessor `pred` -/
def loadNew (cfg : Cfg) (s : State) (c : Cid) (k : Key) (ld : Nat) (pred : Option FutId) (plan : Plan) : State :=
  applyLoad (cfg.shardOf k) s c k ⟨true, pred, if cfg.old then .ldSend ⟨k, s.nfut, ld⟩ plan (some (cfg.shardOf k))
                                                else .ldUnlock (cfg.shardOf k) (some ⟨k, s.nfut, ld⟩) plan⟩

theorem loadCS_expired {cfg : Cfg} {s : State} {k : Key} {l : FutId} (c : Cid) (ld : Nat) (hmap : s.map k = some l)
    (hst : statusAt cfg s (some l) = .expired) : loadCS cfg s c k ld = loadNew cfg s c k ld (some l) (.ret l) := by
  simp [loadCS, hmap, hst, loadOut_expired, loadNew]

theorem loadCS_hidden {cfg : Cfg} {s : State} {k : Key} (c : Cid) (ld : Nat) (hh : Hidden cfg s (s.map k)) :
    loadCS cfg s c k ld = loadNew cfg s c k ld none (.ret s.nfut) := by
  simp [loadCS, loadOut_hidden _ _ _ _ _ _ _ (hidden_status hh), loadNew]

theorem loadCS_cases (cfg : Cfg) (s : State) (c : Cid) (k : Key) (ld : Nat) :
    (∃ l, s.map k = some l ∧ statusAt cfg s (some l) = .good ∧
      loadCS cfg s c k ld = { s with lock := upd s.lock (cfg.shardOf k) (some c),
                                     cpc := upd s.cpc c (.ldUnlock (cfg.shardOf k) none (.fetch l)) }) ∨
    (∃ l, s.map k = some l ∧ statusAt cfg s (some l) = .expired ∧
      loadCS cfg s c k ld = loadNew cfg s c k ld (some l) (.ret l)) ∨
    (Hidden cfg s (s.map k) ∧ loadCS cfg s c k ld = loadNew cfg s c k ld none (.ret s.nfut)) := by
  by_cases hh : Hidden cfg s (s.map k)
  · exact .inr (.inr ⟨hh, loadCS_hidden c ld hh⟩)
  · cases hmap : s.map k with
    | none => exact absurd (.inl hmap) hh
    | some l =>
      cases hst : statusAt cfg s (some l) with
      | empty => exact absurd hst (by simp [statusAt_empty_iff])
      | rotted => exact absurd (.inr (by rw [hmap]; exact hst)) hh
      | good => exact .inl ⟨l, rfl, hst, loadCS_good c ld hmap hst⟩
      | expired => exact .inr (.inl ⟨l, rfl, hst, loadCS_expired c ld hmap hst⟩)

/-- `step?` as a relation: one constructor per action and program counter (Load's critical section: one per row of
    `loadCS_cases`). -/
inductive Step (cfg : Cfg) (s : State) : Act → State → Prop
  | invLoad (c k ld) : s.cpc c = .idle → Step cfg s (.invLoad c k ld) (setPc s c (.ldStart k ld))
  | invGet2 (c k) : s.cpc c = .idle → Step cfg s (.invGet2 c k) (setPc s c (.g2Start k))
  | invSet (c k r) : s.cpc c = .idle → Step cfg s (.invSet c k r) (setPc s c (.setStart k r))
  | invFGet (c o f) : s.cpc c = .idle → s.cpc o = .done (.fut f) → Step cfg s (.invFGet c o) (setPc s c (.wait f))
  | fetch (c f g) : s.cpc c = .fetch f g → Step cfg s (.cl c) (setPc s c (.fetchSt f (s.fut f).pred g))
  | fetchSt (c f p g) : s.cpc c = .fetchSt f p g →
      Step cfg s (.cl c) (setPc s c
        (if g then .wait (fetchTarget f p (statusAt cfg s p)) else .ldRet (fetchTarget f p (statusAt cfg s p))))
  | ldRet (c f) : s.cpc c = .ldRet f → Step cfg s (.cl c) (setPc s c (.done (.fut f)))
  | g2Start (c k) : s.cpc c = .g2Start k → s.lock (cfg.shardOf k) = none →
      Step cfg s (.cl c) (setPc s c (.g2Status (s.map k)))
  | g2Status (c o) : s.cpc c = .g2Status o → Step cfg s (.cl c) (setPc s c (g2Next (statusAt cfg s o) o))
  | wait (c f) : s.cpc c = .wait f → (s.fut f).done = true →
      Step cfg s (.cl c) (setPc s c (.done (.pair (some f) (s.fut f).res)))
  | retNil (c) : s.cpc c = .retNil → Step cfg s (.cl c) (setPc s c (.done (.pair none none)))
  | setRet (c) : s.cpc c = .setRet → Step cfg s (.cl c) (setPc s c (.done .unit))
  | ldUnlockSend (c sh j plan) : s.cpc c = .ldUnlock sh (some j) plan →
      Step cfg s (.cl c) (setPc { s with lock := upd s.lock sh none } c (.ldSend j plan none))
  | ldUnlock (c sh plan) : s.cpc c = .ldUnlock sh none plan →
      Step cfg s (.cl c) (setPc { s with lock := upd s.lock sh none } c (planPc plan))
  | ldSend (c j plan) : s.cpc c = .ldSend j plan none → s.chan.length < cfg.J →
      Step cfg s (.cl c) (setPc { s with chan := s.chan ++ [j], jobAt := upd s.jobAt j.fut .chan } c (planPc plan))
  | ldSendOld (c j plan sh) : s.cpc c = .ldSend j plan (some sh) → s.chan.length < cfg.J →
      Step cfg s (.cl c)
        (setPc { s with chan := s.chan ++ [j], jobAt := upd s.jobAt j.fut .chan } c (.ldUnlock sh none plan))
  | ldGood (c k ld l) : s.cpc c = .ldStart k ld → s.lock (cfg.shardOf k) = none → s.map k = some l →
      statusAt cfg s (some l) = .good →
      Step cfg s (.cl c) { s with lock := upd s.lock (cfg.shardOf k) (some c),
                                  cpc := upd s.cpc c (.ldUnlock (cfg.shardOf k) none (.fetch l)) }
  | ldExpired (c k ld l) : s.cpc c = .ldStart k ld → s.lock (cfg.shardOf k) = none → s.map k = some l →
      statusAt cfg s (some l) = .expired → Step cfg s (.cl c) (loadNew cfg s c k ld (some l) (.ret l))
  | ldHidden (c k ld) : s.cpc c = .ldStart k ld → s.lock (cfg.shardOf k) = none → Hidden cfg s (s.map k) →
      Step cfg s (.cl c) (loadNew cfg s c k ld none (.ret s.nfut))
  | setStart (c k r) : s.cpc c = .setStart k r → s.lock (cfg.shardOf k) = none → Step cfg s (.cl c) (setCS s c k r)
  | wTake (w j rest) : w < cfg.P → s.wpc w = .idle → s.chan = j :: rest →
      Step cfg s (.wTake w) (setWpc { s with chan := rest, jobAt := upd s.jobAt j.fut (.worker w) } w (.got j))
  | wTick (w) : w < cfg.P → s.wpc w = .idle → s.tickPending = true →
      Step cfg s (.wTick w) (setWpc { s with tickPending := false } w (.sweep 0))
  | wStart (w j) : s.wpc w = .got j → Step cfg s (.wStart w) (setWpc s w (.running j))
  | wEnd (w r j) : s.wpc w = .running j → Step cfg s (.wEnd w r) (setWpc s w (.publish j r))
  | publish (w j r) : s.wpc w = .publish j r →
      Step cfg s (.wk w)
        (setWpc { s with fut := upd s.fut j.fut { s.fut j.fut with res := some r, upd := s.now } } w (.clearPred j))
  | clearPred (w j) : s.wpc w = .clearPred j →
      Step cfg s (.wk w) (setWpc { s with fut := upd s.fut j.fut { s.fut j.fut with pred := none } } w (.wgDone j))
  | wgDone (w j) : s.wpc w = .wgDone j →
      Step cfg s (.wk w) (setWpc { s with fut := upd s.fut j.fut { s.fut j.fut with done := true },
                                          jobAt := upd s.jobAt j.fut .finished } w .idle)
  | sweep (w i) : s.wpc w = .sweep i → s.lock i = none →
      Step cfg s (.wk w) (setWpc { s with map := sweepShard cfg s i } w (if i + 1 < cfg.S then .sweep (i + 1) else .idle))
  | tick : Step cfg s .tick { s with tickPending := true }
  | delay (d) : Step cfg s (.delay d) { s with now := s.now + d }

/-- the constructors `ldGood`, `ldExpired`, `ldHidden` as one rule: Load's critical section, whatever it finds -/
theorem Step.ldStart {cfg : Cfg} {s : State} (c : Cid) (k : Key) (ld : Nat) (hc : s.cpc c = .ldStart k ld)
    (hl : s.lock (cfg.shardOf k) = none) : Step cfg s (.cl c) (loadCS cfg s c k ld) := by
  rcases loadCS_cases cfg s c k ld with ⟨l, hm, hst, e⟩ | ⟨l, hm, hst, e⟩ | ⟨hh, e⟩ <;> rw [e]
  · exact .ldGood c k ld l hc hl hm hst
  · exact .ldExpired c k ld l hc hl hm hst
  · exact .ldHidden c k ld hc hl hh

/- After unfolding the action's branch and splitting on its outermost test (guard or program counter), at most two nested
   tests remain; every leaf is `none = some s'` or an instance of one constructor (of `Step.ldStart` for Load's critical
   section). -/
theorem Step.of_step? {cfg : Cfg} {s s' : State} {a : Act} (h : step? cfg s a = some s') : Step cfg s a s' := by
  cases a <;> simp only [step?, clStep, wkStep, Option.isNone_iff_eq_none] at h <;> (try split at h)
  all_goals first
    | (cases h <;> constructor <;> assumption)
    | (split at h <;> first
        | (cases h <;> constructor <;> assumption)
        | (cases h; exact Step.ldStart _ _ _ ‹_› ‹_›)
        | (split at h <;> cases h <;> constructor <;> assumption))

theorem Step.to_step? {cfg : Cfg} {s s' : State} {a : Act} (h : Step cfg s a s') : step? cfg s a = some s' := by
  cases h
  case ldGood hc hl hm hst => simp [step?, clStep, hc, hl, loadCS_good _ _ hm hst]
  case ldExpired hc hl hm hst => simp [step?, clStep, hc, hl, loadCS_expired _ _ hm hst]
  case ldHidden hc hl hh => simp [step?, clStep, hc, hl, loadCS_hidden _ _ hh]
  all_goals simp [step?, clStep, wkStep, *]

theorem step_cases (cfg : Cfg) (s : State) (a : Act) : step cfg s a = s ∨ Step cfg s a (step cfg s a) :=
  Lts.getD_cases Step.of_step? s a

theorem orphanMark_apply (fut : FutId → Fut) (o : Option FutId) (f : FutId) :
    orphanMark fut o f = if o = some f ∧ (fut f).res = none then { fut f with orphan := true } else fut f := by
  cases o with
  | none => simp [orphanMark]
  | some l =>
    simp only [orphanMark, Option.some.injEq, Option.isNone_iff_eq_none]
    by_cases e : l = f
    · subst e; split <;> simp [*]
    · split <;> simp [e, upd_other (Ne.symm e)]

end Got.Lemmas.Cache
