import Got.Lemmas.HeapAstBase
import Got.Lemmas.GoHeap
/-
Translator tie of container/heap, part "down": the generated terms `h_down`, `h_Init`, `h_Pop`
(Got/Generated/AstContainerHeap.lean, rewritten from $GOROOT/src/container/heap/heap.go on every run) interpreted by
MiniGoHeap over `heapWorld less` (the slice-backed heap.Interface over `Array α`) compute exactly the model functions
`GoHeap.down`, `GoHeap.init`, `GoHeap.pop` of Got/Model/GoHeap.lean (including the panic of Pop on an empty heap).
-/
namespace Got.Lemmas.HeapAst
open Got.Model.MiniGoSort (wrap Env Frame)
open Got.Model.MiniGoHeap Got.Model.HeapAst Got.Model Got.Generated.AstContainerHeap
open Got.Lemmas.SortAst (wrap_eq B62)
open Got.Lemmas.GoHeap (down_size)

variable {α : Type}

/-- `if j2 < n && h.Less(j2, j1) { j = j2 }` of the generated `down`, whose variables are 0 = i0, 1 = n, 2 = i, 3 = j1,
    4 = j, 5 = j2 -/
def pickStmt : Stmt :=
  .ite (.and (.lt (.var 5) (.var 1)) (.less (.var 5) (.var 3))) [.set 4 (.var 5)] []

theorem pick_runs (P : String → Option Fn) (less : α → α → Bool) (a : Array α) (j1 n : Nat)
    (hn : n ≤ a.size) (hj : j1 < n) {i0 i : Int} (env : Env) (h : Frame [i0, n, i, j1, j1, ((j1 + 1 : Nat) : Int)] env) :
    ∃ env', Frame [i0, n, i, j1, (GoHeap.pickChild less a j1 n hn hj : Nat), ((j1 + 1 : Nat) : Int)] env' ∧
      Seg (heapWorld less) P none [pickStmt] env a env' a := by
  unfold GoHeap.pickChild
  by_cases h2 : j1 + 1 < n
  · rw [dif_pos h2]
    have hb0 : j1 < a.size := Nat.lt_of_lt_of_le hj hn
    have hb1 : j1 + 1 < a.size := Nat.lt_of_lt_of_le h2 hn
    have hc : evalC (heapWorld less) env (.and (.lt (.var 5) (.var 1)) (.less (.var 5) (.var 3))) a =
        some (less (a[j1 + 1]'hb1) (a[j1]'hb0), a) := by
      simp only [evalC, eval, h.get 1 rfl, h.get 3 rfl, h.get 5 rfl, Int.ofNat_lt.mpr h2, decide_true]
      exact hw_less less a (j1 + 1) j1 hb1 hb0
    cases hr : less (a[j1 + 1]'hb1) (a[j1]'hb0) <;> rw [hr] at hc
    · exact ⟨env, h, fun rest r hk => Runs.ite hc Runs.nil hk⟩
    · exact ⟨_, h.set 4 _, fun rest r hk => Runs.ite hc (Runs.set (h.get 5 rfl) Runs.nil) hk⟩
  · rw [dif_neg h2]
    refine ⟨env, h, fun rest r hk => Runs.ite (b := false) ?_ Runs.nil hk⟩
    simp only [evalC, eval, h.get 1 rfl, h.get 5 rfl, mt Int.ofNat_lt.mp h2, decide_false]

def downBody : List Stmt :=
  [ .set 3 (.add (.mul (.lit 2) (.var 2)) (.lit 1)),
    .ite (.or (.le (.var 1) (.var 3)) (.lt (.var 3) (.lit 0))) [.brk] [],
    .set 4 (.var 3),
    .set 5 (.add (.var 3) (.lit 1)),
    pickStmt,
    .ite (.not (.less (.var 4) (.var 2))) [.brk] [],
    .swap (.var 2) (.var 4),
    .set 2 (.var 4) ]

def downLoopStmt : Stmt := .loop .tt downBody []

theorem down_body : h_down.body = [.set 2 (.var 0), downLoopStmt, .retB (.lt (.var 0) (.var 2))] := rfl

/-- `j1 := 2*i + 1` does not overflow -/
theorem down_j1 (L : Int) (env : Env) (i : Nat) (hi : i < B62) (h2 : env.get 2 = (i : Int)) :
    eval L env (.add (.mul (.lit 2) (.var 2)) (.lit 1)) = ((2 * i + 1 : Nat) : Int) := by
  unfold B62 at hi
  simp (disch := omega) only [eval, h2, wrap_eq]
  omega

/-- `j2 := j1 + 1` does not overflow -/
theorem down_j2 (L : Int) (env : Env) (j1 : Nat) (hj : j1 < B62) (h3 : env.get 3 = (j1 : Int)) :
    eval L env (.add (.var 3) (.lit 1)) = ((j1 + 1 : Nat) : Int) :=
  (congrArg (fun v => wrap (v + wrap 1)) h3).trans (wrap_succ hj)

/-- `if j1 >= n || j1 < 0` with `j1` a natural number -/
theorem down_guard (less : α → α → Bool) (a : Array α) (env : Env) (n j1 : Nat) (h1 : env.get 1 = (n : Int))
    (h3 : env.get 3 = (j1 : Int)) :
    evalC (heapWorld less) env (.or (.le (.var 1) (.var 3)) (.lt (.var 3) (.lit 0))) a = some (decide (n ≤ j1), a) := by
  have t2 : ¬ (j1 : Int) < wrap 0 := by rw [wrap_zero]; omega
  dsimp only [evalC, eval]
  by_cases h : n ≤ j1
  · simp only [h1, h3, Int.ofNat_le.mpr h, h, decide_true]
  · simp only [h1, h3, mt Int.ofNat_le.mp h, h, t2, decide_false]

theorem downLoop_leaf (P : String → Option Fn) (less : α → α → Bool) (a : Array α) (n i : Nat) (env : Env)
    (hi : i < B62) (hle : n ≤ 2 * i + 1) {i0 x3 x4 x5 : Int} (h : Frame [i0, n, i, x3, x4, x5] env) :
    ∃ env', Frame [i0, n, i] env' ∧ Seg (heapWorld less) P none [downLoopStmt] env a env' a := by
  have g := h.set 3 ((2 * i + 1 : Nat) : Int)
  have hc := down_guard less a _ n (2 * i + 1) (g.get 1 rfl) (g.get 3 rfl)
  rw [decide_eq_true hle] at hc
  exact ⟨_, g.take 3, fun rest r hk =>
    Runs.loop_brk (w1 := a) rfl (Runs.set (down_j1 _ env i hi (h.get 2 rfl)) (Runs.ite_brk hc Runs.brk)) hk⟩

theorem downLoop_runs (P : String → Option Fn) (less : α → α → Bool) (n : Nat) {i0 : Int} :
    ∀ (fuel : Nat) (a : Array α) (i : Nat) {x3 x4 x5 : Int} (env : Env), n ≤ a.size → a.size < B62 → i < B62 → n - i ≤ fuel →
      Frame [i0, n, i, x3, x4, x5] env →
      ∃ env', Frame [i0, n, ((GoHeap.downAux less fuel a i n).2 : Nat)] env' ∧
        Seg (heapWorld less) P none [downLoopStmt] env a env' (GoHeap.downAux less fuel a i n).1 := by
  intro fuel
  induction fuel with
  | zero => exact fun a i _ _ _ env _ _ hi hf h => downLoop_leaf P less a n i env hi (by omega) h
  | succ fuel ih =>
    intro a i x3 x4 x5 env hn hsz hi hf h
    simp only [GoHeap.downAux]
    rw [dif_pos hn]
    by_cases hlt : 2 * i + 1 < n
    · rw [dif_pos hlt]
      have hj := GoHeap.pickChild_spec less a (2 * i + 1) n hn hlt
      have hja : GoHeap.pickChild less a (2 * i + 1) n hn hlt < a.size := Nat.lt_of_lt_of_le hj.2.2 hn
      have hia : i < a.size := (Got.Lemmas.GoHeap.child_parent hj.1 hj.2.1).1 ▸ Got.Lemmas.GoHeap.parent_lt hja
      have hj62 : GoHeap.pickChild less a (2 * i + 1) n hn hlt < B62 := Nat.lt_trans hja hsz
      have hjf : n - GoHeap.pickChild less a (2 * i + 1) n hn hlt ≤ fuel := Got.Lemmas.GoHeap.fuel_child hj.1 hf
      have hj1 : 2 * i + 1 < B62 := Nat.lt_trans (Nat.lt_of_lt_of_le hlt hn) hsz
      -- the variables before the choice of the child: j1, j := j1, j2 := j1 + 1
      have g3 := h.set 3 ((2 * i + 1 : Nat) : Int)
      have g4 := g3.set 4 ((2 * i + 1 : Nat) : Int)
      have hc1 := down_guard less a _ n (2 * i + 1) (g3.get 1 rfl) (g3.get 3 rfl)
      rw [decide_eq_false (Nat.not_le.mpr hlt)] at hc1
      obtain ⟨env4, g, hk⟩ := pick_runs P less a (2 * i + 1) n hn hlt _ (g4.set 5 ((2 * i + 1 + 1 : Nat) : Int))
      have hc3 : evalC (heapWorld less) env4 (.not (.less (.var 4) (.var 2))) a =
          some (!less (a[GoHeap.pickChild less a (2 * i + 1) n hn hlt]'hja) (a[i]'hia), a) := by
        simp only [evalC, eval, g.get 2 rfl, g.get 4 rfl]
        rw [hw_less less a _ i hja hia]
        rfl
      -- the body up to the test `!h.Less(j, i)`
      have pre : ∀ r, Runs (heapWorld less) P none _ env4 a r → Runs (heapWorld less) P none downBody env a r := fun r h' =>
        Runs.set (down_j1 _ env i hi (h.get 2 rfl)) (Runs.ite hc1 Runs.nil (Runs.set (g3.get 3 rfl)
          (Runs.set (down_j2 _ _ _ hj1 (g4.get 3 rfl)) (hk _ _ h'))))
      cases hl : less (a[GoHeap.pickChild less a (2 * i + 1) n hn hlt]'hja) (a[i]'hia)
      · rw [hl] at hc3
        exact ⟨env4, g.take 3, fun rest r h' => Runs.loop_brk (w1 := a) rfl (pre _ (Runs.ite_brk hc3 Runs.brk)) h'⟩
      · rw [hl] at hc3
        have hsw : (heapWorld less).swap a (eval ((heapWorld less).len a) env4 (.var 2))
            (eval ((heapWorld less).len a) env4 (.var 4)) =
            some (a.swap i (GoHeap.pickChild less a (2 * i + 1) n hn hlt) hia hja) := by
          simp only [eval, g.get 2 rfl, g.get 4 rfl]
          exact hw_swap less a i _ hia hja
        obtain ⟨env', q, hk'⟩ := ih (a.swap i (GoHeap.pickChild less a (2 * i + 1) n hn hlt) hia hja)
          (GoHeap.pickChild less a (2 * i + 1) n hn hlt) _
          (by rw [Array.size_swap]; exact hn) (by rw [Array.size_swap]; exact hsz) hj62 hjf
          (g.set 2 ((GoHeap.pickChild less a (2 * i + 1) n hn hlt : Nat) : Int))
        exact ⟨env', q, fun rest r h' =>
          Runs.loop_iter (w1 := a) rfl (pre _ (Runs.ite hc3 Runs.nil (Runs.swap hsw (Runs.set (g.get 4 rfl) Runs.nil)))) Runs.nil
            (hk' rest r h')⟩
    · rw [dif_neg hlt]
      exact downLoop_leaf P less a n i env hi (by omega) h

theorem down_runs (P : String → Option Fn) (less : α → α → Bool) (a : Array α) (i0 n : Nat)
    (hn : n ≤ a.size) (hsz : a.size < B62) (hi : i0 < B62) :
    FnRuns (heapWorld less) P h_down [(i0 : Int), (n : Int)] a
      [if (GoHeap.down less a i0 n).2 then 1 else 0] (GoHeap.down less a i0 n).1 := by
  obtain ⟨env', q, hk⟩ := downLoop_runs P less n n a i0 _ hn hsz hi (by omega)
    ((Frame.init [(i0 : Int), (n : Int)] 4).set 2 (i0 : Int))
  have hc : evalC (heapWorld less) env' (.lt (.var 0) (.var 2)) (GoHeap.downAux less n a i0 n).1 =
      some ((GoHeap.down less a i0 n).2, (GoHeap.down less a i0 n).1) := by
    simp only [evalC, eval, q.get 0 rfl, q.get 2 rfl, GoHeap.down, GoHeap.downLoop, Int.ofNat_lt, gt_iff_lt]
  exact Or.inl (down_body ▸ Runs.set rfl (hk _ _ (Runs.retB hc)))

theorem callDown_runs (P : String → Option Fn) (hPd : P "down" = some h_down) (x : Option α) (less : α → α → Bool)
    (a : Array α) (i n : Nat) (hn : n ≤ a.size) (hsz : a.size < B62) (hi : i < B62) (e1 e2 : Expr) (tmp : Nat) (env : Env)
    (h1 : eval ((heapWorld less).len a) env e1 = (i : Int)) (h2 : eval ((heapWorld less).len a) env e2 = (n : Int))
    (rest : List Stmt) (r : Res (Array α) α)
    (h : Runs (heapWorld less) P x rest (env.set tmp (if (GoHeap.down less a i n).2 then 1 else 0))
      (GoHeap.down less a i n).1 r) :
    Runs (heapWorld less) P x (.call "down" [e1, e2] [tmp] :: rest) env a r :=
  Runs.call (vs := [if (GoHeap.down less a i n).2 then 1 else 0]) hPd rfl rfl rfl
    (by simp only [List.map, h1, h2]; exact down_runs P less a i n hn hsz hi) rfl h

/-- `for i := …; i >= 0; i-- { down(h, i, n) }` of the generated term -/
def initLoopStmt : Stmt :=
  .loop (.le (.lit 0) (.var 1)) [.call "down" [(.var 1), (.var 0)] [2]] [.set 1 (.sub (.var 1) (.lit 1))]

theorem init_body : h_Init.body =
    [.set 0 .len, .set 1 (.sub (.divC (.var 0) 2) (.lit 1)), initLoopStmt] := rfl

theorem foldl_range_reverse_succ {β : Type} (f : β → Nat → β) (b : β) (k : Nat) :
    (List.range (k + 1)).reverse.foldl f b = (List.range k).reverse.foldl f (f b k) := by
  rw [List.range_succ, List.reverse_append]
  rfl

/-- the loop of Init with `k` positions `k-1, …, 0` left (`i = k - 1`, possibly `-1`); variables 0 = n, 1 = i, 2 = the result
    of `down` -/
theorem initLoop_runs (P : String → Option Fn) (hPd : P "down" = some h_down) (less : α → α → Bool)
    (N : Nat) (hN : N < B62) :
    ∀ (k : Nat) (a : Array α) {t : Int} (env : Env), a.size = N → k ≤ N → Frame [N, (k : Int) - 1, t] env →
      ∃ env', Seg (heapWorld less) P none [initLoopStmt] env a env'
        ((List.range k).reverse.foldl (fun a i => (GoHeap.downLoop less a i a.size).1) a) := by
  have hN' : N < 4611686018427387904 := hN
  intro k
  induction k with
  | zero =>
    intro a t env hsz hk h
    have hc : evalC (heapWorld less) env (.le (.lit 0) (.var 1)) a = some (false, a) := by
      simp only [evalC, eval, h.get 1 rfl, wrap_zero]
      rfl
    exact ⟨env, fun rest r h => Runs.loop_exit hc h⟩
  | succ k ih =>
    intro a t env hsz hk h
    subst hsz
    have h1 : env.get 1 = (k : Int) := (h.get 1 rfl).trans (by omega)
    have hc : evalC (heapWorld less) env (.le (.lit 0) (.var 1)) a = some (true, a) := by
      simp only [evalC, eval, h1, wrap_zero, Int.natCast_nonneg, decide_true]
    rw [foldl_range_reverse_succ]
    obtain ⟨env', hk'⟩ := ih (GoHeap.down less a k a.size).1 _ (down_size less a k a.size) (Nat.le_of_succ_le hk)
      ((h.set 2 (if (GoHeap.down less a k a.size).2 then 1 else 0)).set 1 ((k : Int) - 1))
    refine ⟨env', fun rest r h' => Runs.loop_iter hc ?_ (Runs.set ?_ Runs.nil) (hk' rest r h')⟩
    · exact callDown_runs P hPd none less a k a.size (Nat.le_refl _) hN
        (Nat.lt_of_lt_of_le (Nat.lt_of_succ_le hk) (Nat.le_of_lt hN)) (.var 1) (.var 0) 2 env h1 (h.get 0 rfl) [] _ Runs.nil
    · simp (disch := omega) only [eval, Env.get_set, h1, wrap_eq]
      rfl

theorem init_runs (P : String → Option Fn) (hPd : P "down" = some h_down) (less : α → α → Bool) (a : Array α)
    (hsz : a.size < B62) :
    ∃ e, Runs (heapWorld less) P none h_Init.body #[] a (.cont e (GoHeap.init less a)) := by
  have hsz' : a.size < 4611686018427387904 := hsz
  have v1 : eval ((heapWorld less).len a) (Env.set #[] 0 (a.size : Int)) (.sub (.divC (.var 0) 2) (.lit 1)) =
      ((a.size / 2 : Nat) : Int) - 1 := by
    simp only [eval, Env.get_set, reduceIte, ← Int.ofNat_tdiv]
    simp (disch := omega) only [wrap_eq]
  obtain ⟨e3, hk⟩ := initLoop_runs P hPd less a.size hsz (a.size / 2) a _ rfl (Nat.div_le_self _ _)
    (((Frame.init [] 3).set 0 (a.size : Int)).set 1 (((a.size / 2 : Nat) : Int) - 1))
  refine ⟨e3, ?_⟩
  rw [init_body]
  unfold GoHeap.init
  exact Runs.set rfl (Runs.set v1 (hk [] _ Runs.nil))

theorem pop_runs (P : String → Option Fn) (hPd : P "down" = some h_down) (less : α → α → Bool) (a : Array α)
    (hsz : a.size < B62) :
    Runs (heapWorld less) P none h_Pop.body #[] a (popRes (GoHeap.pop less a)) := by
  have hbody : h_Pop.body = [.set 0 (.sub .len (.lit 1)), .swap (.lit 0) (.var 0),
      .call "down" [(.lit 0), (.var 0)] [1], .retPop] := rfl
  rw [hbody]
  refine Runs.set (eval_len_pred a.size hsz _) ?_
  by_cases h : 0 < a.size
  · have hla : a.size - 1 < a.size := Nat.sub_lt h Nat.one_pos
    have A0 : (Env.set #[] 0 ((a.size : Int) - 1)).get 0 = ((a.size - 1 : Nat) : Int) := by rw [Env.get_set]; omega
    refine Runs.swap (w' := a.swap 0 (a.size - 1) h hla) ?_ ?_
    · simp only [eval, A0, wrap_zero]
      exact hw_swap less a 0 (a.size - 1) h hla
    · refine callDown_runs P hPd none less _ 0 (a.size - 1) (by rw [Array.size_swap]; exact Nat.sub_le _ _)
        (by rw [Array.size_swap]; exact hsz) (Nat.zero_lt_of_lt hsz) _ _ 1 _ (by exact wrap_zero) (by rw [eval, A0]) _ _ ?_
      unfold GoHeap.pop
      rw [dif_pos h]
      exact Runs.retPop
  · rw [Got.Lemmas.GoHeap.pop_none less a (Nat.eq_zero_of_not_pos h)]
    refine Runs.swap_panic ?_
    simp only [eval, Env.get_set, reduceIte, heapWorld]
    rw [dif_neg (by omega)]

end Got.Lemmas.HeapAst
