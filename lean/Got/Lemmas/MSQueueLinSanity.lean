import Got.Lemmas.MSQueueLin
/-
Sanity of the definition `Linearizable`: on a sequential history it is legality.  A linearization of `seqHist S₀` has the
operations of `S₀` thread by thread (L1) and keeps the order in which they stand in `S₀` (L2), so it is `S₀`.
-/
namespace Got.Spec.Lin

theorem completeT_rets : ∀ {R : List HEv}, (∀ e, e ∈ R → e.isRet = true) → completeT R = R
  | [], _ => rfl
  | .inv t o :: _, h => nomatch h (.inv t o) List.mem_cons_self
  | .ret t r :: R, h => congrArg (HEv.ret t r :: ·) (completeT_rets (R := R) fun e he => h e (List.mem_cons_of_mem _ he))

theorem seqHist_append_rets {R : List HEv} (hR : ∀ e, e ∈ R → e.isRet = true) :
    ∀ {A B : List OpRec}, seqHist A ++ R = seqHist B → A = B
  | [], [], _ => rfl
  | [], b :: B, h => nomatch hR (.inv b.t b.o) ((show R = _ :: _ from h) ▸ List.mem_cons_self)
  | a :: A, [], h => nomatch h
  | a :: A, b :: B, h => by
    simp only [seqHist, List.cons_append, List.cons.injEq, HEv.inv.injEq, HEv.ret.injEq] at h
    obtain ⟨⟨h1, h2⟩, ⟨_, h3⟩, h4⟩ := h
    rw [seqHist_append_rets hR h4]
    cases a; cases b
    simp only at h1 h2 h3
    rw [h1, h2, h3]

theorem filterT_of_equiv {S₀ S : List OpRec} {ext : List HEv} (hext : ∀ e, e ∈ ext → e.isRet = true)
    (hL1 : ∀ t, proj t (complete (seqHist S₀ ++ ext)) = proj t (seqHist S)) (t : Nat) : filterT t S₀ = filterT t S := by
  have hR : ∀ e, e ∈ proj t ext → e.isRet = true := fun e he => hext e (List.mem_filter.mp he).1
  have h := hL1 t
  rw [proj_complete, proj_append, proj_seqHist, proj_seqHist, completeT_seqHist_append, completeT_rets hR] at h
  exact seqHist_append_rets hR h

theorem nRet_cons_inv (t t' : Nat) (o : Op) (X : List HEv) : nRet t (.inv t' o :: X) = nRet t X := by
  simp [nRet, HEv.isRetOf]

theorem nInv_cons_ret (t t' : Nat) (r : Res) (X : List HEv) : nInv t (.ret t' r :: X) = nInv t X := by
  simp [nInv, HEv.isInvOf]

theorem nRet_cons_ret (t t' : Nat) (r : Res) (X : List HEv) :
    nRet t (.ret t' r :: X) = nRet t X + if t' = t then 1 else 0 := by
  simp [nRet, HEv.isRetOf, List.countP_cons]

theorem nInv_cons_inv (t t' : Nat) (o : Op) (X : List HEv) :
    nInv t (.inv t' o :: X) = nInv t X + if t' = t then 1 else 0 := by
  simp [nInv, HEv.isInvOf, List.countP_cons]

/-- the real-time order of a sequential history without its first operation `x`: operation numbers of `x.t` shift by one. -/
theorem retBeforeInv_cons (x : OpRec) (S : List OpRec) (t k t' k' : Nat) :
    RetBeforeInv (seqHist (x :: S)) t (k + if x.t = t then 1 else 0) t' (k' + if x.t = t' then 1 else 0) ↔
      RetBeforeInv (seqHist S) t k t' k' := by
  constructor
  · rintro ⟨X₁, X₂, hX, h1, h2⟩
    match X₁, hX with
    | [], _ => exact absurd h1 (Nat.not_lt_zero _)
    | [_], hX =>
      injection hX with he _; subst he
      rw [nRet_cons_inv] at h1; exact absurd h1 (Nat.not_lt_zero _)
    | _ :: _ :: X₁, hX =>
      injection hX with he hX; injection hX with he' hX; subst he he'
      rw [nRet_cons_inv, nRet_cons_ret] at h1
      rw [nInv_cons_inv, nInv_cons_ret] at h2
      exact ⟨X₁, X₂, hX, by omega, by omega⟩
  · rintro ⟨X₁, X₂, hX, h1, h2⟩
    refine ⟨.inv x.t x.o :: .ret x.t x.r :: X₁, X₂, by rw [seqHist, hX]; rfl, ?_, ?_⟩
    · rw [nRet_cons_inv, nRet_cons_ret]; omega
    · rw [nInv_cons_inv, nInv_cons_ret]; omega

theorem eq_of_filterT_of_order : ∀ {S₀ S : List OpRec}, (∀ t, filterT t S₀ = filterT t S) →
    (∀ t k t' k', RetBeforeInv (seqHist S₀) t k t' k' → RetBeforeInv (seqHist S) t k t' k') → S₀ = S
  | [], S, hp, _ => by
    cases S with
    | nil => rfl
    | cons y S => have := hp y.t; simp [filterT] at this
  | x :: S₀, [], hp, _ => by have := hp x.t; simp [filterT] at this
  | x :: S₀, y :: S, hp, ho => by
    have hxy : x = y := by
      by_cases h : y.t = x.t
      · have := hp x.t
        simp only [filterT, List.filter_cons, h, decide_true, if_true, List.cons.injEq] at this
        exact this.1
      · -- `x` has returned before the first operation of `y.t` is invoked; not so in a history that begins with `y`
        exfalso
        obtain ⟨X₁, X₂, hX, h1, h2⟩ := ho x.t 0 y.t 0
          ⟨[.inv x.t x.o, .ret x.t x.r], seqHist S₀, rfl, by simp [nRet, HEv.isRetOf], by simp [nInv, HEv.isInvOf, Ne.symm h]⟩
        match X₁, hX with
        | [], _ => exact absurd h1 (Nat.not_lt_zero _)
        | _ :: X₁, hX =>
          injection hX with he _; subst he
          rw [nInv_cons_inv, if_pos rfl] at h2; omega
    subst hxy
    refine congrArg (x :: ·) (eq_of_filterT_of_order (fun t => ?_) fun t k t' k' h => ?_)
    · have := hp t
      simp only [filterT, List.filter_cons] at this
      split at this
      · exact List.tail_eq_of_cons_eq this
      · exact this
    · exact (retBeforeInv_cons x S t k t' k').mp (ho _ _ _ _ ((retBeforeInv_cons x S₀ t k t' k').mpr h))

theorem legal_of_linearizable_seqHist {σ : Type} {spec : SeqSpec σ} {S₀ : List OpRec}
    (h : Linearizable spec (seqHist S₀)) : Legal spec S₀ := by
  obtain ⟨ext, S, hext, hleg, hL1, hL2⟩ := h
  rwa [eq_of_filterT_of_order (filterT_of_equiv hext hL1) hL2]

end Got.Spec.Lin
