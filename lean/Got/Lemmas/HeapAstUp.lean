import Got.Lemmas.HeapAstBase
import Got.Lemmas.GoHeap
/-
Translator tie of container/heap, part "up": the generated terms `h_up` and `h_Push`
(Got/Generated/AstContainerHeap.lean) interpreted by MiniGoHeap over the slice-backed world `heapWorld less`
compute exactly the model functions `GoHeap.up` / `GoHeap.push` of Got/Model/GoHeap.lean (and never panic).
-/
namespace Got.Lemmas.HeapAst
open Got.Model.MiniGoSort (Env Frame)
open Got.Model.MiniGoHeap Got.Model.HeapAst Got.Model Got.Generated.AstContainerHeap
open Got.Lemmas.SortAst (wrap_eq B62 tdiv_half)

variable {α : Type}

/-- the body of the `for { … }` of the generated `up`; variables 0 = j, 1 = i -/
def upBody : List Stmt :=
  [ .set 1 (.divC (.sub (.var 0) (.lit 1)) 2),
    .ite (.or (.eq (.var 1) (.var 0)) (.not (.less (.var 0) (.var 1)))) [.brk] [],
    .swap (.var 1) (.var 0),
    .set 0 (.var 1) ]

def upLoop : Stmt := .loop .tt upBody []

theorem up_body : h_up.body = [upLoop] := rfl

/-- `i := (j - 1) / 2` -/
theorem up_parent (L : Int) (env : Env) (j : Nat) (hj : j < B62) (h0 : env.get 0 = (j : Int)) :
    eval L env (.divC (.sub (.var 0) (.lit 1)) 2) = (((j - 1) / 2 : Nat) : Int) := by
  unfold B62 at hj
  simp (disch := omega) only [eval, h0, wrap_eq]
  rw [tdiv_half, wrap_eq (by omega) (by omega)]

/-- `if i == j || !h.Less(j, i)` -/
theorem up_guard (less : α → α → Bool) (a : Array α) (env : Env) (i j : Nat) (hi : i < a.size) (hj : j < a.size)
    (h0 : env.get 0 = (j : Int)) (h1 : env.get 1 = (i : Int)) :
    evalC (heapWorld less) env (.or (.eq (.var 1) (.var 0)) (.not (.less (.var 0) (.var 1)))) a =
      some (decide (i = j) || !less a[j] a[i], a) := by
  by_cases hij : i = j
  · simp only [evalC, eval, h0, h1, hij, decide_true, Bool.true_or]
  · simp only [evalC, eval, h0, h1, mt Int.ofNat_inj.mp hij, hij, decide_false, hw_less less a j i hj hi, Option.map_some,
      Bool.false_or]

theorem upLoop_runs (P : String → Option Fn) (less : α → α → Bool) :
    ∀ (fuel : Nat) (a : Array α) (j : Nat) {i0 : Int} (env : Env), j < a.size → j < fuel → a.size < B62 → Frame [j, i0] env →
      ∃ env', Seg (heapWorld less) P none [upLoop] env a env' (GoHeap.upAux less fuel a j) := by
  intro fuel
  induction fuel with
  | zero => intro a j _ env _ hf; omega
  | succ fuel ih =>
    intro a j i0 env hj hf hsz h
    have hi : (j - 1) / 2 < a.size := Got.Lemmas.GoHeap.parent_lt hj
    have g := h.set 1 (((j - 1) / 2 : Nat) : Int)
    have hc := up_guard less a _ ((j - 1) / 2) j hi hj (g.get 0 rfl) (g.get 1 rfl)
    have pre : ∀ r, Runs (heapWorld less) P none _ _ a r → Runs (heapWorld less) P none upBody env a r := fun r h' =>
      Runs.set (up_parent _ env j (Nat.lt_trans hj hsz) (h.get 0 rfl)) h'
    simp only [GoHeap.upAux]
    rw [dif_pos hj]
    by_cases hij : (j - 1) / 2 = j
    · rw [if_pos hij]
      rw [decide_eq_true hij, Bool.true_or] at hc
      exact ⟨_, fun rest r h' => Runs.loop_brk (w1 := a) rfl (pre _ (Runs.ite_brk hc Runs.brk)) h'⟩
    · rw [if_neg hij]
      rw [decide_eq_false hij, Bool.false_or] at hc
      cases hl : less a[j] (a[(j - 1) / 2]'hi) with
      | false =>
        rw [hl] at hc
        exact ⟨_, fun rest r h' => Runs.loop_brk (w1 := a) rfl (pre _ (Runs.ite_brk hc Runs.brk)) h'⟩
      | true =>
        rw [hl] at hc
        obtain ⟨env', hk⟩ := ih (a.swap ((j - 1) / 2) j hi hj) ((j - 1) / 2) _ (by rw [Array.size_swap]; exact hi)
          (Got.Lemmas.GoHeap.parent_lt_fuel hij hf) (by rw [Array.size_swap]; exact hsz) (g.set 0 (((j - 1) / 2 : Nat) : Int))
        refine ⟨env', fun rest r h' => Runs.loop_iter (w1 := a) rfl (pre _ (Runs.ite hc Runs.nil
          (Runs.swap (w' := a.swap ((j - 1) / 2) j hi hj) ?_ (Runs.set (g.get 1 rfl) Runs.nil)))) Runs.nil (hk rest r h')⟩
        simp only [eval, g.get 0 rfl, g.get 1 rfl]
        exact hw_swap less a ((j - 1) / 2) j hi hj

theorem up_runs (P : String → Option Fn) (less : α → α → Bool) (a : Array α) (j : Nat) (hj : j < a.size)
    (hsz : a.size < B62) : FnRuns (heapWorld less) P h_up [(j : Int)] a [] (GoHeap.up less a j) := by
  obtain ⟨env', hk⟩ := upLoop_runs P less (j + 1) a j _ hj (by omega) hsz (Frame.init [(j : Int)] 1)
  rw [FnRuns, up_body]
  exact Or.inr ⟨rfl, env', hk [] _ Runs.nil⟩

theorem callUp_runs (P : String → Option Fn) (hPu : P "up" = some h_up) (x : Option α) (less : α → α → Bool) (a : Array α)
    (j : Nat) (hj : j < a.size) (hsz : a.size < B62) (e : Expr) (env : Env)
    (h1 : eval ((heapWorld less).len a) env e = (j : Int)) (rest : List Stmt) (r : Res (Array α) α)
    (h : Runs (heapWorld less) P x rest env (GoHeap.up less a j) r) :
    Runs (heapWorld less) P x (.call "up" [e] [] :: rest) env a r :=
  Runs.call (vs := []) hPu rfl rfl rfl (by simp only [List.map, h1]; exact up_runs P less a j hj hsz) rfl h

theorem push_runs (P : String → Option Fn) (hPup : P "up" = some h_up) (less : α → α → Bool) (a : Array α) (x : α)
    (hsz : a.size + 1 < B62) :
    Runs (heapWorld less) P (some x) h_Push.body #[] a (.cont #[] (GoHeap.push less a x)) := by
  have hs : (a.push x).size < B62 := by rw [Array.size_push]; exact hsz
  show Runs (heapWorld less) P (some x) [.hpush, .call "up" [(.sub .len (.lit 1))] []] #[] a _
  exact Runs.hpush (callUp_runs P hPup _ less (a.push x) a.size (by rw [Array.size_push]; exact Nat.lt_succ_self _) hs _ _
    ((eval_len_pred _ hs _).trans (by rw [Array.size_push]; omega)) _ _ Runs.nil)

end Got.Lemmas.HeapAst
