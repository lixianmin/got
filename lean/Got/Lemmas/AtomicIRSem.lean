import Got.Model.AtomicIR
import Got.Lemmas.AtomicIRAttr
/-
What the interpreter of Got/Model/AtomicIR.lean does on each form of continuation item and statement, collected under the
simp attribute `ir_sem`, with which the translator ties run the generated programs; and what `step` does to a thread
according to its configuration (these have hypotheses on the configuration and are applied by name).
Each tie asks for what it needs of a step's outcome (memory, configuration, returned value) as one conjunction, so that a
single `simp [ir_sem]` call, which runs the program once, proves all of it.
-/
namespace Got.Model.AtomicIR

variable (pred : List Val → Val → Bool) (args : List Val) (f : Nat) (st : St) (k : List Item) (env : List Val)

attribute [ir_sem] eval i64op resolve loadAt casAt doAcc evalRhs evalC Stmt.needs Cond.needs Rhs.needs enter unwind
  stepFuel retEvs

@[ir_sem] theorem exec_nil : exec pred args (f + 1) st [] env = ⟨st.m, .idle, st.tok, some none⟩ := rfl

@[ir_sem] theorem exec_pop (n : Nat) : exec pred args (f + 1) st (.pop n :: k) env = exec pred args f st k (env.take n) := rfl

@[ir_sem] theorem exec_loopEnd (body : List Stmt) :
    exec pred args (f + 1) st (.loopEnd body :: k) env = exec pred args f st (enter body env k) env := rfl

@[ir_sem] theorem exec_park (s : Stmt) (h : (s.needs && !st.b) = true) :
    exec pred args (f + 1) st (.stmt s :: k) env = ⟨st.m, .run (.stmt s :: k) env args, st.tok, none⟩ :=
  if_pos h

@[ir_sem] theorem exec_decl (r : Rhs) (h : (r.needs && !st.b) = false) :
    exec pred args (f + 1) st (.stmt (.decl r) :: k) env =
      match evalRhs st env r with
      | .ok st' v => exec pred args f st' k (env ++ [v])
      | .crash => ⟨st.m, .crash, st.tok, none⟩
      | .stuck => ⟨st.m, .stuck, st.tok, none⟩ :=
  if_neg (ne_true_of_eq_false h)

@[ir_sem] theorem exec_assign (x : Nat) (r : Rhs) (h : (r.needs && !st.b) = false) :
    exec pred args (f + 1) st (.stmt (.assign x r) :: k) env =
      match evalRhs st env r with
      | .ok st' v => if x < env.length then exec pred args f st' k (env.set x v) else ⟨st.m, .stuck, st.tok, none⟩
      | .crash => ⟨st.m, .crash, st.tok, none⟩
      | .stuck => ⟨st.m, .stuck, st.tok, none⟩ :=
  if_neg (ne_true_of_eq_false h)

@[ir_sem] theorem exec_drop (r : Rhs) (h : (r.needs && !st.b) = false) :
    exec pred args (f + 1) st (.stmt (.drop r) :: k) env =
      match evalRhs st env r with
      | .ok st' _ => exec pred args f st' k env
      | .crash => ⟨st.m, .crash, st.tok, none⟩
      | .stuck => ⟨st.m, .stuck, st.tok, none⟩ :=
  if_neg (ne_true_of_eq_false h)

@[ir_sem] theorem exec_ite (c : Cond) (t e : List Stmt) (h : (c.needs && !st.b) = false) :
    exec pred args (f + 1) st (.stmt (.ite c t e) :: k) env =
      match evalC pred args st env c with
      | .ok st' b => exec pred args f st' ((if b then t else e).map .stmt ++ (.pop env.length :: k)) env
      | .crash => ⟨st.m, .crash, st.tok, none⟩
      | .stuck => ⟨st.m, .stuck, st.tok, none⟩ :=
  if_neg (ne_true_of_eq_false h)

@[ir_sem] theorem exec_loop (body : List Stmt) :
    exec pred args (f + 1) st (.stmt (.loop body) :: k) env = exec pred args f st (enter body env k) env := rfl

@[ir_sem] theorem exec_brk :
    exec pred args (f + 1) st (.stmt .brk :: k) env =
      match unwind k env with
      | some (k', env') => exec pred args f st k' env'
      | none => ⟨st.m, .stuck, st.tok, none⟩ := rfl

@[ir_sem] theorem exec_panic :
    exec pred args (f + 1) st (.stmt .panic :: k) env = ⟨st.m, .idle, st.tok, some (some .panic)⟩ := rfl

@[ir_sem] theorem exec_ret_none :
    exec pred args (f + 1) st (.stmt (.ret none) :: k) env = ⟨st.m, .idle, st.tok, some none⟩ := rfl

@[ir_sem] theorem exec_ret_some (e : Expr) :
    exec pred args (f + 1) st (.stmt (.ret (some e)) :: k) env =
      match eval env e with
      | some v => ⟨st.m, .idle, st.tok, some (some v)⟩
      | none => ⟨st.m, .stuck, st.tok, none⟩ := rfl

variable (prog : List Func) (g : GState) (t : Nat)

theorem step_tau_run {k : List Item} {env args : List Val} (h : g.conf t = .run k env args) :
    step prog pred g (.tau t) = g.apply t (exec pred args stepFuel ⟨g.mem, true, none⟩ k env) := by
  simp only [step, h, stepThread]

theorem step_tau_halted (h : stepThread pred g.mem (g.conf t) = none) : step prog pred g (.tau t) = g := by
  simp only [step, h]

theorem step_inv_busy (fn : Nat) (h : g.conf t ≠ .idle) : step prog pred g (.inv t fn args) = g := by
  simp only [step]
  split
  · next hc _ => exact absurd hc h
  · rfl

theorem step_inv_idle {fn : Nat} {fd : Func} (h : g.conf t = .idle) (hf : prog[fn]? = some fd)
    (hn : args.length = fd.nparams) :
    step prog pred g (.inv t fn args) =
      { g with hist := g.hist ++ [(t, Ev.inv fn args)] }.apply t (startThread pred g.mem fd args) := by
  simp only [step, h, hf, hn, if_true]

/-- the configurations after thread `t`'s step, `cf` / `cf'` being a tie's images of the hand-written state before / after it -/
theorem apply_conf (hs : List (Nat × Ev)) (o : Out) {cf cf' : Nat → Config} (h : ∀ u, g.conf u = cf u)
    (hoth : ∀ u, u ≠ t → cf' u = cf u) (ho : o.conf = cf' t) (u : Nat) :
    (GState.apply { g with hist := hs } t o).conf u = cf' u := by
  simp only [GState.apply, upd]
  split
  · next hu => rw [hu, ho]
  · next hu => rw [hoth u hu, h u]

end Got.Model.AtomicIR
