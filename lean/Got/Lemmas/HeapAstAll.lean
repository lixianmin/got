import Got.Lemmas.HeapAstUp
import Got.Lemmas.HeapAstDown
/-
Translator tie of container/heap, assembly: with the generated program `Got.Generated.AstContainerHeap.prog` as the
callee table, the interpreted heap.Push / heap.Pop / heap.Init (`pushAst`, `popAst`, `initAst`) are the GoHeap model
functions, and heap.Fix and heap.Remove refine `GoHeap.fix` / `GoHeap.remove`.
-/
namespace Got.Lemmas.HeapAst
open Got.Model.MiniGoSort (Env)
open Got.Model.MiniGoHeap Got.Model.HeapAst Got.Model Got.Generated.AstContainerHeap
open Got.Lemmas.SortAst (B62)
open Got.Lemmas.GoHeap (down_size)

variable {α : Type}

theorem prog_up : prog "up" = some h_up := rfl
theorem prog_down : prog "down" = some h_down := rfl

theorem pushAst_refines (less : α → α → Bool) (a : Array α) (x : α) (hsz : a.size + 1 < B62) :
    ∃ f0, ∀ f, f0 ≤ f → pushAst f less a x = some (some (GoHeap.push less a x)) := by
  refine Evt.mono (run_of_Runs (fn := h_Push) (args := []) (x := some x) rfl rfl (push_runs prog prog_up less a x hsz)) fun f h => ?_
  unfold pushAst
  rw [h]
  rfl

/-- the inner `none` is heap.Pop's panic on the empty heap -/
theorem popAst_refines (less : α → α → Bool) (a : Array α) (hsz : a.size < B62) :
    ∃ f0, ∀ f, f0 ≤ f → popAst f less a = some (GoHeap.pop less a) := by
  refine Evt.mono (run_of_Runs (fn := h_Pop) (args := []) (x := none) rfl rfl (pop_runs prog prog_down less a hsz)) fun f h => ?_
  unfold popAst
  rw [h]
  cases GoHeap.pop less a <;> rfl

theorem initAst_refines (less : α → α → Bool) (a : Array α) (hsz : a.size < B62) :
    ∃ f0, ∀ f, f0 ≤ f → initAst f less a = some (some (GoHeap.init less a)) := by
  obtain ⟨e, hr⟩ := init_runs prog prog_down less a hsz
  refine Evt.mono (run_of_Runs (fn := h_Init) (args := []) (x := none) rfl rfl hr) fun f h => ?_
  unfold initAst
  rw [h]
  rfl

theorem fix_body : h_Fix.body =
    [.call "down" [(.var 0), .len] [1], .ite (.not (.bvar 1)) [.call "up" [(.var 0)] []] []] := rfl

/-- the tail `if !down(…) { up(h, i) }` shared by Fix and Remove: `tmp` holds down's result -/
theorem fixTail_runs (P : String → Option Fn) (hPu : P "up" = some h_up) (x : Option α) (less : α → α → Bool)
    (b : Array α) (moved : Bool) (i tmp : Nat) (hi : i < b.size) (hsz : b.size < B62) (env : Env)
    (h0 : env.get 0 = (i : Int)) (ht : env.get tmp = if moved then 1 else 0) (rest : List Stmt) (r : Res (Array α) α)
    (h : Runs (heapWorld less) P x rest env (if !moved then GoHeap.up less b i else b) r) :
    Runs (heapWorld less) P x (.ite (.not (.bvar tmp)) [.call "up" [(.var 0)] []] [] :: rest) env b r := by
  have hc : evalC (heapWorld less) env (.not (.bvar tmp)) b = some (!moved, b) := by
    simp only [evalC, ht]
    cases moved <;> rfl
  cases moved with
  | true => exact Runs.ite hc Runs.nil h
  | false => exact Runs.ite hc (callUp_runs P hPu x less b i hi hsz _ env (by rw [eval, h0]) [] _ Runs.nil) h

/-- heap.Fix(h, i) for an index inside the heap -/
theorem fix_runs (P : String → Option Fn) (hPd : P "down" = some h_down) (hPu : P "up" = some h_up)
    (less : α → α → Bool) (a : Array α) (i : Nat) (hi : i < a.size) (hsz : a.size < B62) :
    FnRuns (heapWorld less) P h_Fix [(i : Int)] a [] (GoHeap.fix less a i) :=
  .inr ⟨rfl, _, fix_body ▸ callDown_runs P hPd none less a i a.size (Nat.le_refl _) hsz (Nat.lt_trans hi hsz) _ _ 1 _ rfl rfl _ _
    (fixTail_runs P hPu none less _ (GoHeap.down less a i a.size).2 i 1 (by rw [down_size]; exact hi)
      (by rw [down_size]; exact hsz) _ (by rw [Env.get_set]; rfl) (by rw [Env.get_set]; rfl) [] _ Runs.nil)⟩

theorem remove_body : h_Remove.body =
    [ .set 1 (.sub .len (.lit 1)),
      .ite (.ne (.var 1) (.var 0))
        [.swap (.var 0) (.var 1), .call "down" [(.var 0), (.var 1)] [2],
         .ite (.not (.bvar 2)) [.call "up" [(.var 0)] []] []] [],
      .retPop ] := rfl

/-- heap.Remove(h, i), any `i ≥ 0`: the model's `remove`, including the index-out-of-range panic -/
theorem remove_runs (P : String → Option Fn) (hPd : P "down" = some h_down) (hPu : P "up" = some h_up)
    (less : α → α → Bool) (a : Array α) (i : Nat) (hi62 : i < B62) (hsz : a.size < B62) :
    Runs (heapWorld less) P none h_Remove.body #[(i : Int)] a (popRes (GoHeap.remove less a i)) := by
  obtain ⟨env1, hE1⟩ : ∃ e : Env, e = Env.set #[(i : Int)] 1 ((a.size : Int) - 1) := ⟨_, rfl⟩
  have g0 : env1.get 0 = (i : Int) := by rw [hE1, Env.get_set]; rfl
  have g1 : env1.get 1 = (a.size : Int) - 1 := by rw [hE1, Env.get_set]; rfl
  have hc : evalC (heapWorld less) env1 (.ne (.var 1) (.var 0)) a = some (decide ((a.size : Int) - 1 ≠ (i : Int)), a) := by
    simp only [evalC, eval, g0, g1]
  rw [remove_body]
  refine Runs.set (eval_len_pred a.size hsz _) (hE1 ▸ ?_)
  unfold GoHeap.remove
  by_cases hi : i < a.size
  · rw [dif_pos hi]
    dsimp only
    have hla : a.size - 1 < a.size := Nat.sub_lt (Nat.zero_lt_of_lt hi) Nat.one_pos
    have hcast : (a.size : Int) - 1 = ((a.size - 1 : Nat) : Int) := by omega
    have g1' : env1.get 1 = ((a.size - 1 : Nat) : Int) := g1.trans hcast
    by_cases hn : a.size - 1 ≠ i
    · rw [dif_pos hn]
      rw [decide_eq_true (hcast ▸ fun h => hn (Int.ofNat_inj.mp h))] at hc
      have hsw : (heapWorld less).swap a (eval ((heapWorld less).len a) env1 (.var 0)) (eval ((heapWorld less).len a) env1 (.var 1)) =
          some (a.swap i (a.size - 1) hi hla) := by
        simp only [eval, g0, g1']
        exact hw_swap less a i (a.size - 1) hi hla
      refine Runs.ite hc (Runs.swap hsw (callDown_runs P hPd none less _ i (a.size - 1)
        (by rw [Array.size_swap]; exact Nat.sub_le _ _)
        (by rw [Array.size_swap]; exact hsz) hi62 _ _ 2 env1 (by rw [eval, g0]) (by rw [eval, g1']) _ _
        (fixTail_runs P hPu none less _ (GoHeap.down less (a.swap i (a.size - 1) hi hla) i (a.size - 1)).2 i 2
          (by rw [down_size, Array.size_swap]; exact hi) (by rw [down_size, Array.size_swap]; exact hsz) _
          (by rw [Env.get_set]; exact g0) (by rw [Env.get_set]; rfl) [] _ Runs.nil))) Runs.retPop
    · rw [dif_neg hn]
      rw [decide_eq_false (hcast ▸ fun h => h (congrArg Nat.cast (Decidable.not_not.mp hn)))] at hc
      exact Runs.ite hc Runs.nil Runs.retPop
  · rw [dif_neg hi]
    rw [decide_eq_true (by omega)] at hc
    refine Runs.ite_leave hc (Runs.swap_panic ?_) (fun _ _ => nofun)
    simp only [eval, g0, g1, heapWorld]
    rw [dif_neg]
    intro h
    have := h.2.2.1
    simp only [Int.toNat_natCast] at this
    omega

end Got.Lemmas.HeapAst
