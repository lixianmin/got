import Got.Lemmas.Discipline
/-
A location that is written at most once (protocol A as the components meet it): what a model state demands of the
monitor, and the rules by which a step's events are shown to provide it.  A component states `need : σ → Once` and
proves one triple per step, `(need s).Sim (ev s a) (need (step s a))`, by the `Sim` rules; the monitor is not mentioned.
-/
namespace Got.Lemmas.Discipline
open Got.Model.Discipline

/-- `W`: the location has been written; from then on the threads in `K` must be ordered after the write and the sync
    objects in `C` must carry it -/
structure Once where
  W : Prop
  K : Nat → Prop
  C : Nat → Prop

/-- the monitor state provides what `p` demands; before the write, that nothing has been accessed -/
structure Once.Met (p : Once) (m : Mon) : Prop where
  pre : ¬ p.W → Fresh m
  thr : p.W → ∀ t, p.K t → m.wcur t = true
  obj : p.W → ∀ a, p.C a → m.carW a = true

def Once.Sim (p : Once) (evs : List Ev) (q : Once) : Prop :=
  ∀ m, p.Met m → ∃ m', m.run evs = some m' ∧ q.Met m'

namespace Once

theorem Sim.nil {p q : Once} (hW : q.W ↔ p.W) (hK : q.W → ∀ t, q.K t → p.K t) (hC : q.W → ∀ a, q.C a → p.C a) :
    p.Sim [] q :=
  fun m h => ⟨m, rfl, fun hw => h.pre (fun w => hw (hW.2 w)), fun w t ht => h.thr (hW.1 w) t (hK w t ht),
    fun w a ha => h.obj (hW.1 w) a (hC w a ha)⟩

theorem Sim.refl (p : Once) : p.Sim [] p := .nil .rfl (fun _ _ h => h) (fun _ _ h => h)

theorem Sim.acq {p q : Once} {evs : List Ev} (t a : Nat)
    (h : Sim ⟨p.W, fun u => p.K u ∨ (u = t ∧ p.C a), p.C⟩ evs q) : p.Sim (.acq t a :: evs) q := by
  intro m hm
  have hle := le_acq m t a
  obtain ⟨m', hr, hq⟩ := h (acqM m t a) ⟨fun hw => (hm.pre hw).mono hle,
    fun w u hu => hu.elim (fun hu => hle.wcur u (hm.thr w u hu)) fun ⟨e, hc⟩ => e ▸ acq_get m t a (hm.obj w a hc),
    fun w b hb => hle.carW b (hm.obj w b hb)⟩
  exact ⟨m', (run_cons evs (step_acq m t a)).trans hr, hq⟩

theorem Sim.rel {p q : Once} {evs : List Ev} (t a : Nat)
    (h : Sim ⟨p.W, p.K, fun b => p.C b ∨ (b = a ∧ p.K t)⟩ evs q) : p.Sim (.rel t a :: evs) q := by
  intro m hm
  have hle := le_rel m t a
  obtain ⟨m', hr, hq⟩ := h (relM m t a) ⟨fun hw => (hm.pre hw).mono hle, fun w u hu => hle.wcur u (hm.thr w u hu),
    fun w b hb => hb.elim (fun hb => hle.carW b (hm.obj w b hb)) fun ⟨e, hk⟩ => e ▸ rel_put m t a (hm.thr w t hk)⟩
  exact ⟨m', (run_cons evs (step_rel m t a)).trans hr, hq⟩

/-- nothing writes after the one write, so what a read makes the monitor forget (`acur`) is never asked for -/
theorem Sim.rd {p q : Once} {evs : List Ev} (t : Nat) (hW : p.W) (hk : p.K t) (h : p.Sim evs q) :
    p.Sim (.rd t :: evs) q := by
  intro m hm
  obtain ⟨m', hr, hq⟩ := h (rdM m t) ⟨fun hw => absurd hW hw, hm.thr, hm.obj⟩
  exact ⟨m', (run_cons evs (step_rd m t (hm.thr hW t hk))).trans hr, hq⟩

theorem Sim.wr {p q : Once} {evs : List Ev} (t : Nat) (hW : ¬ p.W)
    (h : Sim ⟨True, fun u => u = t, fun _ => False⟩ evs q) : p.Sim (.wr t :: evs) q := by
  intro m hm
  obtain ⟨m', hr, hq⟩ := h (wrM t) ⟨fun hw => absurd trivial hw, fun _ u hu => hu ▸ (wr_self t).1, fun _ _ hb => hb.elim⟩
  exact ⟨m', (run_cons evs (step_wr m t (hm.pre hW t).2)).trans hr, hq⟩

theorem Sim.rels {p q : Once} {evs : List Ev} (t : Nat) (f : Nat → Nat) (l : List Nat)
    (h : Sim ⟨p.W, p.K, fun b => p.C b ∨ (p.K t ∧ ∃ i ∈ l, b = f i)⟩ evs q) :
    p.Sim (l.map (fun i => Ev.rel t (f i)) ++ evs) q := by
  induction l generalizing p with
  | nil => exact fun m hm => h m ⟨hm.pre, hm.thr, fun w a ha => hm.obj w a (ha.elim id fun ⟨_, _, hi, _⟩ => nomatch hi)⟩
  | cons x xs ih =>
    refine .rel t (f x) (ih fun m hm => h m ⟨hm.pre, hm.thr, fun w b hb => hm.obj w b ?_⟩)
    rcases hb with hb | ⟨hk, i, hi, rfl⟩
    · exact .inl (.inl hb)
    · rcases List.mem_cons.mp hi with rfl | hi
      · exact .inl (.inr ⟨rfl, hk⟩)
      · exact .inr ⟨hk, i, hi, rfl⟩

theorem met_init {p : Once} (h : ¬ p.W) : p.Met Mon.init := ⟨fun _ => fresh_init, fun w => absurd w h, fun w => absurd w h⟩

end Once

/-- `J`: the component's state invariant; `Q` as in `run_sim_scoped` -/
theorem run_once_scoped {σ α : Type} {step : σ → α → σ} {ev : σ → α → List Ev} {tr : σ → List α → List Ev}
    (tr_nil : ∀ s, tr s [] = []) (tr_cons : ∀ s a as, tr s (a :: as) = ev s a ++ tr (step s a) as)
    {Q : σ → Prop} (hQ : ∀ s a, Q (step s a) → Q s) {J : σ → Prop} (need : σ → Once)
    (hstep : ∀ s a, J s → Q (step s a) → J (step s a) ∧ (need s).Sim (ev s a) (need (step s a)))
    (as : List α) (s : σ) (m : Mon) (h0 : J s) (hm : (need s).Met m) (hq : Q (as.foldl step s)) :
    ∃ m', m.run (tr s as) = some m' :=
  run_sim_scoped (I := fun s m => J s ∧ (need s).Met m) tr_nil tr_cons hQ
    (fun s m a ⟨hj, hm⟩ q => ((hstep s a hj q).2 m hm).imp fun _ h => ⟨h.1, (hstep s a hj q).1, h.2⟩) as s m ⟨h0, hm⟩ hq

theorem run_once {σ α : Type} {step : σ → α → σ} {ev : σ → α → List Ev} {tr : σ → List α → List Ev}
    (tr_nil : ∀ s, tr s [] = []) (tr_cons : ∀ s a as, tr s (a :: as) = ev s a ++ tr (step s a) as)
    {J : σ → Prop} (hJ : ∀ s a, J s → J (step s a)) (need : σ → Once)
    (hstep : ∀ s a, J s → (need s).Sim (ev s a) (need (step s a)))
    (as : List α) (s : σ) (m : Mon) (h0 : J s) (hm : (need s).Met m) : ∃ m', m.run (tr s as) = some m' :=
  run_once_scoped (Q := fun _ => True) tr_nil tr_cons (fun _ _ _ => trivial) need
    (fun s a hj _ => ⟨hJ s a hj, hstep s a hj⟩) as s m h0 hm trivial

end Got.Lemmas.Discipline
