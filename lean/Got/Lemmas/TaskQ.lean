import Got.Model.TaskQ
import Got.Lemmas.Lts
/-
Invariants of the taskx.Queue model.  `Move s a s'` lists what each enabled action does (`step_move`); each invariant is
preserved by every `Move`.  What is known of a message is settled when its send begins
(`begunLt`, `begunTask`), and `begunOk` says where every begun message is: `put`, `abort` and `recv` only move it.
-/
namespace Got.Model.TaskQ

def ProdOrdered (l : List Msg) : Prop := l.Pairwise (fun a b => a.prod = b.prod → a.seq < b.seq)

/-- the task value is an allocated object -/
def TaskOk (s : State) : TaskRef → Prop
  | .cb id => id < s.nextTask
  | _ => True

/-- `&taskCallback{handler}` + `wg.Add(1)`: the `s1` of `step` -/
def alloc (s : State) : State :=
  { s with nextTask := s.nextTask + 1, done := upd s.done s.nextTask false, handled := upd s.handled s.nextTask false,
           result := upd s.result s.nextTask nilPair }

inductive Move (s : State) : Act → State → Prop
  | sendNil (p : Nat) (nonNil : Bool) : s.ppc p = .idle → ¬ nonNil = true →
      Move s (.sendCallback p nonNil)
        { s with nextSeq := upd s.nextSeq p (s.nextSeq p + 1), returned := upd s.returned p (.empty :: s.returned p) }
  | sendCallback (p : Nat) (nonNil : Bool) : s.ppc p = .idle → nonNil = true →
      Move s (.sendCallback p nonNil) (beginSend (alloc s) p (.cb s.nextTask))
  | sendTaskNil (p : Nat) : s.ppc p = .idle →
      Move s (.sendTask p none) { s with nextSeq := upd s.nextSeq p (s.nextSeq p + 1) }
  | sendTask (p : Nat) (t : TaskRef) : s.ppc p = .idle → TaskOk s t → Move s (.sendTask p (some t)) (beginSend s p t)
  | put (p : Nat) (m : Msg) : s.ppc p = .sel m → s.chan.length < s.cap →
      Move s (.put p) { s with chan := s.chan ++ [m], puts := s.puts ++ [m], ppc := upd s.ppc p .idle,
                               returned := upd s.returned p (m.task :: s.returned p) }
  | abort (p : Nat) (m : Msg) : s.ppc p = .sel m → s.closed = true →
      Move s (.abort p) { s with aborted := s.aborted ++ [m], ppc := upd s.ppc p .idle,
                                 returned := upd s.returned p (m.task :: s.returned p) }
  | close : Move s .close { s with closed := true }
  | recv (m : Msg) (rest : List Msg) : s.cpc = .idle → s.chan = m :: rest →
      Move s .recv { s with chan := rest, received := s.received ++ [m], cpc := .got m.task }
  | call (id : Nat) (r : Pair) : s.cpc = .got (.cb id) →
      Move s (.call r) { s with cpc := .ran id r, execLog := s.execLog ++ [(id, r)] }
  | store (id : Nat) (r : Pair) : s.cpc = .ran id r →
      Move s .store { s with cpc := .stored id, result := upd s.result id r }
  | finishAgain (id : Nat) : s.cpc = .stored id → s.handled id = true → Move s .finish { s with cpc := .idle }
  | finish (id : Nat) : s.cpc = .stored id → ¬ s.handled id = true →
      Move s .finish { s with cpc := .idle, handled := upd s.handled id true, done := upd s.done id true }
  | doOther (t : TaskRef) : s.cpc = .got t → (∀ id, t ≠ .cb id) → Move s .doOther { s with cpc := .idle }
  | redo (id : Nat) : s.cpc = .idle → s.handled id = true → Move s (.redo id) { s with cpc := .got (.cb id) }

theorem taskOk_of_ne_cb {s : State} {t : TaskRef} (h : ∀ id, t = .cb id → False) : TaskOk s t := by
  cases t with
  | cb id => exact (h id rfl).elim
  | _ => trivial

theorem step_move {s s' : State} {a : Act} (hs : step s a = some s') : Move s a s' := by
  -- the premises of the constructor are the guards the `split`s left in the context, but for `doOther`'s `t ≠ .cb id` with `t`
  -- a constructor, and `sendTask`'s `TaskOk` in the match arm that only knows that `t` is no `.cb`
  cases a <;> simp only [step] at hs <;> (repeat' split at hs) <;> (try contradiction) <;> cases hs <;>
    constructor <;> first | assumption | (intro _ e; cases e) | exact taskOk_of_ne_cb ‹_›

theorem stepD_cases (s : State) (a : Act) : stepD s a = s ∨ Move s a (stepD s a) := Got.Lemmas.Lts.getD_cases step_move s a

structure Inv (s : State) : Prop where
  fifo : s.received ++ s.chan = s.puts
  capOk : s.chan.length ≤ s.cap
  putsOrd : ProdOrdered s.puts
  selOk : ∀ p m, s.ppc p = .sel m → m.prod = p ∧ ∀ a ∈ s.puts, a.prod = p → a.seq < m.seq
  begunOk : ∀ m, m ∈ s.begun ↔ m ∈ s.puts ∨ m ∈ s.aborted ∨ s.ppc m.prod = .sel m
  begunLt : ∀ m ∈ s.begun, m.seq < s.nextSeq m.prod
  begunTask : ∀ m ∈ s.begun, TaskOk s m.task
  openNoAbort : s.closed = false → s.aborted = []
  handledLt : ∀ id, s.handled id = true → id < s.nextTask
  cpcOk : match s.cpc with
    | .idle => True
    | .got t => TaskOk s t
    | .ran id r => id < s.nextTask ∧ (id, r) ∈ s.execLog
    | .stored id => id < s.nextTask ∧ (id, s.result id) ∈ s.execLog
  doneOk : ∀ id, s.done id = true → s.handled id = true ∧ (id, s.result id) ∈ s.execLog

theorem inv_init (cap : Nat) : Inv (init cap) := by
  constructor <;> simp [init, ProdOrdered]

theorem taskOk_mono {s s' : State} (h : s.nextTask ≤ s'.nextTask) {t : TaskRef} (ht : TaskOk s t) : TaskOk s' t := by
  cases t with
  | cb id => exact Nat.lt_of_lt_of_le ht h
  | _ => trivial

theorem other_of_upd_eq {β : Type} {f : Nat → β} {a x : Nat} {b c : β} (h : upd f a b x = c) (hb : b ≠ c) :
    x ≠ a ∧ f x = c := by
  unfold upd at h
  split at h
  · exact absurd h hb
  · next hx => exact ⟨hx, h⟩

theorem lt_bump {f : Nat → Nat} {p q n : Nat} (h : n < f q) : n < upd f p (f p + 1) q := by
  unfold upd
  split
  · next e => subst e; exact Nat.lt_succ_of_lt h
  · exact h

/-- `f` and `g` differ at producer `p` only, parked on `m` in `f`, not parked in `g`: parked in `f` are `m` and whoever is in `g` -/
theorem parked_iff {f g : Nat → PPc} {p : Nat} {m : Msg} (hf : f p = .sel m) (hm : m.prod = p) (hg : ∀ a, g p ≠ .sel a)
    (hfg : ∀ q, q ≠ p → f q = g q) (a : Msg) : f a.prod = .sel a ↔ a = m ∨ g a.prod = .sel a := by
  by_cases h : a.prod = p
  · rw [h, hf]
    exact ⟨fun e => .inl (PPc.sel.inj e).symm, fun e => e.elim (fun e => e ▸ rfl) fun e => absurd e (hg a)⟩
  · rw [hfg _ h]
    exact ⟨.inr, fun e => e.elim (fun e => absurd (e ▸ hm) h) id⟩

theorem parked_leave {f : Nat → PPc} {p : Nat} {m : Msg} (hf : f p = .sel m) (hm : m.prod = p) (a : Msg) :
    f a.prod = .sel a ↔ a = m ∨ upd f p .idle a.prod = .sel a :=
  parked_iff hf hm (fun a e => by rw [upd_same] at e; cases e) (fun q hq => (upd_other hq).symm) a

theorem inv_skip {s : State} {p : Nat} (returned : Nat → List TaskRef) (h : Inv s) :
    Inv { s with nextSeq := upd s.nextSeq p (s.nextSeq p + 1), returned := returned } :=
  { h with begunLt := fun a ha => lt_bump (h.begunLt a ha) }

theorem inv_beginSend {s : State} {p : Nat} {t : TaskRef} (h : Inv s) (hp : s.ppc p = .idle) (ht : TaskOk s t) :
    Inv (beginSend s p t) := by
  refine { h with selOk := fun p' m' hp' => ?_, begunOk := fun a => ?_
                  begunLt := List.forall_mem_append.2 ⟨fun a ha => lt_bump (h.begunLt a ha), List.forall_mem_singleton.2 ?_⟩
                  begunTask := List.forall_mem_append.2 ⟨h.begunTask, List.forall_mem_singleton.2 ht⟩ }
  · dsimp only [beginSend] at hp'
    by_cases hpp : p' = p
    · subst hpp
      rw [upd_same] at hp'; cases hp'
      exact ⟨rfl, fun a ha hap => hap ▸ h.begunLt a ((h.begunOk a).2 (.inl ha))⟩
    · rw [upd_other hpp] at hp'
      exact h.selOk p' m' hp'
  · dsimp only [beginSend]
    rw [List.mem_append, List.mem_singleton, h.begunOk a, parked_iff (g := s.ppc) (p := p) (upd_same ..) rfl
      (fun a e => nomatch hp.symm.trans e) (fun q hq => upd_other hq) a]
    simp only [or_assoc, or_comm]
  · exact Nat.lt_of_lt_of_eq (Nat.lt_succ_self _) (upd_same ..).symm

theorem inv_alloc {s : State} (h : Inv s) : Inv (alloc s) := by
  have hmono : s.nextTask ≤ (alloc s).nextTask := Nat.le_succ _
  refine { h with
    begunTask := fun m hm => taskOk_mono hmono (h.begunTask m hm)
    handledLt := fun id hid => ?_, cpcOk := ?_, doneOk := fun id hid => ?_ }
  · exact Nat.lt_succ_of_lt (h.handledLt id (other_of_upd_eq hid nofun).2)
  · have hc := h.cpcOk
    show match s.cpc with | .idle => True | .got t => TaskOk (alloc s) t | .ran id r => _ | .stored id => _
    cases hcp : s.cpc with
    | idle => trivial
    | got t => rw [hcp] at hc; exact taskOk_mono hmono hc
    | ran id r => rw [hcp] at hc; exact ⟨Nat.lt_succ_of_lt hc.1, hc.2⟩
    | stored id =>
      rw [hcp] at hc
      exact ⟨Nat.lt_succ_of_lt hc.1, by dsimp only [alloc]; rw [upd_other (Nat.ne_of_lt hc.1)]; exact hc.2⟩
  · obtain ⟨hx, hid⟩ := other_of_upd_eq hid nofun
    dsimp only [alloc]
    rw [upd_other hx, upd_other hx]
    exact h.doneOk id hid

theorem Move.inv {s s' : State} {a : Act} (m : Move s a s') (h : Inv s) : Inv s' := by
  cases m with
  | sendNil | sendTaskNil => exact inv_skip _ h
  | sendCallback p _ hp _ => exact inv_beginSend (inv_alloc h) hp (Nat.lt_succ_self _)
  | sendTask p t hp ht => exact inv_beginSend h hp ht
  | put p m hm hlen =>
    obtain ⟨hprod, hlast⟩ := h.selOk p m hm
    refine { h with fifo := ?_, capOk := ?_, putsOrd := ?_, selOk := fun p' m' hp' => ?_, begunOk := fun a => ?_ }
    · show s.received ++ (s.chan ++ [m]) = s.puts ++ [m]
      rw [← h.fifo, List.append_assoc]
    · show (s.chan ++ [m]).length ≤ s.cap
      rw [List.length_append]; exact hlen
    · -- the new message is the latest of its producer
      exact List.pairwise_append.mpr ⟨h.putsOrd, List.pairwise_singleton .., fun a ha b hb heq => by
        cases List.mem_singleton.mp hb; exact hlast a ha (heq.trans hprod)⟩
    · obtain ⟨hpp, hp'⟩ := other_of_upd_eq hp' nofun
      refine ⟨(h.selOk p' m' hp').1, fun a ha hap => ?_⟩
      rcases List.mem_append.mp ha with ha | ha
      · exact (h.selOk p' m' hp').2 a ha hap
      · cases List.mem_singleton.mp ha; exact absurd (hap.symm.trans hprod) hpp
    · show _ ↔ a ∈ s.puts ++ [m] ∨ _
      rw [h.begunOk a, parked_leave hm hprod a, List.mem_append, List.mem_singleton]
      simp only [or_assoc, or_comm, or_left_comm]
  | abort p m hm hcl =>
    refine { h with selOk := fun p' m' hp' => h.selOk p' m' (other_of_upd_eq hp' nofun).2
                    begunOk := fun a => ?_
                    openNoAbort := fun hc => by rw [hcl] at hc; cases hc }
    show _ ↔ _ ∨ a ∈ s.aborted ++ [m] ∨ _
    rw [h.begunOk a, parked_leave hm (h.selOk p m hm).1 a, List.mem_append, List.mem_singleton]
    simp only [or_assoc, or_comm, or_left_comm]
  | close => exact { h with openNoAbort := nofun }
  | recv m rest hc hch =>
    refine { h with fifo := ?_, capOk := ?_, cpcOk := h.begunTask m ((h.begunOk m).2 (.inl ?_)) }
    · show (s.received ++ [m]) ++ rest = s.puts
      rw [← h.fifo, hch, List.append_assoc]; rfl
    · have := h.capOk; rw [hch] at this; exact Nat.le_of_succ_le this
    · rw [← h.fifo, hch]; exact List.mem_append_right _ (List.mem_cons_self ..)
  | call id r hc =>
    have hid : id < s.nextTask := by have := h.cpcOk; rw [hc] at this; exact this
    exact { h with cpcOk := ⟨hid, List.mem_append_right _ (List.mem_singleton.mpr rfl)⟩
                   doneOk := fun x hx => (h.doneOk x hx).imp_right (List.mem_append_left _) }
  | store id r hc =>
    have hid : id < s.nextTask ∧ (id, r) ∈ s.execLog := by have := h.cpcOk; rw [hc] at this; exact this
    refine { h with cpcOk := ⟨hid.1, by dsimp only; rw [upd_same]; exact hid.2⟩
                    doneOk := fun x hx => ⟨(h.doneOk x hx).1, ?_⟩ }
    dsimp only
    by_cases hxi : x = id
    · subst hxi; rw [upd_same]; exact hid.2
    · rw [upd_other hxi]; exact (h.doneOk x hx).2
  | finishAgain | doOther => exact { h with cpcOk := trivial }
  | finish id hc hh =>
    have hid : id < s.nextTask ∧ (id, s.result id) ∈ s.execLog := by have := h.cpcOk; rw [hc] at this; exact this
    refine { h with cpcOk := trivial, handledLt := fun x hx => ?_, doneOk := fun x hx => ?_ }
    · dsimp only at hx
      by_cases hxi : x = id
      · exact hxi ▸ hid.1
      · rw [upd_other hxi] at hx; exact h.handledLt x hx
    · dsimp only at hx ⊢
      by_cases hxi : x = id
      · subst hxi; exact ⟨upd_same .., hid.2⟩
      · rw [upd_other hxi] at hx
        rw [upd_other hxi]
        exact h.doneOk x hx
  | redo id hc hh => exact { h with cpcOk := h.handledLt id hh }

theorem inv_stepD {s : State} {a : Act} (h : Inv s) : Inv (stepD s a) := Got.Lemmas.Lts.step_inv_of stepD_cases Move.inv h a

theorem inv_run (cap : Nat) (acts : List Act) : Inv (run cap acts) :=
  Got.Lemmas.Lts.foldl_inv_of (P := Inv) stepD_cases Move.inv acts (inv_init cap)

theorem closed_foldl (acts : List Act) {s : State} (h : s.closed = true) : (acts.foldl stepD s).closed = true :=
  Got.Lemmas.Lts.foldl_inv_of (P := fun s => s.closed = true) stepD_cases (fun m h => by cases m <;> first | exact h | rfl) acts h

theorem get2_cb {s : State} {id : Nat} {r : Pair} :
    get2 s (.cb id) = some r ↔ s.done id = true ∧ s.result id = r := by
  simp only [get2]
  split <;> simp [*]

/-- option.go: `WithSize(n)` with `n ≤ 0` is ignored -/
theorem applyOpt_withSize_nonpos (o : Opts) {n : Int} (hn : n ≤ 0) : applyOpt o (.withSize n) = o := by
  have : sizeFloor = 0 := by decide
  simp only [applyOpt]
  split
  · omega
  · rfl

theorem applyOpt_size_pos {o : Opts} (a : Opt) (h : 0 < o.size) : 0 < (applyOpt o a).size := by
  cases a with
  | withSize n =>
    simp only [applyOpt]
    split
    · next hn =>
      have : sizeFloor = 0 := by decide
      show 0 < n
      omega
    · exact h
  | withCloseChan c => cases c <;> exact h
  | withErrorLogger c => cases c <;> exact h

theorem createOptions_size_pos (l : List Opt) : 0 < (createOptions l).size := by
  suffices ∀ o : Opts, 0 < o.size → 0 < (l.foldl applyOpt o).size from this _ (by decide)
  induction l with
  | nil => exact fun _ h => h
  | cons a rest ih => exact fun o h => ih _ (applyOpt_size_pos a h)

theorem prodOrdered_nodup {l : List Msg} (h : ProdOrdered l) : l.Nodup :=
  List.Pairwise.imp (fun {a b} hab heq => by subst heq; exact absurd (hab rfl) (Nat.lt_irrefl _)) h

end Got.Model.TaskQ
