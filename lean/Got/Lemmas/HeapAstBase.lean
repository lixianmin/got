import Got.Model.HeapAstWorld
import Got.Lemmas.SortAstBase
/-
Proof kit for the translator tie of container/heap, the MiniGoHeap twin of Got/Lemmas/SortAstBase.lean:
`Runs W P x p env w r` = "with enough fuel the MiniGoHeap interpreter executes `p` from `(env, w)` to `r`" (`x` = the
function's `any` argument), one composition rule per statement form.  Slice lengths are assumed below `SortAst.B62` = 2^62
(the hypotheses `a.size < B62`, `a.size + 1 < B62` of the ties): the heap code computes `2*i + 1` and `j1 + 1` from an
index, and these stay below 2^63, where `wrap` is the identity.
-/
namespace Got.Lemmas.HeapAst
open Got.Model.MiniGoSort (wrap Env)
open Got.Model.MiniGoHeap Got.Model.HeapAst
open Got.Lemmas.SortAst (B62 wrap_eq)

variable {σ ν : Type}

/-- written out, `Evt fun f => exec W P x f p env w = some r` (Got/Lemmas/Eventually.lean): the rules below are `Evt.always`,
    `Evt.succ`, `Evt.and` applied to it as it stands -/
def Runs (W : World σ ν) (P : String → Option Fn) (x : Option ν) (p : List Stmt) (env : Env) (w : σ) (r : Res σ ν) : Prop :=
  ∃ f0, ∀ f, f0 ≤ f → exec W P x f p env w = some r

/-- a call of `fn` (no `any` parameter) with the already wrapped arguments returns `vs` and the world `w'` -/
def FnRuns (W : World σ ν) (P : String → Option Fn) (fn : Fn) (args : List Int) (w : σ) (vs : List Int) (w' : σ) : Prop :=
  Runs W P none fn.body args.toArray w (.ret vs w') ∨ (vs = [] ∧ ∃ e, Runs W P none fn.body args.toArray w (.cont e w'))

variable {W : World σ ν} {P : String → Option Fn} {x : Option ν}

theorem Runs.nil {env : Env} {w : σ} : Runs W P x [] env w (.cont env w) := Evt.always fun _ => rfl

theorem Runs.brk {rest : List Stmt} {env : Env} {w : σ} : Runs W P x (.brk :: rest) env w (.brk env w) :=
  Evt.always fun _ => rfl

theorem Runs.ret {es : List Expr} {rest : List Stmt} {env : Env} {w : σ} :
    Runs W P x (.ret es :: rest) env w (.ret (es.map (eval (W.len w) env)) w) :=
  Evt.always fun _ => rfl

theorem Runs.retB {c : Cond} {rest : List Stmt} {env : Env} {w w' : σ} {b : Bool}
    (hc : evalC W env c w = some (b, w')) : Runs W P x (.retB c :: rest) env w (.ret [if b then 1 else 0] w') :=
  Evt.always fun _ => by dsimp only [exec]; rw [hc]

/-- what `return h.Pop()` ends in, from what the world's Pop gives (`none` = its panic) -/
def popRes : Option (ν × σ) → Res σ ν
  | some (v, w') => .retv v w'
  | none => .panic

theorem Runs.retPop {rest : List Stmt} {env : Env} {w : σ} : Runs W P x (.retPop :: rest) env w (popRes (W.pop w)) :=
  Evt.always fun _ => by dsimp only [exec]; cases W.pop w <;> rfl

theorem Runs.set {y : Nat} {e : Expr} {rest : List Stmt} {env : Env} {w : σ} {r : Res σ ν} {v : Int}
    (hv : eval (W.len w) env e = v) (h : Runs W P x rest (env.set y v) w r) : Runs W P x (.set y e :: rest) env w r :=
  Evt.succ h fun _ er => by subst hv; exact er

theorem Runs.swap {a b : Expr} {rest : List Stmt} {env : Env} {w w' : σ} {r : Res σ ν}
    (hs : W.swap w (eval (W.len w) env a) (eval (W.len w) env b) = some w')
    (h : Runs W P x rest env w' r) : Runs W P x (.swap a b :: rest) env w r :=
  Evt.succ h fun _ er => by dsimp only [exec]; rw [hs]; exact er

theorem Runs.swap_panic {a b : Expr} {rest : List Stmt} {env : Env} {w : σ}
    (hs : W.swap w (eval (W.len w) env a) (eval (W.len w) env b) = none) :
    Runs W P x (.swap a b :: rest) env w .panic :=
  Evt.always fun _ => by dsimp only [exec]; rw [hs]

theorem Runs.hpush {rest : List Stmt} {env : Env} {w : σ} {v : ν} {r : Res σ ν}
    (h : Runs W P (some v) rest env (W.push w v) r) : Runs W P (some v) (.hpush :: rest) env w r :=
  Evt.succ h fun _ er => er

theorem Runs.ite {c : Cond} {t e rest : List Stmt} {env env' : Env} {w w1 w' : σ} {r : Res σ ν} {b : Bool}
    (hc : evalC W env c w = some (b, w1)) (hb : Runs W P x (if b then t else e) env w1 (.cont env' w'))
    (h : Runs W P x rest env' w' r) : Runs W P x (.ite c t e :: rest) env w r :=
  Evt.succ (Evt.and hb h) fun _ ⟨eb, er⟩ => by dsimp only [exec]; rw [hc]; dsimp only; rw [eb]; exact er

theorem Runs.ite_leave {c : Cond} {t e rest : List Stmt} {env : Env} {w w1 : σ} {b : Bool} {r : Res σ ν}
    (hc : evalC W env c w = some (b, w1)) (hb : Runs W P x (if b then t else e) env w1 r)
    (hr : ∀ e' w', r ≠ .cont e' w') : Runs W P x (.ite c t e :: rest) env w r :=
  Evt.succ hb fun _ eb => by
    dsimp only [exec]
    rw [hc]
    dsimp only
    rw [eb]
    cases r with
    | cont e' w' => exact absurd rfl (hr e' w')
    | _ => rfl

theorem Runs.ite_brk {c : Cond} {t e rest : List Stmt} {env env' : Env} {w w1 w' : σ} {b : Bool}
    (hc : evalC W env c w = some (b, w1)) (hb : Runs W P x (if b then t else e) env w1 (.brk env' w')) :
    Runs W P x (.ite c t e :: rest) env w (.brk env' w') :=
  .ite_leave hc hb fun _ _ => nofun

theorem Runs.loop_exit {c : Cond} {body post rest : List Stmt} {env : Env} {w w1 : σ} {r : Res σ ν}
    (hc : evalC W env c w = some (false, w1)) (h : Runs W P x rest env w1 r) :
    Runs W P x (.loop c body post :: rest) env w r :=
  Evt.succ h fun _ er => by dsimp only [exec]; rw [hc]; exact er

theorem Runs.loop_iter {c : Cond} {body post rest : List Stmt} {env env' env'' : Env} {w w1 w' w'' : σ} {r : Res σ ν}
    (hc : evalC W env c w = some (true, w1)) (hb : Runs W P x body env w1 (.cont env' w'))
    (hp : Runs W P x post env' w' (.cont env'' w'')) (h : Runs W P x (.loop c body post :: rest) env'' w'' r) :
    Runs W P x (.loop c body post :: rest) env w r :=
  Evt.succ (Evt.and hb (Evt.and hp h)) fun _ ⟨eb, ep, er⟩ => by
    dsimp only [exec]; rw [hc]; dsimp only; rw [if_pos rfl, eb]; dsimp only; rw [ep]; exact er

theorem Runs.loop_brk {c : Cond} {body post rest : List Stmt} {env env' : Env} {w w1 w' : σ} {r : Res σ ν}
    (hc : evalC W env c w = some (true, w1)) (hb : Runs W P x body env w1 (.brk env' w'))
    (h : Runs W P x rest env' w' r) : Runs W P x (.loop c body post :: rest) env w r :=
  Evt.succ (Evt.and hb h) fun _ ⟨eb, er⟩ => by
    dsimp only [exec]; rw [hc]; dsimp only; rw [if_pos rfl, eb]; exact er

theorem Runs.call {g : String} {fn : Fn} {args : List Expr} {res : List Nat} {rest : List Stmt} {env : Env}
    {w w' : σ} {vs : List Int} {r : Res σ ν}
    (hP : P g = some fn) (hnp : fn.nparams = args.length) (hnr : fn.nresults = res.length) (hna : fn.hasAny = false)
    (hf : FnRuns W P fn (args.map (eval (W.len w) env)) w vs w') (hvs : vs.length = res.length)
    (h : Runs W P x rest (env.setMany res vs) w' r) : Runs W P x (.call g args res :: rest) env w r := by
  rcases hf with hb | ⟨rfl, e, hb⟩
  · exact Evt.succ (Evt.and hb h) fun _ ⟨eb, er⟩ => by
      dsimp only [exec]; rw [hP]; dsimp only; rw [if_pos ⟨hnp, hnr, hna⟩, eb]; dsimp only; rw [if_pos hvs]; exact er
  · obtain rfl : res = [] := List.length_eq_zero_iff.mp hvs.symm
    exact Evt.succ (Evt.and hb h) fun _ ⟨eb, er⟩ => by
      dsimp only [exec]; rw [hP]; dsimp only; rw [if_pos ⟨hnp, hnr, hna⟩, eb]; exact er

/-- `Fn.run` (what the driver calls) from a run of the body -/
theorem run_of_Runs {fn : Fn} {args : List Int} {w : σ} {r : Res σ ν}
    (hnp : fn.nparams = args.length) (hx : fn.hasAny = x.isSome)
    (h : Runs W P x fn.body (args.map wrap).toArray w r) :
    ∃ f0, ∀ f, f0 ≤ f → fn.run W P f args x w =
      (match (generalizing := false) r with
       | .ret vs w' => if vs.length = fn.nresults then some (.done vs none w') else none
       | .retv v w' => some (.done [] (some v) w')
       | .cont _ w' => if fn.nresults = 0 then some (.done [] none w') else none
       | .panic => some .panic
       | .brk _ _ => none) :=
  Evt.mono h fun f e => by
    unfold Fn.run
    rw [if_pos ⟨hnp, hx⟩, e]
    cases r <;> rfl

theorem run_of_FnRuns {fn : Fn} {args vs : List Int} {w w' : σ} (hnp : fn.nparams = args.length)
    (hna : fn.hasAny = false) (hnr : fn.nresults = vs.length) (hw : args.map wrap = args)
    (h : FnRuns W P fn args w vs w') : ∃ f0, ∀ f, f0 ≤ f → fn.run W P f args none w = some (.done vs none w') := by
  rcases h with h | ⟨rfl, e, h⟩
  · exact Evt.mono (run_of_Runs (r := .ret vs w') (x := none) hnp hna (hw.symm ▸ h)) fun f hr => hr.trans (if_pos hnr.symm)
  · exact Evt.mono (run_of_Runs (r := .cont e w') (x := none) hnp hna (hw.symm ▸ h)) fun f hr => hr.trans (if_pos hnr)

theorem wrap_zero : wrap 0 = 0 := by decide

/-- `x + 1` of the source (`wrap (x + wrap 1)` in every MiniGo embedding) on an index below `B62`: no overflow -/
theorem wrap_succ {i : Nat} (h : i < B62) : wrap ((i : Int) + wrap 1) = ((i + 1 : Nat) : Int) := by
  unfold B62 at h
  unfold wrap
  omega

/-- `h.Len() - 1` of the source -/
theorem eval_len_pred (L : Nat) (hL : L < B62) (env : Env) : eval (L : Int) env (.sub .len (.lit 1)) = (L : Int) - 1 := by
  unfold B62 at hL
  simp (disch := omega) only [eval, wrap_eq]

/-- `pre` runs from `(env, w)` and falls through its end in `(env', w')`, whatever follows: the loop lemmas conclude in this
    form, so that no append lemma about `exec` is needed -/
def Seg (W : World σ ν) (P : String → Option Fn) (x : Option ν) (pre : List Stmt) (env : Env) (w : σ) (env' : Env) (w' : σ) : Prop :=
  ∀ rest r, Runs W P x rest env' w' r → Runs W P x (pre ++ rest) env w r

variable {α : Type}

theorem hw_len (less : α → α → Bool) (a : Array α) : (heapWorld less).len a = (a.size : Int) := rfl

theorem natCast_inRange (a : Array α) (i j : Nat) (hi : i < a.size) (hj : j < a.size) :
    0 ≤ (i : Int) ∧ 0 ≤ (j : Int) ∧ (i : Int).toNat < a.size ∧ (j : Int).toNat < a.size :=
  ⟨Int.natCast_nonneg i, Int.natCast_nonneg j, hi, hj⟩

theorem hw_less (less : α → α → Bool) (a : Array α) (i j : Nat) (hi : i < a.size) (hj : j < a.size) :
    (heapWorld less).less a (i : Int) (j : Int) = some (less a[i] a[j], a) :=
  dif_pos (natCast_inRange a i j hi hj)

theorem hw_swap (less : α → α → Bool) (a : Array α) (i j : Nat) (hi : i < a.size) (hj : j < a.size) :
    (heapWorld less).swap a (i : Int) (j : Int) = some (a.swap i j hi hj) :=
  dif_pos (natCast_inRange a i j hi hj)

end Got.Lemmas.HeapAst
