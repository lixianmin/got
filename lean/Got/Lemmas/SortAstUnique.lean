import Got.Model.SortUnique
import Got.Generated.AstSortxUnique
import Got.Lemmas.SortAstBase
/-
Translator tie of C15 for UniqueInt / UniqueString: the MiniGoSlice terms that tools/srcfacts regenerates from
/repo/sortx/unique.go on every run (Got/Generated/AstSortxUnique.lean), interpreted with Go's index and reslice checks,
compute the hand-written model `Got.Model.SortUnique.unique` (returned slice and backing array; no panic).
-/
namespace Got.Lemmas.SortAstUnique
open Got.Model.MiniGoSort (wrap Env Frame)
open Got.Model.MiniGoSlice Got.Model.SortUnique
open Got.Lemmas.SortAst (B62 wrap_eq Env.get_set_eq)

variable {α : Type} [DecidableEq α]

def Runs (p : List Stmt) (env : Env) (s : Sl α) (r : Res α) : Prop :=
  ∃ f0, ∀ f, f0 ≤ f → exec f p env s = some r

theorem Runs.nil {env : Env} {s : Sl α} : Runs [] env s (.cont env s) := Evt.always fun _ => rfl

theorem Runs.retSlice {rest : List Stmt} {env : Env} {s : Sl α} : Runs (.retSlice :: rest) env s (.ret s) :=
  Evt.always fun _ => rfl

theorem Runs.step {p p' : List Stmt} {env env' : Env} {s s' : Sl α} {r : Res α}
    (hs : ∀ f, exec (f + 1) p env s = exec f p' env' s') (h : Runs p' env' s' r) : Runs p env s r :=
  Evt.succ h fun g e => (hs g).trans e

theorem Runs.set {x : Nat} {e : Expr} {rest : List Stmt} {env : Env} {s : Sl α} {r : Res α} {v : Int}
    (hv : eval env s e = v) (h : Runs rest (env.set x v) s r) : Runs (.set x e :: rest) env s r :=
  Runs.step (fun _ => by dsimp only [exec]; rw [hv]) h

theorem Runs.store {i j : Expr} {rest : List Stmt} {env : Env} {s : Sl α} {r : Res α} {v w : α} {n m : Nat}
    (hn : eval env s i = (n : Int)) (hm : eval env s j = (m : Int)) (hj : s.at? (m : Int) = some v)
    (hi : s.at? (n : Int) = some w) (h : Runs rest env { s with arr := s.arr.set! n v } r) :
    Runs (.store i j :: rest) env s r :=
  Runs.step (fun _ => by dsimp only [exec]; rw [hn, hm, hj, hi, Int.toNat_natCast]) h

theorem Runs.reslice {e : Expr} {rest : List Stmt} {env : Env} {s : Sl α} {r : Res α}
    (hb : 0 ≤ eval env s e ∧ eval env s e ≤ (s.arr.size : Int))
    (h : Runs rest env { s with len := (eval env s e).toNat } r) : Runs (.reslice e :: rest) env s r :=
  Runs.step (fun _ => by dsimp only [exec]; rw [if_pos hb]) h

theorem Runs.ite {c : Cond} {t e rest : List Stmt} {env env' : Env} {s s' : Sl α} {r : Res α} {b : Bool}
    (hc : evalC env s c = some b) (hb : Runs (if b then t else e) env s (.cont env' s'))
    (h : Runs rest env' s' r) : Runs (.ite c t e :: rest) env s r :=
  Evt.succ (Evt.and hb h) fun _ ⟨eb, er⟩ => by dsimp only [exec]; rw [hc]; dsimp only; rw [eb]; exact er

theorem Runs.ite_ret {c : Cond} {t e rest : List Stmt} {env : Env} {s s' : Sl α} {b : Bool}
    (hc : evalC env s c = some b) (hb : Runs (if b then t else e) env s (.ret s')) :
    Runs (.ite c t e :: rest) env s (.ret s') :=
  Evt.succ hb fun _ eb => by dsimp only [exec]; rw [hc]; dsimp only; rw [eb]

theorem Runs.loop_exit {c : Cond} {body post rest : List Stmt} {env : Env} {s : Sl α} {r : Res α}
    (hc : evalC env s c = some false) (h : Runs rest env s r) : Runs (.loop c body post :: rest) env s r :=
  Runs.step (fun _ => by dsimp only [exec]; rw [hc]) h

theorem Runs.loop_iter {c : Cond} {body post rest : List Stmt} {env env' env'' : Env} {s s' s'' : Sl α} {r : Res α}
    (hc : evalC env s c = some true) (hb : Runs body env s (.cont env' s'))
    (hp : Runs post env' s' (.cont env'' s'')) (h : Runs (.loop c body post :: rest) env'' s'' r) :
    Runs (.loop c body post :: rest) env s r :=
  Evt.succ (Evt.and hb (Evt.and hp h)) fun _ ⟨eb, ep, er⟩ => by
    dsimp only [exec]; rw [hc]; dsimp only; rw [eb]; dsimp only; rw [ep]; exact er

/-- `if a[i] != a[j] { if j+1 != i { a[j+1] = a[i] }; j++ }` -/
def uRound : List Stmt :=
  [ .ite (.elemNe (.var 2) (.var 1))
      [ .ite (.ne (.add (.var 1) (.lit 1)) (.var 2)) [.store (.add (.var 1) (.lit 1)) (.var 2)] [],
        .set 1 (.add (.var 1) (.lit 1)) ] [] ]

def uLoop : Stmt :=
  .loop (.lt (.var 2) (.var 0)) uRound [.set 2 (.add (.var 2) (.lit 1))]

def uBody : List Stmt :=
  [ .set 0 .len, .ite (.lt (.var 0) (.lit 2)) [.retSlice] [], .set 1 (.lit 0), .set 2 (.lit 1), uLoop,
    .reslice (.add (.var 1) (.lit 1)), .retSlice ]

theorem uniqueInt_body : Got.Generated.AstSortxUnique.uniqueInt.body = uBody := rfl
theorem uniqueString_body : Got.Generated.AstSortxUnique.uniqueString.body = uBody := rfl

omit [DecidableEq α] in
theorem at_natCast (s : Sl α) (i : Nat) (h : i < s.len) : s.at? (i : Int) = s.arr[i]? := by
  unfold Sl.at?
  have : (0 : Int) ≤ (i : Int) ∧ (i : Int) < (s.len : Int) := by omega
  rw [if_pos this]
  simp

omit [DecidableEq α] in
theorem eval_add1 {env : Env} (s : Sl α) {x n : Nat} (h : env.get x = (n : Int)) (hn : n < B62) :
    eval env s (.add (.var x) (.lit 1)) = ((n + 1 : Nat) : Int) := by
  unfold B62 at hn
  simp (disch := omega) only [eval, h, wrap_eq]
  simp

/-- `j < i < size = a.size` keeps `a[i]`, `a[j]`, `a[j+1]` in range, so the interpreter's bounds checks pass and the
    model does not return `none`. -/
theorem uRound_runs {size i j : Nat} {a : Array α} {env : Env} {sz : Int} (hsz : size < B62) (hji : j < i)
    (hlt : i < size) (hasz : a.size = size) (h : Frame [sz, j, i] env) :
    ∃ j2 a2 env1, uniqueLoop size i j a = uniqueLoop size (i + 1) j2 a2 ∧ j2 < i + 1 ∧ a2.size = size ∧
      Frame [sz, j2, i] env1 ∧
      Runs uRound env ({ arr := a, len := size } : Sl α) (.cont env1 { arr := a2, len := size }) := by
  obtain ⟨hjs, hj1s, hjB⟩ : j < size ∧ j + 1 < size ∧ j < B62 := by omega
  have h1 : env.get 1 = (j : Int) := h.get 1 rfl
  have h2 : env.get 2 = (i : Int) := h.get 2 rfl
  -- the elements read, as values: no index proofs in what follows
  obtain ⟨x, hx⟩ : ∃ x, a[i]? = some x := ⟨a[i]'(hasz ▸ hlt), Array.getElem?_eq_getElem _⟩
  obtain ⟨y, hy⟩ : ∃ y, a[j]? = some y := ⟨a[j]'(hasz ▸ hjs), Array.getElem?_eq_getElem _⟩
  obtain ⟨z, hz⟩ : ∃ z, a[j + 1]? = some z := ⟨a[j + 1]'(hasz ▸ hj1s), Array.getElem?_eq_getElem _⟩
  have ai : ({ arr := a, len := size } : Sl α).at? (i : Int) = some x := (at_natCast _ i hlt).trans hx
  have aj : ({ arr := a, len := size } : Sl α).at? (j : Int) = some y := (at_natCast _ j hjs).trans hy
  have aj1 : ({ arr := a, len := size } : Sl α).at? ((j + 1 : Nat) : Int) = some z := (at_natCast _ (j + 1) hj1s).trans hz
  have e1 : ∀ s' : Sl α, eval env s' (.add (.var 1) (.lit 1)) = ((j + 1 : Nat) : Int) := fun s' => eval_add1 s' h1 hjB
  have hne : evalC env ({ arr := a, len := size } : Sl α) (.elemNe (.var 2) (.var 1)) = some (decide (x ≠ y)) := by
    simp only [evalC, eval, h1, h2, ai, aj]
  have hcn : evalC env ({ arr := a, len := size } : Sl α) (.ne (.add (.var 1) (.lit 1)) (.var 2)) =
      some (decide (j + 1 ≠ i)) := by
    have e2 : eval env ({ arr := a, len := size } : Sl α) (.var 2) = (i : Int) := h2
    simp only [evalC, e1 _, e2, ne_eq, Int.natCast_inj]
  rw [uniqueLoop, if_pos hlt]
  simp only [hx, hy]
  by_cases hxy : x ≠ y
  · rw [if_pos hxy]
    rw [decide_eq_true hxy] at hne
    by_cases hji1 : j + 1 ≠ i
    · rw [if_pos hji1, if_pos (hasz ▸ hj1s)]
      rw [decide_eq_true hji1] at hcn
      exact ⟨j + 1, a.set! (j + 1) x, _, rfl, by omega, by simpa using hasz, h.set 1 _,
        Runs.ite (b := true) hne (Runs.ite (b := true) hcn (Runs.store (e1 _) h2 ai aj1 Runs.nil) (Runs.set (e1 _) Runs.nil))
          Runs.nil⟩
    · rw [if_neg hji1]
      rw [decide_eq_false hji1] at hcn
      exact ⟨j + 1, a, _, rfl, by omega, hasz, h.set 1 _,
        Runs.ite (b := true) hne (Runs.ite (b := false) hcn Runs.nil (Runs.set (e1 _) Runs.nil)) Runs.nil⟩
  · rw [if_neg hxy]
    rw [decide_eq_false hxy] at hne
    exact ⟨j, a, env, rfl, Nat.lt_succ_of_lt hji, hasz, h, Runs.ite (b := false) hne Runs.nil Runs.nil⟩

/-- the conclusion is in continuation form (whatever runs after the loop from the final state runs after it from the
    initial one), so no fuel appears -/
theorem uLoop_runs (size : Nat) (hsz : size < B62) :
    ∀ (n i j : Nat) (a : Array α) (env : Env), size - i = n → j < i → i ≤ size → a.size = size →
      Frame [size, j, i] env →
      ∃ j' a', uniqueLoop size i j a = some (j', a') ∧ a'.size = size ∧ j' < size ∧
        ∃ env' i', Frame [size, j', i'] env' ∧
          ∀ rest r, Runs rest env' ({ arr := a', len := size } : Sl α) r →
            Runs (uLoop :: rest) env ({ arr := a, len := size } : Sl α) r := by
  intro n
  induction n using Nat.strongRecOn with
  | _ n ih =>
    intro i j a env hn hji his hasz h
    have h0 : env.get 0 = (size : Int) := h.get 0 rfl
    have h2 : env.get 2 = (i : Int) := h.get 2 rfl
    have hc : evalC env ({ arr := a, len := size } : Sl α) (.lt (.var 2) (.var 0)) = some (decide (i < size)) := by
      simp only [evalC, eval, h0, h2, Int.ofNat_lt]
    by_cases hlt : i < size
    · rw [decide_eq_true hlt] at hc
      obtain ⟨j2, a2, env1, hu, hj2, ha2, g1, hk1⟩ := uRound_runs hsz hji hlt hasz h
      obtain ⟨j', a', hu', hs', hj', env', i', hg, hk⟩ := ih (size - (i + 1)) (by omega) (i + 1) j2 a2 _ rfl hj2 hlt ha2
        (g1.set 2 ((i + 1 : Nat) : Int))
      exact ⟨j', a', hu.trans hu', hs', hj', env', i', hg, fun rest r h => Runs.loop_iter hc hk1
        (Runs.set (eval_add1 _ (g1.get 2 rfl) (by omega)) Runs.nil) (hk rest r h)⟩
    · rw [decide_eq_false hlt] at hc
      rw [uniqueLoop, if_neg hlt]
      exact ⟨j, a, rfl, hasz, by omega, env, _, h, fun rest r h => Runs.loop_exit hc h⟩

theorem unique_refines (fn : Fn) (hbody : fn.body = uBody) (a : Array α) (hsz : a.size < B62) :
    ∃ f0, ∀ fuel, f0 ≤ fuel → fn.run fuel a = some (unique a) := by
  have key : ∃ s' : Sl α, Runs fn.body #[] ({ arr := a, len := a.size } : Sl α) (.ret s') ∧
      unique a = some (s'.arr.extract 0 s'.len, s'.arr) := by
    rw [hbody]
    unfold uBody unique
    have hc : evalC (Env.set #[] 0 (a.size : Int)) ({ arr := a, len := a.size } : Sl α) (.lt (.var 0) (.lit 2)) =
        some (decide (a.size < 2)) := by
      simp only [evalC, eval, Env.get_set_eq, wrap_eq (x := 2) (by decide) (by decide)]
      exact congrArg some (decide_eq_decide.mpr (by omega))
    by_cases h2 : a.size < 2
    · rw [decide_eq_true h2] at hc
      exact ⟨{ arr := a, len := a.size }, Runs.set rfl (Runs.ite_ret hc Runs.retSlice), by simp [h2]⟩
    · rw [decide_eq_false h2] at hc
      simp only [h2, if_false]
      obtain ⟨j', a', hu, hs', hj', env', i', hg, hk⟩ := uLoop_runs a.size hsz (a.size - 1) 1 0 a _ rfl (by omega) (by omega) rfl
        ((((Frame.init [] 3).set 0 (a.size : Int)).set 1 ((0 : Nat) : Int)).set 2 ((1 : Nat) : Int))
      rw [hu]
      simp only
      have hle : j' + 1 ≤ a'.size := by omega
      simp only [hle, if_true]
      have ev := eval_add1 ({ arr := a', len := a.size } : Sl α) (hg.get 1 rfl) (Nat.lt_trans hj' hsz)
      refine ⟨{ arr := a', len := j' + 1 }, Runs.set (v := (a.size : Int)) rfl (Runs.ite hc Runs.nil
        (Runs.set (v := ((0 : Nat) : Int)) rfl (Runs.set (v := ((1 : Nat) : Int)) rfl
          (hk _ _ (Runs.reslice (by rw [ev]; simp only; omega) ?_))))), rfl⟩
      rw [ev]
      simp only [Int.toNat_natCast]
      exact Runs.retSlice
  obtain ⟨s', hr, hu⟩ := key
  exact Evt.mono hr fun fuel e => by unfold Fn.run; rw [e, hu]

end Got.Lemmas.SortAstUnique
