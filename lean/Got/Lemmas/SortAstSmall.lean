import Got.Lemmas.SortAstBase
/-
Translator tie of C15 for medianOfThree_func, maxDepth, insertionSort_func.  Here and in the files that follow, a lemma
`F_body : F.body = … := rfl` writes the generated term of `F` out (Got/Generated/AstSortxSort.lean, rewritten from /repo on
every run), cut into named statements where a lemma is about a part of it: that `rfl` is where the build fails when the Go
source of `F` has changed shape.
-/
namespace Got.Lemmas.SortAst
open Got.Model.MiniGoSort Got.Model.Sort Got.Model.SortAst
open Got.Generated.AstSortxSort

variable {K V : Type}

theorem medianOfThree_body : medianOfThree_func.body =
    [ .ite (.less (.var 0) (.var 1)) [.swap (.var 0) (.var 1)] [],
      .ite (.less (.var 2) (.var 0))
        [.swap (.var 2) (.var 0), .ite (.less (.var 0) (.var 1)) [.swap (.var 0) (.var 1)] []] [] ] := rfl

/-- `if data.Less(e1, e2) { data.Swap(e1, e2) }` with index values `i`, `j` is the model's `condSwap` -/
theorem condSwap_runs (P : String → Option Fn) (less : LessFn K V) {env : Env} {e1 e2 : Expr} {i j : Nat} (s : St K V)
    (h1 : eval env e1 = (i : Int)) (h2 : eval env e2 = (j : Int)) (hi : i < B62) (hj : j < B62) :
    Seg (sortWorld less) P [.ite (.less e1 e2) [.swap e1 e2] []] env s env (condSwap less i j s) := by
  have hc := evalC_less (less := less) s h1 h2 hi hj
  unfold condSwap
  cases hr : less s i j <;> rw [hr] at hc
  · exact Seg.ite hc Seg.nil
  · exact Seg.ite hc (Seg.swapAt _ h1 h2 hi hj)

theorem medianOfThree_runs (P : String → Option Fn) (less : LessFn K V) (m1 m0 m2 : Nat)
    (h1 : m1 < B62) (h0 : m0 < B62) (h2 : m2 < B62) (s : St K V) :
    FnRuns (sortWorld less) P medianOfThree_func [(m1 : Int), (m0 : Int), (m2 : Int)] s []
      (medianOfThree less m1 m0 m2 s) := by
  have v0 : eval #[(m1 : Int), (m0 : Int), (m2 : Int)] (.var 0) = m1 := rfl
  have v1 : eval #[(m1 : Int), (m0 : Int), (m2 : Int)] (.var 1) = m0 := rfl
  have v2 : eval #[(m1 : Int), (m0 : Int), (m2 : Int)] (.var 2) = m2 := rfl
  have hfst := condSwap_runs P less s v0 v1 h1 h0
  have hc := evalC_less (less := less) (condSwap less m1 m0 s) v2 v0 h2 h1
  refine Or.inr ⟨rfl, #[(m1 : Int), (m0 : Int), (m2 : Int)], ?_⟩
  rw [medianOfThree_body]
  unfold medianOfThree
  dsimp only
  cases hr : less (condSwap less m1 m0 s) m2 m1 <;> rw [hr] at hc
  · exact (Seg.trans hfst (Seg.ite hc Seg.nil)).run
  · exact (Seg.trans hfst (Seg.ite hc (Seg.trans (Seg.swapAt _ v2 v0 h2 h1) (condSwap_runs P less _ v0 v1 h1 h0)))).run

theorem medianOfThree_call (P : String → Option Fn) (hPm : P "medianOfThree_func" = some medianOfThree_func)
    (less : LessFn K V) {env : Env} {e1 e0 e2 : Expr} {m1 m0 m2 : Nat} (v1 : eval env e1 = (m1 : Int))
    (v0 : eval env e0 = (m0 : Int)) (v2 : eval env e2 = (m2 : Int)) (hb : m1 < B62 ∧ m0 < B62 ∧ m2 < B62)
    (s : St K V) :
    Seg (sortWorld less) P [.call "medianOfThree_func" [e1, e0, e2] []] env s env (medianOfThree less m1 m0 m2 s) :=
  Seg.call0 hPm rfl rfl (map_eval3 v1 v0 v2) (medianOfThree_runs P less m1 m0 m2 hb.1 hb.2.1 hb.2.2 s)

theorem maxDepth_body : maxDepth.body =
    [ .set 1 (.lit 0), .set 2 (.var 0),
      .loop (.lt (.lit 0) (.var 2)) [.set 1 (.add (.var 1) (.lit 1))] [.set 2 (.shrS (.var 2) 1)],
      .ret [(.mul (.var 1) (.lit 2))] ] := rfl

theorem maxDepthLoop_le (i depth : Nat) : maxDepthLoop i depth ≤ depth + i := by
  fun_induction maxDepthLoop i depth with
  | case1 i depth h ih =>
    have : i >>> 1 < i := by rw [Nat.shiftRight_eq_div_pow]; omega
    omega
  | case2 i depth h => omega

theorem maxDepth_loop {σ : Type} (W : World σ) (P : String → Option Fn) (w : σ) {n : Int} :
    ∀ (i depth : Nat) (env : Env), Frame [n, depth, i] env → depth + i < B62 →
      Runs W P [ .loop (.lt (.lit 0) (.var 2)) [.set 1 (.add (.var 1) (.lit 1))] [.set 2 (.shrS (.var 2) 1)],
                 .ret [(.mul (.var 1) (.lit 2))] ] env w (.ret [((maxDepthLoop i depth * 2 : Nat) : Int)] w) := by
  intro i depth
  fun_induction maxDepthLoop i depth with
  | case1 i depth hpos ih =>
    intro env h hb
    unfold B62 at hb
    have hlt : i >>> 1 < i := by rw [Nat.shiftRight_eq_div_pow]; omega
    have h1 := h.set 1 ((depth + 1 : Nat) : Int)
    have e2 : eval (env.set 1 ((depth + 1 : Nat) : Int)) (.shrS (.var 2) 1) = ((i >>> 1 : Nat) : Int) := by
      rw [eval, show eval _ (.var 2) = (i : Int) from h1.get 2 rfl]
      simp [Nat.shiftRight_eq_div_pow]
    exact Runs.loop_iter (evalC_lt_nat w (eval_lit 0) (h.var 2 rfl) (decide_eq_true hpos))
      (Seg.set (eval_add (h.var 1 rfl) (eval_lit 1) (by omega))).run (Seg.set e2).run
      (ih _ (h1.set 2 _) (by unfold B62; omega))
  | case2 i depth hpos =>
    intro env h hb
    unfold B62 at hb
    refine Seg.loop_done (evalC_lt_nat w (eval_lit 0) (h.var 2 rfl) (decide_eq_false hpos)) _ _ ?_
    have : List.map (eval env) [(.mul (.var 1) (.lit 2))] = [((depth * 2 : Nat) : Int)] :=
      congrArg (fun v => [v]) (eval_mul (h.var 1 rfl) (eval_lit 2) (by omega))
    rw [← this]
    exact Runs.ret

theorem maxDepth_runs {σ : Type} (W : World σ) (P : String → Option Fn) (n : Nat) (hn : n < B62) (w : σ) :
    FnRuns W P maxDepth [(n : Int)] w [((Got.Model.Sort.maxDepth n : Nat) : Int)] w := by
  refine Or.inl ?_
  rw [maxDepth_body]
  unfold Got.Model.Sort.maxDepth
  have h := Frame.init [(n : Int)] 2
  exact Seg.set (eval_lit 0) _ _ (Seg.set ((h.set 1 _).var 0 rfl) _ _
    (maxDepth_loop W P w n 0 _ ((h.set 1 ((0 : Nat) : Int)).set 2 (n : Int)) (by rwa [Nat.zero_add])))

/-- `for j := …; j > a && data.Less(j, j-1); j-- { data.Swap(j, j-1) }` of the generated term -/
def insInnerStmt : Stmt :=
  .loop (.and (.lt (.var 0) (.var 3)) (.less (.var 3) (.sub (.var 3) (.lit 1))))
    [.swap (.var 3) (.sub (.var 3) (.lit 1))] [.set 3 (.sub (.var 3) (.lit 1))]

theorem insInner_runs (P : String → Option Fn) (less : LessFn K V) (a : Nat) {b i : Int} :
    ∀ (j : Nat) (env : Env) (s : St K V), Frame [a, b, i, j] env → j < B62 →
      ∃ env' j', Frame [a, b, i, j'] env' ∧ Seg (sortWorld less) P [insInnerStmt] env s env' (insInner less a j s) := by
  intro j
  induction j with
  | zero =>
    intro env s h hb
    rw [insInner]
    exact ⟨env, _, h, Seg.loop_done (evalC_and_false
      (evalC_lt_nat s (h.var 0 rfl) (h.var 3 rfl) (decide_eq_false (Nat.not_lt_zero a))))⟩
  | succ j ih =>
    intro env s h hb
    have hj : j < B62 := Nat.lt_of_succ_lt hb
    have e1 : eval env (.sub (.var 3) (.lit 1)) = (j : Int) := eval_sub1 (h.get 3 rfl) hb (Nat.le_add_left 1 j)
    have hlt := evalC_lt_nat (W := sortWorld less) s (h.var 0 rfl) (h.var 3 rfl)
    rw [insInner]
    by_cases hgt : j + 1 > a
    · rw [if_pos hgt]
      have hc := (evalC_and_true (hlt (decide_eq_true hgt))).trans
        (evalC_less s (h.var 3 rfl) e1 hb hj)
      cases hr : less s (j + 1) j
      · simp only [Bool.false_eq_true, if_false]
        exact ⟨env, _, h, Seg.loop_done (hr ▸ hc)⟩
      · simp only [if_true]
        obtain ⟨env', j', h', hk⟩ := ih _ ((s.note (j + 1) j true).swap (j + 1) j) (h.set 3 (j : Int)) hj
        exact ⟨env', j', h', Seg.loop_iter (hr ▸ hc) (Seg.swapAt _ (h.var 3 rfl) e1 hb hj) (Seg.set e1) hk⟩
    · rw [if_neg hgt]
      exact ⟨env, _, h, Seg.loop_done (evalC_and_false (hlt (decide_eq_false hgt)))⟩

def insOuterStmt : Stmt :=
  .loop (.lt (.var 2) (.var 1)) [.set 3 (.var 2), insInnerStmt] [.set 2 (.add (.var 2) (.lit 1))]

theorem insertionSort_body : insertionSort_func.body = [.set 2 (.add (.var 0) (.lit 1)), insOuterStmt] := rfl

theorem insOuter_runs (P : String → Option Fn) (less : LessFn K V) (a b : Nat) (hb : b < B62) (i : Nat) (s : St K V) :
    ∀ (j : Int) (env : Env), Frame [a, b, i, j] env →
      ∃ env', Seg (sortWorld less) P [insOuterStmt] env s env' (insOuter less a b i s) := by
  fun_induction insOuter less a b i s with
  | case1 i s hlt ih =>
    intro j env h
    have hib : i < B62 := Nat.lt_trans hlt hb
    obtain ⟨env1, j', h1, hk⟩ := insInner_runs P less a i _ s (h.set 3 (i : Int)) hib
    obtain ⟨env2, hk2⟩ := ih j' _ (h1.set 2 ((i + 1 : Nat) : Int))
    exact ⟨env2, Seg.loop_iter (evalC_lt_nat s (h.var 2 rfl) (h.var 1 rfl) (decide_eq_true hlt))
      (Seg.trans (Seg.set (h.var 2 rfl)) hk) (Seg.set (eval_add1 (h1.get 2 rfl) hib)) hk2⟩
  | case2 i s hlt =>
    intro j env h
    exact ⟨env, Seg.loop_done (evalC_lt_nat s (h.var 2 rfl) (h.var 1 rfl) (decide_eq_false hlt))⟩

theorem insertionSort_runs (P : String → Option Fn) (less : LessFn K V) (a b : Nat) (ha : a < B62) (hb : b < B62)
    (s : St K V) :
    FnRuns (sortWorld less) P insertionSort_func [(a : Int), (b : Int)] s [] (insertionSort less a b s) := by
  have h := Frame.init [(a : Int), (b : Int)] 2
  obtain ⟨env', hk⟩ := insOuter_runs P less a b hb (a + 1) s _ _ (h.set 2 ((a + 1 : Nat) : Int))
  refine Or.inr ⟨rfl, env', ?_⟩
  rw [insertionSort_body]
  exact (Seg.trans (Seg.set (eval_add1 (h.get 0 rfl) ha)) hk).run

end Got.Lemmas.SortAst
