import Got.Lemmas.DelayedHeap
import Got.Lemmas.Lts
/-
Invariants of the delayed-queue model.  `step` is turned into the relation `Move` (one constructor per branch) and then
summarised by what it does to the requests (`step_flow`): they pass through the stages issued → `waiting` → `armed` → `gone`,
and a step moves a list of them one stage on.  What the invariants say of requests follows from it for all actions at once;
what is left to do action by action is what the action itself changes (heap, clock, loop position).
-/
namespace Got.Model.Delayed
open Got.Model.DelayedHeap

def rkey (r : Req) : Int := r.trigger

theorem less_iff (x y : Req) : less x y = true ↔ rkey x < rkey y := by simp [less, rkey]

theorem tickNs_pos : 0 < tickNs := by decide
theorem reqCap_pos : 0 < reqCap := by decide

/-- the request the loop has popped and is handing to its target queue -/
def inflight : LPc → List Req
  | .forwarding _ r => [r]
  | _ => []

/-- requests issued and not yet placed on their queue -/
def outstanding (s : State) : List Req := s.senders ++ s.reqChan ++ s.heap.toList ++ inflight s.lpc

theorem eraseIdx_perm {α : Type} (l : List α) (i : Nat) (r : α) (h : l[i]? = some r) : (r :: l.eraseIdx i).Perm l := by
  obtain ⟨hi, rfl⟩ := List.getElem?_eq_some_iff.mp h
  rw [List.eraseIdx_eq_take_drop_succ]
  refine List.perm_middle.symm.trans (.of_eq ?_)
  rw [← List.drop_eq_getElem_cons hi, List.take_append_drop]

theorem heap_push_perm (h : Array Req) (r : Req) : (push less h r).toList.Perm (h.toList ++ [r]) :=
  (push_perm less h r).trans (List.perm_append_singleton r _).symm

theorem heap_pop_perm (h : Array Req) (top : Req) (ht : h[0]? = some top) : ((pop less h).toList ++ [top]).Perm h.toList := by
  obtain ⟨h0, rfl⟩ := Array.getElem?_eq_some_iff.1 ht
  exact (List.perm_append_singleton _ _).trans (pop_perm less h h0)

theorem heap_top_min (h : Array Req) (top : Req) (ht : h[0]? = some top) (hh : HeapN rkey h h.size) :
    ∀ r ∈ h.toList, top.trigger ≤ r.trigger := by
  obtain ⟨h0, rfl⟩ := Array.getElem?_eq_some_iff.1 ht
  intro r hr
  obtain ⟨k, hk, rfl⟩ := Array.mem_iff_getElem.1 (Array.mem_toList_iff.1 hr)
  exact top_min less_iff h hh k hk

/-- the request issued by `SendDelayed(d, _)` on queue `q` in state `s`: the `r` of `step` -/
def newReq (s : State) (q : Nat) (d : Int) : Req := { id := s.nextId, queue := q, trigger := (s.now : Int) + d, sent := s.now }

inductive Move (s : State) : Act → State → Prop
  | sendDelayed (q : Nat) (d : Int) :
      Move s (.sendDelayed q d) { s with senders := s.senders ++ [newReq s q d], nextId := s.nextId + 1 }
  | enq (i : Nat) (r : Req) : s.senders[i]? = some r → s.reqChan.length < reqCap →
      Move s (.enq i) { s with senders := s.senders.eraseIdx i, reqChan := s.reqChan ++ [r] }
  | pushReq (r : Req) (rest : List Req) : s.lpc = .select → s.reqChan = r :: rest →
      Move s .pushReq { s with reqChan := rest, heap := push less s.heap r }
  | tickRecv : s.lpc = .select → s.tickPending = true →
      Move s .tickRecv { s with tickPending := false, lpc := .tickLoop s.now }
  | loopEmpty (ts : Nat) : s.lpc = .tickLoop ts → s.heap[0]? = none → Move s .tickTest { s with lpc := .select }
  | loopBreak (ts : Nat) (top : Req) : s.lpc = .tickLoop ts → s.heap[0]? = some top → top.trigger > (ts : Int) →
      Move s .tickTest { s with lpc := .select }
  | loopPop (ts : Nat) (top : Req) : s.lpc = .tickLoop ts → s.heap[0]? = some top → top.trigger ≤ (ts : Int) →
      Move s .tickTest { s with heap := pop less s.heap, lpc := .forwarding ts top }
  | forward (ts : Nat) (r : Req) : s.lpc = .forwarding ts r → (s.q r.queue).length < s.qcap r.queue →
      Move s .forward { s with q := updQ s.q r.queue (s.q r.queue ++ [r]), forwarded := s.forwarded ++ [(r, s.now)],
                               lpc := .tickLoop ts }
  | forwardDrop (ts : Nat) (r : Req) : s.lpc = .forwarding ts r → s.qclosed r.queue = true →
      Move s .forwardDrop { s with dropped := s.dropped ++ [r], lpc := .tickLoop ts }
  | closeQ (q : Nat) : Move s (.closeQ q) { s with qclosed := fun x => if x = q then true else s.qclosed x }
  | qRecv (q : Nat) (x : Req) (rest : List Req) : s.q q = x :: rest → Move s (.qRecv q) { s with q := updQ s.q q rest }
  | tickFire : s.now = s.nextTick → Move s .tickFire { s with tickPending := true, nextTick := s.nextTick + tickNs }
  | delay (d : Nat) : 0 < d → s.now + d ≤ s.nextTick → loopEnabled s = false → enqEnabled s = false →
      Move s (.delay d) { s with now := s.now + d, blockedEver := s.blockedEver || isForwarding s.lpc }

theorem step_move {s s' : State} {a : Act} (hs : step s a = some s') : Move s a s' := by
  -- by hand where `constructor` and `assumption` do not find the way: the guard of `delay` is one conjunction, and the three
  -- branches of `tickTest` have to be told apart (the last from the negation of the second's test)
  cases a with
  | delay d =>
    simp only [step] at hs
    split at hs <;> cases hs
    rename_i h
    exact .delay d h.1 h.2.1 h.2.2.1 h.2.2.2
  | tickTest =>
    simp only [step] at hs
    (repeat' split at hs) <;> (try contradiction) <;> cases hs
    · exact .loopEmpty _ ‹_› ‹_›
    · exact .loopBreak _ _ ‹_› ‹_› ‹_›
    · exact .loopPop _ _ ‹_› ‹_› (Int.not_lt.1 ‹_›)
  | _ =>
    simp only [step] at hs <;> (repeat' split at hs) <;> (try contradiction) <;> cases hs <;> constructor <;>
      assumption

/-- requests issued and not yet received by the loop -/
def waiting (s : State) : List Req := s.senders ++ s.reqChan
/-- requests in the loop's hands -/
def armed (s : State) : List Req := s.heap.toList ++ inflight s.lpc
/-- requests that have left the delayed queue -/
def gone (s : State) : List Req := s.forwarded.map (·.1) ++ s.dropped

theorem outstanding_eq (s : State) : outstanding s = waiting s ++ armed s := by
  simp only [outstanding, waiting, armed, List.append_assoc]

/-- `issued`, `armedBy`, `released`: the requests that the action brings into `waiting`, moves from `waiting` to `armed`, and
    from `armed` to `gone` (`step_flow`). `take 1` is the head of the channel if there is one: no enabledness hypothesis. -/
def issued (s : State) : Act → List Req
  | .sendDelayed q d => [newReq s q d]
  | _ => []
def armedBy (s : State) : Act → List Req
  | .pushReq => s.reqChan.take 1
  | _ => []
def released (s : State) : Act → List Req
  | .forward | .forwardDrop => inflight s.lpc
  | _ => []

theorem step_flow {s s' : State} {a : Act} (m : Move s a s') :
    (issued s a ++ waiting s).Perm (armedBy s a ++ waiting s') ∧
    (armedBy s a ++ armed s).Perm (released s a ++ armed s') ∧
    (released s a ++ gone s).Perm (gone s') ∧ s'.nextId = s.nextId + (issued s a).length := by
  cases m with
  | sendDelayed q d =>
    refine ⟨?_, .refl _, .refl _, rfl⟩
    show (newReq s q d :: (s.senders ++ s.reqChan)).Perm (s.senders ++ [newReq s q d] ++ s.reqChan)
    exact ((List.perm_append_singleton _ _).append_right _).symm
  | enq i r hr =>
    refine ⟨?_, .refl _, .refl _, rfl⟩
    show (s.senders ++ s.reqChan).Perm (s.senders.eraseIdx i ++ (s.reqChan ++ [r]))
    rw [← List.append_assoc]
    exact ((List.perm_append_singleton _ _).trans ((eraseIdx_perm _ i r hr).append_right _)).symm
  | pushReq r rest _ hc =>
    simp only [issued, armedBy, released, waiting, armed, hc, List.take_succ_cons, List.take_zero, List.nil_append,
      List.singleton_append]
    exact ⟨List.perm_middle, ((push_perm less _ r).append_right _).symm, .refl _, rfl⟩
  | loopPop ts top hl ht =>
    simp only [issued, armedBy, released, armed, hl, inflight, List.nil_append, List.append_nil]
    exact ⟨.refl _, (heap_pop_perm _ top ht).symm, .refl _, rfl⟩
  | forward ts r hl =>
    simp only [issued, armedBy, released, armed, gone, hl, inflight, List.nil_append, List.append_nil, List.map_append,
      List.map_cons, List.map_nil, List.append_assoc, List.singleton_append]
    exact ⟨.refl _, List.perm_append_singleton r _, List.perm_middle.symm, rfl⟩
  | forwardDrop ts r hl =>
    simp only [issued, armedBy, released, armed, gone, hl, inflight, List.nil_append, List.append_nil,
      List.singleton_append]
    exact ⟨.refl _, List.perm_append_singleton r _,
      by rw [← List.append_assoc]; exact (List.perm_append_singleton r _).symm, rfl⟩
  | tickRecv hl | loopEmpty ts hl | loopBreak ts top hl =>
    simp only [issued, armedBy, released, armed, hl, inflight]
    exact ⟨.refl _, .refl _, .refl _, rfl⟩
  | _ => exact ⟨.refl _, .refl _, .refl _, rfl⟩

theorem mem_issued {s : State} {a : Act} {r : Req} (h : r ∈ issued s a) : ∃ q d, a = .sendDelayed q d ∧ r = newReq s q d := by
  cases a with
  | sendDelayed q d => exact ⟨q, d, rfl, List.mem_singleton.1 h⟩
  | _ => cases h

theorem issued_sent {s : State} {a : Act} {r : Req} (h : r ∈ issued s a) : r.sent = s.now := by
  obtain ⟨q, d, -, rfl⟩ := mem_issued h
  rfl

theorem armedBy_sub (s : State) (a : Act) : ∀ r ∈ armedBy s a, r ∈ waiting s := by
  intro r hr
  cases a with
  | pushReq => exact List.mem_append_right _ (List.mem_of_mem_take hr)
  | _ => cases hr

theorem waiting_step {s s' : State} {a : Act} (m : Move s a s') :
    ∀ r ∈ waiting s', r ∈ issued s a ∨ r ∈ waiting s :=
  fun _ hr => List.mem_append.1 ((step_flow m).1.symm.subset (List.mem_append_right _ hr))

theorem armed_step {s s' : State} {a : Act} (m : Move s a s') :
    ∀ r ∈ armed s', r ∈ waiting s ∨ r ∈ armed s :=
  fun r hr => (List.mem_append.1 ((step_flow m).2.1.symm.subset (List.mem_append_right _ hr))).imp_left
    (armedBy_sub s a r)

theorem step_outstanding {s s' : State} {a : Act} (m : Move s a s') :
    ∀ r ∈ outstanding s', r ∈ issued s a ∨ r ∈ outstanding s := by
  intro r hr
  rw [outstanding_eq] at hr ⊢
  rcases List.mem_append.1 hr with hr | hr
  · exact (waiting_step m r hr).imp_right (List.mem_append_left _)
  · exact .inr ((armed_step m r hr).elim (List.mem_append_left _) (List.mem_append_right _))

theorem step_clock {s s' : State} {a : Act} (m : Move s a s') :
    s.now ≤ s'.now ∧ (s'.blockedEver = false → s.blockedEver = false) := by
  cases m with
  | delay d => exact ⟨Nat.le_add_right _ _, fun hb => ((Bool.or_eq_false_iff).1 hb).1⟩
  | _ => exact ⟨Nat.le_refl _, id⟩

def cP (a : Nat) (l : List Req) : Nat := l.countP (fun r => decide (r.id = a))

theorem cP_nil (a : Nat) : cP a [] = 0 := rfl
theorem cP_append (a : Nat) (l1 l2 : List Req) : cP a (l1 ++ l2) = cP a l1 + cP a l2 := by simp [cP]
theorem cP_cons (a : Nat) (r : Req) (l : List Req) : cP a (r :: l) = cP a l + if r.id = a then 1 else 0 := by
  simp [cP, List.countP_cons]
theorem cP_perm (a : Nat) {l1 l2 : List Req} (h : l1.Perm l2) : cP a l1 = cP a l2 := h.countP_eq _

/-- occurrences of the id `a` in all the places a request can be -/
def idCount (s : State) (a : Nat) : Nat :=
  cP a s.senders + cP a s.reqChan + cP a s.heap.toList + cP a (inflight s.lpc) + cP a (s.forwarded.map (·.1)) +
    cP a s.dropped

theorem ids_bump (n a : Nat) : ((if a < n then 1 else 0) + if n = a then 1 else 0) = if a < n + 1 then 1 else 0 := by
  split <;> split <;> split <;> omega

theorem issued_cases (s : State) (a : Act) : issued s a = [] ∨ ∃ q d, issued s a = [newReq s q d] := by
  cases a with
  | sendDelayed q d => exact .inr ⟨q, d, rfl⟩
  | _ => exact .inl rfl

theorem idCount_eq (s : State) (b : Nat) : idCount s b = cP b (waiting s) + cP b (armed s) + cP b (gone s) := by
  simp only [idCount, waiting, armed, gone, cP_append]
  omega

theorem idCount_step {s s' : State} {a : Act} (m : Move s a s') (b : Nat) :
    idCount s' b = idCount s b + cP b (issued s a) := by
  obtain ⟨h1, h2, h3, -⟩ := step_flow m
  have e1 := cP_perm b h1
  have e2 := cP_perm b h2
  have e3 := cP_perm b h3
  simp only [cP_append] at e1 e2 e3
  rw [idCount_eq, idCount_eq]
  omega

theorem ids_step {s s' : State} {a : Act} (h : ∀ b, idCount s b = if b < s.nextId then 1 else 0)
    (m : Move s a s') : ∀ b, idCount s' b = if b < s'.nextId then 1 else 0 := by
  intro b
  rw [idCount_step m, (step_flow m).2.2.2, h b]
  rcases issued_cases s a with e | ⟨q, d, e⟩ <;> rw [e]
  · rfl
  · exact (congrArg _ ((cP_cons b _ []).trans (Nat.zero_add _))).trans (ids_bump _ _)

theorem stepD_cases (s : State) (a : Act) : stepD s a = s ∨ Move s a (stepD s a) := Got.Lemmas.Lts.getD_cases step_move s a

theorem ids_run (qcap : Nat → Nat) (acts : List Act) (b : Nat) :
    idCount (run qcap acts) b = if b < (run qcap acts).nextId then 1 else 0 :=
  Got.Lemmas.Lts.foldl_inv_of (P := fun s => ∀ b, idCount s b = if b < s.nextId then 1 else 0) stepD_cases
    (fun m h => ids_step h m) acts (fun _ => rfl) b

structure InvA (s : State) : Prop where
  heapOk : HeapN rkey s.heap s.heap.size
  grid : s.nextTick % tickNs = 0 ∧ s.now ≤ s.nextTick ∧ s.nextTick ≤ s.now + tickNs
  lpcOk : match s.lpc with
    | .select => True
    | .tickLoop ts => ts ≤ s.now
    | .forwarding ts r => ts ≤ s.now ∧ r.trigger ≤ (ts : Int) ∧ ∀ r' ∈ s.heap.toList, r.trigger ≤ r'.trigger
  fwdOk : ∀ x ∈ s.forwarded, x.1.trigger ≤ (x.2 : Int) ∧ x.2 ≤ s.now ∧ x.1.sent ≤ x.2
  sentLe : ∀ r ∈ outstanding s, r.sent ≤ s.now

theorem invA_init (qcap : Nat → Nat) : InvA (init qcap) := by
  constructor
  · intro k hk0 hk; simp [init] at hk
  · simp [init]
  · simp [init]
  · simp [init]
  · simp [outstanding, init, inflight]

theorem Move.invA {s s' : State} {a : Act} (m : Move s a s') (h : InvA s) : InvA s' := by
  have hsent : ∀ r ∈ outstanding s', r.sent ≤ s'.now := by
    intro r hr
    rcases step_outstanding m r hr with hi | h1
    · rw [issued_sent hi]
      exact (step_clock m).1
    · exact Nat.le_trans (h.sentLe r h1) (step_clock m).1
  have hlp := h.lpcOk
  cases m with
  | pushReq r rest hl => exact ⟨push_heap less_iff _ r h.heapOk, h.grid, by simp only [hl], h.fwdOk, hsent⟩
  | tickRecv => exact ⟨h.heapOk, h.grid, Nat.le_refl _, h.fwdOk, hsent⟩
  | loopEmpty | loopBreak => exact ⟨h.heapOk, h.grid, trivial, h.fwdOk, hsent⟩
  | loopPop ts top hl ht hle =>
    rw [hl] at hlp
    refine ⟨pop_heap less_iff _ h.heapOk, h.grid, ⟨hlp, hle, fun r' hr' => ?_⟩, h.fwdOk, hsent⟩
    exact heap_top_min _ top ht h.heapOk r' ((heap_pop_perm _ top ht).subset (List.mem_append_left _ hr'))
  | forward ts r hl =>
    rw [hl] at hlp
    refine ⟨h.heapOk, h.grid, hlp.1, fun x hx => ?_, hsent⟩
    rcases List.mem_append.1 hx with hx | hx
    · exact h.fwdOk x hx
    · obtain rfl := List.mem_singleton.1 hx
      exact ⟨Int.le_trans hlp.2.1 (Int.ofNat_le.2 hlp.1), Nat.le_refl _,
        h.sentLe r (by simp [outstanding, hl, inflight])⟩
  | forwardDrop ts r hl =>
    rw [hl] at hlp
    exact ⟨h.heapOk, h.grid, hlp.1, h.fwdOk, hsent⟩
  | tickFire hn =>
    have hg := h.grid
    exact ⟨h.heapOk, ⟨(Nat.add_mod_right _ _).trans hg.1, Nat.le_trans hg.2.1 (Nat.le_add_right _ _),
      Nat.add_le_add_right (Nat.le_of_eq hn.symm) _⟩, hlp, h.fwdOk, hsent⟩
  | delay d _ hle =>
    have hg := h.grid
    refine ⟨h.heapOk, ⟨hg.1, hle, Nat.le_trans hg.2.2 (Nat.add_le_add_right (Nat.le_add_right _ _) _)⟩, ?_, fun x hx => ?_, hsent⟩
    · cases hlpc : s.lpc with
      | select => trivial
      | tickLoop ts => rw [hlpc] at hlp; exact Nat.le_trans hlp (Nat.le_add_right _ _)
      | forwarding ts r => rw [hlpc] at hlp; exact ⟨Nat.le_trans hlp.1 (Nat.le_add_right _ _), hlp.2⟩
    · have := h.fwdOk x hx
      exact ⟨this.1, Nat.le_trans this.2.1 (Nat.le_add_right _ _), this.2.2⟩
  | _ => exact ⟨h.heapOk, h.grid, hlp, h.fwdOk, hsent⟩

theorem invA_run (qcap : Nat → Nat) (acts : List Act) : InvA (run qcap acts) :=
  Got.Lemmas.Lts.foldl_inv_of (P := InvA) stepD_cases Move.invA acts (invA_init qcap)

/-- the tick instant the loop is handling (`tickFire` has already advanced `nextTick`) or, idle with none pending, the next one -/
def cur (s : State) : Nat := if s.lpc = .select ∧ s.tickPending = false then s.nextTick else s.now

/-- at the tick instant `t` the request is at most one period past max(deadline, issue instant) -/
def dueBy (r : Req) (t : Nat) : Prop := (t : Int) < r.trigger + tickNs ∨ (t : Int) ≤ (r.sent : Int) + tickNs

/-- placed at instant t: less than one tick after max(deadline, issue instant); or exactly one tick after an issue
    instant that coincides with a tick, the deadline being already reached then -/
def lateOk (r : Req) (t : Nat) : Prop :=
  (t : Int) < r.trigger + tickNs ∨ (t : Int) < (r.sent : Int) + tickNs ∨
  (t = r.sent + tickNs ∧ r.sent % tickNs = 0 ∧ r.trigger ≤ (r.sent : Int))

/-- The loop handles a tick in zero model time: `delay` is disabled while `loopEnabled` (a pending tick, the tick loop, a
    forward that can proceed), and a forward that cannot proceed is what `blockedEver` records.  Hence `clock`: from the
    firing of a tick to the end of its processing the clock stands at that tick, one period before `nextTick`.
    `delay` is also disabled while a sender can proceed (`enqEnabled`) or the loop can receive: hence `fresh`, a request the
    loop has not yet received was issued at the present instant. -/
structure InvB (s : State) : Prop where
  clock : match s.lpc with
    | .select => s.tickPending = true → s.now + tickNs = s.nextTick
    | .tickLoop ts | .forwarding ts _ => ts = s.now ∧ s.now + tickNs = s.nextTick ∧ s.tickPending = false
  fresh : ∀ r ∈ waiting s, r.sent = s.now
  due : ∀ r ∈ outstanding s, dueBy r (cur s)
  fwdLate : ∀ x ∈ s.forwarded, x.2 % tickNs = 0 ∧ lateOk x.1 x.2

theorem invB_init (qcap : Nat → Nat) : InvB (init qcap) := by
  constructor <;> simp [init, inflight, waiting, outstanding]

/-- the end of a tick's processing: what stays in the heap is due after this tick, what waits was issued at it -/
theorem InvB.exit {s : State} {ts : Nat} (h : InvB s) (hl : s.lpc = .tickLoop ts)
    (hgt : ∀ r ∈ s.heap.toList, r.trigger > (ts : Int)) : InvB { s with lpc := .select } := by
  have hc := h.clock
  rw [hl] at hc
  refine ⟨fun hp => (by rw [hc.2.2] at hp; cases hp), h.fresh, fun r hr => ?_, h.fwdLate⟩
  rw [show cur { s with lpc := .select } = s.nextTick from if_pos ⟨rfl, hc.2.2⟩]
  rw [outstanding_eq] at hr
  rcases List.mem_append.1 hr with hw | ha
  · have := h.fresh r hw
    exact Or.inr (by omega)
  · have := hgt r (by simpa [armed, inflight] using ha)
    exact Or.inl (by omega)

theorem Move.invB {s s' : State} {a : Act} (m : Move s a s') (hA : InvA s) (h : InvB s)
    (hb : s'.blockedEver = false) : InvB s' := by
  have hT := tickNs_pos
  have hg := hA.grid
  have hc := h.clock
  have hfresh : ∀ r ∈ waiting s', r.sent = s.now := fun r hr => (waiting_step m r hr).elim issued_sent (h.fresh r)
  -- what is outstanding was so before or has just been issued, and then its issue instant is the present one
  have hdue : cur s' = cur s → ∀ r ∈ outstanding s', dueBy r (cur s') := by
    intro e r hr
    rw [e]
    rcases step_outstanding m r hr with hi | ho
    · have := issued_sent hi
      have : cur s ≤ s.now + tickNs := by unfold cur; split <;> omega
      exact Or.inr (by omega)
    · exact h.due r ho
  cases m with
  | sendDelayed | enq | pushReq | closeQ | qRecv => exact ⟨hc, hfresh, hdue rfl, h.fwdLate⟩
  | tickRecv hl hp =>
    rw [hl] at hc
    exact ⟨⟨rfl, hc hp, rfl⟩, hfresh, hdue (by simp [cur, hp]), h.fwdLate⟩
  | loopEmpty ts hl hn =>
    refine h.exit hl fun r hr => ?_
    obtain ⟨k, hk, -⟩ := Array.mem_iff_getElem.1 (Array.mem_toList_iff.1 hr)
    have := Array.getElem?_eq_none_iff.1 hn
    omega
  | loopBreak ts top hl ht hgt =>
    exact h.exit hl fun r hr => Int.lt_of_lt_of_le hgt (heap_top_min s.heap top ht hA.heapOk r hr)
  | loopPop ts _ hl | forwardDrop ts _ hl =>
    rw [hl] at hc
    exact ⟨hc, hfresh, hdue (by simp [cur, hl]), h.fwdLate⟩
  | forward ts r hl =>
    rw [hl] at hc
    refine ⟨hc, hfresh, hdue (by simp [cur, hl]), fun x hx => ?_⟩
    rcases List.mem_append.1 hx with hx | hx
    · exact h.fwdLate x hx
    · obtain rfl := List.mem_singleton.1 hx
      have hd := h.due r (by simp [outstanding, hl, inflight])
      rw [show cur s = s.now by simp [cur, hl]] at hd
      have hmod : s.now % tickNs = 0 := by
        have := hg.1
        rw [← hc.2.1, Nat.add_mod_right] at this
        exact this
      refine ⟨hmod, ?_⟩
      show lateOk r s.now
      unfold lateOk
      rcases hd with hd | hd
      · exact .inl hd
      · by_cases hlt : (s.now : Int) < (r.sent : Int) + tickNs
        · exact .inr (.inl hlt)
        · by_cases htr : r.trigger ≤ (r.sent : Int)
          · -- issued exactly at the previous tick instant, already due then
            have heq : s.now = r.sent + tickNs := by omega
            refine .inr (.inr ⟨heq, ?_, htr⟩)
            rw [heq, Nat.add_mod_right] at hmod
            exact hmod
          · exact .inl (by omega)
  | tickFire hn =>
    -- the timer fires at `nextTick`, so the loop is idle: while it is busy the clock is a period short of it
    have hl : s.lpc = .select := by
      cases hl : s.lpc with
      | select => rfl
      | tickLoop ts | forwarding ts r => rw [hl] at hc; omega
    rw [hl] at hc
    have hnp : s.tickPending = false := Bool.eq_false_iff.2 fun hp => by have := hc hp; omega
    refine ⟨by simp only [hl]; omega, hfresh, hdue ?_, h.fwdLate⟩
    simp [cur, hl, hnp, hn]
  | delay d _ _ hloop henq =>
    have hnf := ((Bool.or_eq_false_iff).1 hb).2
    have hsel : s.lpc = .select ∧ s.tickPending = false ∧ s.reqChan = [] := by
      cases hl : s.lpc with
      | select =>
        simp only [loopEnabled, hl, Bool.or_eq_false_iff, Bool.not_eq_false'] at hloop
        exact ⟨rfl, hloop.1, by simpa using hloop.2⟩
      | tickLoop ts => simp [loopEnabled, hl] at hloop
      | forwarding ts r => simp [isForwarding, hl] at hnf
    have hsend : s.senders = [] := by
      simp only [enqEnabled, hsel.2.2, List.length_nil, Bool.and_eq_false_iff, Bool.not_eq_false',
        decide_eq_false_iff_not] at henq
      rcases henq with henq | henq
      · simpa using henq
      · exact absurd reqCap_pos henq
    refine ⟨by simp [hsel.1, hsel.2.1], fun r hr => ?_, hdue (by simp [cur, hsel.1, hsel.2.1]), h.fwdLate⟩
    rw [waiting, hsend, hsel.2.2] at hr
    cases hr
def NonNeg : Act → Prop
  | .sendDelayed _ d => 0 ≤ d
  | _ => True

/-- deadline order for every pair whose later member has a non-negative delay: invariant whatever the delays of the run -/
structure Ordered (s : State) : Prop where
  sorted : s.forwarded.Pairwise (fun x y => (y.1.sent : Int) ≤ y.1.trigger → x.1.trigger ≤ y.1.trigger)
  below : ∀ x ∈ s.forwarded, ∀ r ∈ outstanding s, (r.sent : Int) ≤ r.trigger → x.1.trigger ≤ r.trigger

theorem Move.ordered {s s' : State} {a : Act} (m : Move s a s') (hA : InvA s) (hB : InvB s) (h : Ordered s) :
    Ordered s' := by
  have hbelow : ∀ x ∈ s.forwarded, ∀ r ∈ outstanding s', (r.sent : Int) ≤ r.trigger → x.1.trigger ≤ r.trigger := by
    intro x hx r hr hn
    rcases step_outstanding m r hr with hi | h1
    · have := hA.fwdOk x hx
      have := issued_sent hi
      omega
    · exact h.below x hx r h1 hn
  cases m with
  | forward ts r hlpc =>
    have hlp := hA.lpcOk
    rw [hlpc] at hlp
    have hrin : r ∈ outstanding s := by simp [outstanding, hlpc, inflight]
    refine ⟨List.pairwise_append.2 ⟨h.sorted, List.pairwise_singleton _ _, fun x hx y hy => ?_⟩,
      fun x hx r' hr' hn => ?_⟩
    · obtain rfl := List.mem_singleton.1 hy
      exact h.below x hx r hrin
    · rcases List.mem_append.1 hx with hx | hx
      · exact hbelow x hx r' hr' hn
      · obtain rfl := List.mem_singleton.1 hx
        rw [outstanding_eq] at hr'
        rcases List.mem_append.1 hr' with hw | ha
        · have hf := hB.fresh r' hw
          have := hlp.1
          have := hlp.2.1
          show r.trigger ≤ r'.trigger
          omega
        · exact (List.mem_append.1 ha).elim (hlp.2.2 r') nofun
  | _ => exact ⟨h.sorted, hbelow⟩

/-- `blockedEver` never goes back to `false`, so a run that ends unblocked was unblocked all along -/
theorem unblocked_run (qcap : Nat → Nat) (acts : List Act) :
    (run qcap acts).blockedEver = false → InvB (run qcap acts) ∧ Ordered (run qcap acts) :=
  (Got.Lemmas.Lts.foldl_inv_of (P := fun s => InvA s ∧ (s.blockedEver = false → InvB s ∧ Ordered s)) stepD_cases
    (fun m ⟨hA, h⟩ => ⟨m.invA hA, fun hb =>
      have h := h ((step_clock m).2 hb)
      ⟨m.invB hA h.1 hb, m.ordered hA h.1 h.2⟩⟩)
    acts ⟨invA_init qcap, fun _ => ⟨invB_init qcap, by constructor <;> simp [init]⟩⟩).2

theorem gone_step {s s' : State} {a : Act} (m : Move s a s') : ∀ r ∈ gone s', r ∈ outstanding s ∨ r ∈ gone s := by
  intro r hr
  refine (List.mem_append.1 ((step_flow m).2.2.1.symm.subset hr)).imp_left fun h => ?_
  rw [outstanding_eq]
  exact (List.mem_append.1 ((step_flow m).2.1.symm.subset (List.mem_append_left _ h))).elim
    (fun h => List.mem_append_left _ (armedBy_sub s a r h)) (List.mem_append_right _)

theorem nonneg_run (qcap : Nat → Nat) (acts : List Act) (hnn : ∀ a ∈ acts, NonNeg a) :
    ∀ r, r ∈ outstanding (run qcap acts) ∨ r ∈ gone (run qcap acts) → (r.sent : Int) ≤ r.trigger := by
  refine Got.Lemmas.Lts.foldl_inv_mem (P := fun s => ∀ r, r ∈ outstanding s ∨ r ∈ gone s → (r.sent : Int) ≤ r.trigger)
    (Q := NonNeg) (fun s a hq h => (stepD_cases s a).elim (fun e => e.symm ▸ h) fun m r hr => ?_) acts hnn
    (by simp [init, outstanding, gone, inflight])
  rcases hr.elim (fun ho => (step_outstanding m r ho).imp_right .inl) (fun hg => .inr (gone_step m r hg)) with hi | h1
  · obtain ⟨q, d, rfl, rfl⟩ := mem_issued hi
    exact Int.le_add_of_nonneg_right hq
  · exact h r h1

/-- deadline order in a run whose delays are all non-negative. Not an invariant of `step` (a `sendDelayed` with a negative
    delay breaks `nn`): read off `Ordered` and `nonneg_run` at the end of the run (`invC_run`). -/
structure InvC (s : State) : Prop where
  nn : ∀ r ∈ outstanding s, (r.sent : Int) ≤ r.trigger
  sorted : s.forwarded.Pairwise (fun x y => x.1.trigger ≤ y.1.trigger)
  below : ∀ x ∈ s.forwarded, ∀ r ∈ outstanding s, x.1.trigger ≤ r.trigger

theorem invC_run (qcap : Nat → Nat) (acts : List Act) (hnn : ∀ a ∈ acts, NonNeg a)
    (hb : (run qcap acts).blockedEver = false) : InvC (run qcap acts) :=
  have hO := (unblocked_run qcap acts hb).2
  have hN := nonneg_run qcap acts hnn
  ⟨fun r hr => hN r (.inl hr),
   hO.sorted.imp_of_mem fun _ hy h => h (hN _ (.inr (List.mem_append_left _ (List.mem_map_of_mem hy)))),
   fun x hx r hr => hO.below x hx r hr (hN r (.inl hr))⟩

theorem outstanding_not_overdue {s : State} (hA : InvA s) (hB : InvB s) :
    ∀ r ∈ outstanding s, (s.now : Int) < r.trigger + tickNs ∨ (s.now : Int) ≤ (r.sent : Int) + tickNs := by
  intro r hr
  have hg := hA.grid
  have : s.now ≤ cur s := by unfold cur; split <;> omega
  exact (hB.due r hr).imp (fun h => by omega) (fun h => by omega)

end Got.Model.Delayed
