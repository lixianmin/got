import Got.Lemmas.SortAstSmall
/-
Translator tie of C15 for siftDown_func (`for { … break … return … }`: its loop lemma concludes `Ends`) and heapSort_func (two
loops `for i := …; i >= 0; i--`, which end with `i = -1`: the frames hold that variable as an `Int`).
-/
namespace Got.Lemmas.SortAst
open Got.Model.MiniGoSort Got.Model.Sort Got.Model.SortAst
open Got.Generated.AstSortxSort

variable {K V : Type}

/-- `if child+1 < hi && data.Less(first+child, first+child+1) { child++ }` of the generated term -/
def pickStmt : Stmt :=
  .ite (.and (.lt (.add (.var 4) (.lit 1)) (.var 1))
      (.less (.add (.var 2) (.var 4)) (.add (.add (.var 2) (.var 4)) (.lit 1))))
    [.set 4 (.add (.var 4) (.lit 1))] []

theorem pick_runs (P : String → Option Fn) (less : LessFn K V) (hi first child : Nat)
    (hf : first + hi < B62) (hch : child < hi) {lo root : Int} (env : Env) (s : St K V)
    (h : Frame [lo, hi, first, root, child] env) :
    ∃ env', Frame [lo, hi, first, root, ((pickChild less hi first child s).1 : Nat)] env' ∧
      Seg (sortWorld less) P [pickStmt] env s env' (pickChild less hi first child s).2 := by
  have b : first + child + 1 < B62 := Nat.lt_of_le_of_lt (by omega) hf
  have b' : first + child + 1 < 9223372036854775808 := Nat.lt_trans b (by decide)
  have e4 := eval_add (h.var 4 rfl) (eval_lit (env := env) 1) (by omega)
  have ea := eval_add (h.var 2 rfl) (h.var 4 rfl) (by omega)
  have eb := eval_add ea (eval_lit (env := env) 1) b'
  have hlt := evalC_lt_nat (W := sortWorld less) s e4 (h.var 1 rfl)
  unfold pickChild
  by_cases hc1 : child + 1 < hi
  · rw [if_pos hc1]
    have hc := (evalC_and_true (hlt (decide_eq_true hc1))).trans
      (evalC_less s ea eb (Nat.lt_of_succ_lt b) b)
    cases hr : less s (first + child) (first + child + 1)
    · simp only [Bool.false_eq_true, if_false]
      exact ⟨env, h, Seg.ite (hr ▸ hc) Seg.nil⟩
    · simp only [if_true]
      exact ⟨_, h.set 4 _, Seg.ite (hr ▸ hc) (Seg.set e4)⟩
  · rw [if_neg hc1]
    exact ⟨env, h, Seg.ite (evalC_and_false (hlt (decide_eq_false hc1))) Seg.nil⟩

/-- the `for { … }` of the generated term -/
def siftLoop : Stmt :=
  .loop .tt [
    .set 4 (.add (.mul (.lit 2) (.var 3)) (.lit 1)),
    .ite (.le (.var 1) (.var 4)) [.brk] [],
    pickStmt,
    .ite (.not (.less (.add (.var 2) (.var 3)) (.add (.var 2) (.var 4)))) [.ret []] [],
    .swap (.add (.var 2) (.var 3)) (.add (.var 2) (.var 4)),
    .set 3 (.var 4)
  ] []

theorem siftDown_body : siftDown_func.body = [.set 3 (.var 0), siftLoop] := rfl

/-- on numbers alone, so that `omega` does not see the environment facts of `siftLoop_runs` -/
theorem sift_bounds {hi first root c n : Nat} (hf : first + hi < B62) (hn : hi - root = n) (h1 : 2 * root + 1 ≤ c)
    (h2 : c < hi) : first + root < B62 ∧ first + c < B62 ∧ c < B62 ∧ hi - c < n := by
  unfold B62 at *
  omega

theorem siftLoop_runs (P : String → Option Fn) (less : LessFn K V) (hi first : Nat) (hf : first + hi < B62) {lo : Int} :
    ∀ (n root : Nat) (c0 : Int) (env : Env) (s : St K V), hi - root = n → Frame [lo, hi, first, root, c0] env → root < B62 →
      ∃ r, Runs (sortWorld less) P [siftLoop] env s r ∧ Ends r (siftDown less hi first root s) := by
  intro n
  induction n using Nat.strongRecOn with
  | _ n ih =>
    intro root c0 env s hn h hroot
    unfold B62 at hf hroot
    have e4 : eval env (.add (.mul (.lit 2) (.var 3)) (.lit 1)) = ((2 * root + 1 : Nat) : Int) :=
      eval_add (eval_mul (eval_lit 2) (h.var 3 rfl) (by omega)) (eval_lit 1) (by omega)
    have g := h.set 4 ((2 * root + 1 : Nat) : Int)
    have hset : Seg (sortWorld less) P [.set 4 (.add (.mul (.lit 2) (.var 3)) (.lit 1))] env s _ s := Seg.set e4
    have hcle := evalC_le_nat (W := sortWorld less) s (g.var 1 rfl) (g.var 4 rfl)
    rw [siftDown]
    by_cases hge : 2 * root + 1 ≥ hi
    · simp only [hge, dite_true]
      exact ⟨.cont _ s, Seg.loop_brk rfl (hset _ _ (Runs.ite_leave (hcle (decide_eq_true hge)) Runs.brk nofun))
        _ _ Runs.nil, Or.inr ⟨_, rfl⟩⟩
    · simp only [hge, dite_false]
      have hch : 2 * root + 1 < hi := Nat.lt_of_not_ge hge
      obtain ⟨env2, g2, hk⟩ := pick_runs P less hi first (2 * root + 1) hf hch _ s g
      have hpc := pickChild_fst less hi first (2 * root + 1) s hch
      generalize pickChild less hi first (2 * root + 1) s = pc at hpc g2 hk ⊢
      obtain ⟨c, s2⟩ := pc
      simp only at hpc g2 hk ⊢
      obtain ⟨br, bc, hcB, hm⟩ := sift_bounds hf hn hpc.1 hpc.2.1
      have er := eval_add (g2.var 2 rfl) (g2.var 3 rfl) (Nat.lt_trans br (by decide))
      have ec := eval_add (g2.var 2 rfl) (g2.var 4 rfl) (Nat.lt_trans bc (by decide))
      have hc3 := evalC_notLess (less := less) s2 er ec br bc
      have hpre : Seg (sortWorld less) P [.set 4 (.add (.mul (.lit 2) (.var 3)) (.lit 1)),
          .ite (.le (.var 1) (.var 4)) [.brk] [], pickStmt] env s env2 s2 :=
        Seg.trans hset (Seg.trans (Seg.ite (hcle (decide_eq_false hge)) Seg.nil) hk)
      cases hr : less s2 (first + root) (first + c)
      · simp only [Bool.not_false, if_true]
        exact ⟨_, Runs.loop_ret rfl (hpre _ _ (Runs.ite_leave (hr ▸ hc3) Runs.ret nofun)), Or.inl rfl⟩
      · simp only [Bool.not_true, Bool.false_eq_true, if_false]
        obtain ⟨r, hr', hres⟩ := ih (hi - c) hm c _ _
          ((s2.note (first + root) (first + c) true).swap (first + root) (first + c)) rfl (g2.set 3 (c : Int)) hcB
        exact ⟨r, Runs.loop_iter rfl (hpre.trans (Seg.trans (Seg.ite (hr ▸ hc3) Seg.nil)
          (Seg.trans (Seg.swapAt _ er ec br bc) (Seg.set (g2.var 4 rfl))))).run Runs.nil hr', hres⟩

theorem siftDown_runs (P : String → Option Fn) (less : LessFn K V) (lo hi first : Nat)
    (hlo : lo < B62) (hf : first + hi < B62) (s : St K V) :
    FnRuns (sortWorld less) P siftDown_func [(lo : Int), (hi : Int), (first : Int)] s []
      (siftDown less hi first lo s) := by
  have h := Frame.init [(lo : Int), (hi : Int), (first : Int)] 2
  obtain ⟨r, hr, hres⟩ := siftLoop_runs P less hi first hf (hi - lo) lo _ _ s rfl (h.set 3 (lo : Int)) hlo
  refine FnRuns.of_ends ?_ hres
  rw [siftDown_body]
  exact Seg.set (h.var 0 rfl) _ _ hr

/-- `for i := (hi-1)/2; i >= 0; i-- { siftDown_func(data, i, hi, first) }` of the generated term -/
def buildLoop : Stmt :=
  .loop (.le (.lit 0) (.var 5)) [.call "siftDown_func" [(.var 5), (.var 4), (.var 2)] []]
    [.set 5 (.sub (.var 5) (.lit 1))]

/-- `for i := hi-1; i >= 0; i-- { data.Swap(first, first+i); siftDown_func(data, lo, i, first) }` -/
def popLoop : Stmt :=
  .loop (.le (.lit 0) (.var 6))
    [.swap (.var 2) (.add (.var 2) (.var 6)), .call "siftDown_func" [(.var 3), (.var 6), (.var 2)] []]
    [.set 6 (.sub (.var 6) (.lit 1))]

theorem heapSort_body : heapSort_func.body =
    [ .set 2 (.var 0), .set 3 (.lit 0), .set 4 (.sub (.var 1) (.var 0)),
      .set 5 (.divC (.sub (.var 4) (.lit 1)) 2), buildLoop, .set 6 (.sub (.var 4) (.lit 1)), popLoop ] := rfl

theorem heapBuild_runs (P : String → Option Fn) (hP : P "siftDown_func" = some siftDown_func)
    (less : LessFn K V) (hi first : Nat) (hf : first + hi < B62) {a b z j : Int} :
    ∀ (i : Nat) (env : Env) (s : St K V), Frame [a, b, first, z, hi, i, j] env → i < B62 →
      ∃ env' i', Frame [a, b, first, z, hi, i', j] env' ∧
        Seg (sortWorld less) P [buildLoop] env s env' (heapBuild less hi first i s) := by
  intro i
  induction i with
  | zero =>
    intro env s h hi'
    rw [heapBuild]
    -- the final `i` in the form `eval_sub_int` gives it: written `-1` it is found equal only by a long unification
    exact ⟨_, _, h.set 5 (((0 : Nat) : Int) - ((1 : Nat) : Int)),
      Seg.loop_iter (evalC_le_nat s (eval_lit 0) (h.var 5 rfl) rfl)
        (Seg.call0 hP rfl rfl (map_eval3 (h.var 5 rfl) (h.var 4 rfl) (h.var 2 rfl))
          (siftDown_runs P less 0 hi first hi' hf s))
        (Seg.set (eval_sub_int (h.var 5 rfl) (eval_lit 1) (by decide) (by decide)))
        (Seg.loop_done (evalC_le _ (eval_lit 0) (eval_var (Env.get_set_eq _ _ _)) (decide_eq_false (by omega))))⟩
  | succ i ih =>
    intro env s h hi'
    obtain ⟨env', i', h', hk⟩ := ih _ (siftDown less hi first (i + 1) s) (h.set 5 (i : Int)) (Nat.lt_of_succ_lt hi')
    exact ⟨env', i', h',
      Seg.loop_iter (evalC_le_nat s (eval_lit 0) (h.var 5 rfl) (decide_eq_true (Nat.zero_le _)))
        (Seg.call0 hP rfl rfl (map_eval3 (h.var 5 rfl) (h.var 4 rfl) (h.var 2 rfl))
          (siftDown_runs P less (i + 1) hi first hi' hf s))
        (Seg.set (eval_sub (h.var 5 rfl) (eval_lit 1) (Nat.le_add_left 1 i) hi')) hk⟩

theorem heapPop_runs (P : String → Option Fn) (hP : P "siftDown_func" = some siftDown_func)
    (less : LessFn K V) (first : Nat) {a b hi i5 : Int} :
    ∀ (i : Nat) (env : Env) (s : St K V), Frame [a, b, first, ((0 : Nat) : Int), hi, i5, (i : Int) - 1] env →
      first + i < B62 → ∃ env', Seg (sortWorld less) P [popLoop] env s env' (heapPop less first i s) := by
  intro i
  induction i with
  | zero =>
    intro env s h hb
    exact ⟨env, Seg.loop_done (evalC_le s (eval_lit 0) (h.var 6 rfl) rfl)⟩
  | succ i ih =>
    intro env s h hb
    have hfi : first + i < B62 := Nat.lt_of_succ_lt hb
    have hi' : i < B62 := Nat.lt_of_le_of_lt (Nat.le_add_left i first) hfi
    have h6' : env.get 6 = (i : Int) := (show env.get 6 = ((i + 1 : Nat) : Int) - 1 from h.get 6 rfl).trans (by omega)
    obtain ⟨env', hk⟩ := ih _ (siftDown less i first 0 (s.swap first (first + i))) (h.set 6 ((i : Int) - 1)) hfi
    exact ⟨env', Seg.loop_iter (evalC_le_nat s (eval_lit 0) (eval_var h6') (decide_eq_true (Nat.zero_le _)))
      (Seg.trans (Seg.swapAt s (h.var 2 rfl) (eval_add (h.var 2 rfl) (eval_var h6') (Nat.lt_trans hfi (by decide)))
          (Nat.lt_of_le_of_lt (Nat.le_add_right first i) hfi) hfi)
        (Seg.call0 hP rfl rfl (map_eval3 (h.var 3 rfl) (eval_var h6') (h.var 2 rfl))
          (siftDown_runs P less 0 i first (by decide) hfi _)))
      (Seg.set (eval_sub_int (eval_var h6') (eval_lit 1) hi' (by decide))) hk⟩

theorem eval_half {env : Env} {x n : Nat} (h : env.get x = (n : Int)) (hn : n < B62) :
    eval env (.divC (.sub (.var x) (.lit 1)) 2) = (((n - 1) / 2 : Nat) : Int) := by
  unfold B62 at hn
  have e : eval env (.sub (.var x) (.lit 1)) = (n : Int) - 1 :=
    eval_sub_int (eval_var h) (eval_lit 1) hn (by decide)
  rw [eval, e, tdiv_half, wrap_eq (by omega) (by omega)]

theorem heapSort_runs (P : String → Option Fn) (hP : P "siftDown_func" = some siftDown_func)
    (less : LessFn K V) (a b : Nat) (hab : a ≤ b) (hb : b < B62) (s : St K V) :
    FnRuns (sortWorld less) P heapSort_func [(a : Int), (b : Int)] s [] (heapSort less a b s) := by
  have hn : b - a < B62 := Nat.lt_of_le_of_lt (Nat.sub_le b a) hb
  have hfn : a + (b - a) < B62 := by rw [Nat.add_sub_cancel' hab]; exact hb
  have h0 : Frame [(a : Int), b, 0, 0, 0, 0, 0] #[(a : Int), (b : Int)] := Frame.init [(a : Int), (b : Int)] 5
  have h2 := h0.set 2 (a : Int)
  have h3 := h2.set 3 ((0 : Nat) : Int)
  have h4 := h3.set 4 ((b - a : Nat) : Int)
  have h5 := h4.set 5 (((b - a - 1) / 2 : Nat) : Int)
  obtain ⟨e5, i', g5, hkB⟩ := heapBuild_runs P hP less (b - a) a hfn ((b - a - 1) / 2) _ s h5
    (Nat.lt_of_le_of_lt (Nat.le_trans (Nat.div_le_self _ _) (Nat.sub_le _ _)) hn)
  obtain ⟨e6, hkP⟩ := heapPop_runs P hP less a (b - a) _ (heapBuild less (b - a) a ((b - a - 1) / 2) s)
    (g5.set 6 (((b - a : Nat) : Int) - 1)) hfn
  refine Or.inr ⟨rfl, e6, ?_⟩
  rw [heapSort_body]
  exact (Seg.trans (Seg.set (h0.var 0 rfl)) (Seg.trans (Seg.set (eval_lit 0)) (Seg.trans
    (Seg.set (eval_sub (h3.var 1 rfl) (h3.var 0 rfl) hab hb))
    (Seg.trans (Seg.set (eval_half (h4.get 4 rfl) hn)) (Seg.trans hkB (Seg.trans
      (Seg.set (eval_sub_int (g5.var 4 rfl) (eval_lit 1) hn (by decide))) hkP)))))).run

end Got.Lemmas.SortAst
