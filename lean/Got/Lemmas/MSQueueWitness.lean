import Got.Spec.Linearizable
/-
Consequences of the LP witness (`LinWitness l`, i.e. `wrun l = some w`), independent of the queue model: inversion of the
replay automaton, induction over logs from the right, conservation of values in linearisation order.
-/
namespace Got.Spec.Lin

def LEv.tid : LEv → Nat
  | .inv t _ => t
  | .lin t _ _ => t
  | .obs t => t
  | .ret t _ => t

/-- `wstep w e = some w'`, by cases. -/
inductive WStep (w : WSt) : LEv → WSt → Prop
  | inv {t o} : w.st t = .idle → WStep w (.inv t o) { w with st := upd w.st t (.pend o false) }
  | lin {t o r b} : w.st t = .pend o b → (fifoApply w.q o).2 = r → r ≠ .val none →
      WStep w (.lin t o r) ⟨(fifoApply w.q o).1, upd w.st t (.done o r)⟩
  | obs {t b} : w.st t = .pend .pop b → w.q = [] →
      WStep w (.obs t) { w with st := upd w.st t (.pend .pop true) }
  | ret {t o r} : w.st t = .done o r → WStep w (.ret t r) { w with st := upd w.st t .idle }
  | retNil {t} : w.st t = .pend .pop true →
      WStep w (.ret t (.val none)) { w with st := upd w.st t .idle }

theorem wstep_spec {w w' : WSt} {e : LEv} (h : wstep w e = some w') : WStep w e w' := by
  cases e with
  | inv t o =>
    simp only [wstep] at h
    split at h
    · next hs => cases h; exact .inv hs
    · cases h
  | lin t o r =>
    simp only [wstep] at h
    split at h
    · next hs =>
      split at h
      · next hc => cases h; obtain ⟨rfl, h2, h3⟩ := hc; exact .lin hs h2 h3
      · cases h
    · cases h
  | obs t =>
    simp only [wstep] at h
    split at h
    · next hs =>
      split at h
      · next hq => cases h; exact .obs hs hq
      · cases h
    · cases h
  | ret t r =>
    simp only [wstep] at h
    split at h
    · next hs =>
      split at h
      · next hr => cases h; subst hr; exact .ret hs
      · cases h
    · next hs =>
      split at h
      · next hr => cases h; subst hr; exact .retNil hs
      · cases h
    · cases h

theorem WStep.run {w w' : WSt} {e : LEv} (h : WStep w e w') : wstep w e = some w' := by
  cases h <;> simp [wstep, *]

theorem wrunFrom_one {w w' : WSt} {e : LEv} (h : WStep w e w') : wrunFrom w [e] = some w' := h.run

theorem wrunFrom_two {w w₁ w₂ : WSt} {e₁ e₂ : LEv} (h₁ : WStep w e₁ w₁) (h₂ : WStep w₁ e₂ w₂) :
    wrunFrom w [e₁, e₂] = some w₂ := by
  show (wstep w e₁).bind (fun w' => wstep w' e₂) = _
  rw [h₁.run]; exact h₂.run

theorem WStep.other {w w' : WSt} {e : LEv} (h : WStep w e w') {t : Nat} (ht : e.tid ≠ t) :
    w'.st t = w.st t := by
  cases h <;> exact upd_other (Ne.symm ht)

theorem wrun_snoc_some {l : List LEv} {e : LEv} {w' : WSt} (h : wrun (l ++ [e]) = some w') :
    ∃ w, wrun l = some w ∧ WStep w e w' := by
  rw [wrun_snoc] at h
  cases hw : wrun l with
  | none => rw [hw] at h; cases h
  | some w => rw [hw] at h; exact ⟨w, rfl, wstep_spec h⟩

theorem wrun_prefix {l₁ l₂ : List LEv} {w : WSt} (h : wrun (l₁ ++ l₂) = some w) : ∃ w₁, wrun l₁ = some w₁ := by
  unfold wrun at h ⊢
  rw [wrunFrom_append] at h
  cases hw : wrunFrom WSt.init l₁ with
  | none => rw [hw] at h; cases h
  | some w₁ => exact ⟨w₁, rfl⟩

theorem wrun_mem {l : List LEv} {w : WSt} {e : LEv} (h : wrun l = some w) (he : e ∈ l) :
    ∃ l₁ l₂ w₁ w₂, l = l₁ ++ e :: l₂ ∧ wrun l₁ = some w₁ ∧ WStep w₁ e w₂ := by
  obtain ⟨l₁, l₂, rfl⟩ := List.append_of_mem he
  rw [List.append_cons] at h
  obtain ⟨w₂, h₂⟩ := wrun_prefix h
  obtain ⟨w₁, h₁, hs⟩ := wrun_snoc_some h₂
  exact ⟨l₁, l₂, w₁, w₂, rfl, h₁, hs⟩

theorem snoc_induction {α : Type} {P : List α → Prop} (h0 : P [])
    (hs : ∀ l e, P l → P (l ++ [e])) (l : List α) : P l := by
  rw [← List.reverse_reverse l]
  induction l.reverse with
  | nil => exact h0
  | cons a l ih => rw [List.reverse_cons]; exact hs _ _ ih

theorem wrun_induction {P : List LEv → WSt → Prop} (h0 : P [] WSt.init)
    (hs : ∀ l w e w', wrun l = some w → P l w → WStep w e w' → P (l ++ [e]) w') :
    ∀ l w, wrun l = some w → P l w := by
  intro l
  induction l using snoc_induction with
  | h0 => intro w h; cases h; exact h0
  | hs l e ih =>
    intro w' h
    obtain ⟨w, hw, he⟩ := wrun_snoc_some h
    exact hs l w e w' hw (ih w hw) he

/-- the replay read at one thread, whose status only its own events move. -/
theorem wrun_thread {t : Nat} {P : List LEv → TSt → Prop} (nil : P [] .idle)
    (other : ∀ {l e st}, e.tid ≠ t → P l st → P (l ++ [e]) st)
    (inv : ∀ {l o}, P l .idle → P (l ++ [.inv t o]) (.pend o false))
    (lin : ∀ {l o b r}, P l (.pend o b) → (∃ q, (fifoApply q o).2 = r) → r ≠ .val none → P (l ++ [.lin t o r]) (.done o r))
    (obs : ∀ {l b}, P l (.pend .pop b) → P (l ++ [.obs t]) (.pend .pop true))
    (ret : ∀ {l o r}, P l (.done o r) → P (l ++ [.ret t r]) .idle)
    (retNil : ∀ {l}, P l (.pend .pop true) → P (l ++ [.ret t (.val none)]) .idle) :
    ∀ {l w}, wrun l = some w → P l (w.st t) := by
  intro l w h
  revert l w
  refine @wrun_induction _ nil ?_
  intro l w e w' _ ih he
  by_cases htt : e.tid = t
  · cases he with
    | @inv t' _ h1 =>
      obtain rfl : t' = t := htt; rw [h1] at ih
      show P _ (upd w.st t' _ t'); rw [upd_same]; exact inv ih
    | @lin t' _ _ _ h1 h2 h3 =>
      obtain rfl : t' = t := htt; rw [h1] at ih
      show P _ (upd w.st t' _ t'); rw [upd_same]; exact lin ih ⟨_, h2⟩ h3
    | @obs t' _ h1 =>
      obtain rfl : t' = t := htt; rw [h1] at ih
      show P _ (upd w.st t' _ t'); rw [upd_same]; exact obs ih
    | @ret t' _ _ h1 =>
      obtain rfl : t' = t := htt; rw [h1] at ih
      show P _ (upd w.st t' _ t'); rw [upd_same]; exact ret ih
    | @retNil t' h1 =>
      obtain rfl : t' = t := htt; rw [h1] at ih
      show P _ (upd w.st t' _ t'); rw [upd_same]; exact retNil ih
  · rw [he.other htt]; exact other htt ih

def LEv.pushLin : LEv → Option Nat
  | .lin _ (.push v) _ => some v
  | _ => none

def LEv.popLin : LEv → Option Nat
  | .lin _ .pop (.val (some v)) => some v
  | _ => none

def pushedLin (l : List LEv) : List Nat := l.filterMap LEv.pushLin

def poppedLin (l : List LEv) : List Nat := l.filterMap LEv.popLin

def LEv.invPush : LEv → Option Nat
  | .inv _ (.push v) => some v
  | _ => none

def LEv.retVal : LEv → Option Nat
  | .ret _ (.val (some v)) => some v
  | _ => none

def invPushVals (l : List LEv) : List Nat := l.filterMap LEv.invPush

def retVals (l : List LEv) : List Nat := l.filterMap LEv.retVal

theorem filterMap_snoc {α β : Type} (f : α → Option β) (l : List α) (e : α) :
    (l ++ [e]).filterMap f = l.filterMap f ++ (f e).toList := by
  rw [List.filterMap_append]
  cases h : f e <;> simp [List.filterMap, h]

/-- **conservation in linearisation order**: the values pushed so far are exactly the values popped so
    far followed by the current contents of the abstract queue.  (FIFO order, no loss, no duplication
    and no invention at the level of linearisation points.) -/
theorem pushed_eq_popped_append {l : List LEv} {w : WSt} (h : wrun l = some w) :
    pushedLin l = poppedLin l ++ w.q := by
  revert l w
  refine @wrun_induction _ rfl ?_
  intro l w e w' _ ih he
  unfold pushedLin poppedLin at ih ⊢
  rw [filterMap_snoc, filterMap_snoc, ih]
  cases he with
  | inv | obs | ret | retNil => simp [LEv.pushLin, LEv.popLin]
  | @lin t o r b _ h2 h3 =>
    cases o with
    | push v => simp [LEv.pushLin, LEv.popLin, fifoApply]
    | pop =>
      cases hq : w.q with
      | nil => rw [hq] at h2; exact absurd h2.symm h3
      | cons x q' =>
        rw [hq] at h2
        simp only [fifoApply] at h2
        subst h2
        simp [LEv.pushLin, LEv.popLin, fifoApply]

def lastInv (t : Nat) (l : List LEv) : Option Op :=
  l.foldl (fun acc e => match e with
    | .inv t' o => if t' = t then some o else acc
    | _ => acc) none

theorem lastInv_snoc (t : Nat) (l : List LEv) (e : LEv) :
    lastInv t (l ++ [e]) = (match e with
      | .inv t' o => if t' = t then some o else lastInv t l
      | _ => lastInv t l) := by
  unfold lastInv
  rw [List.foldl_append]
  cases e <;> rfl

theorem lastInv_snoc_other {t : Nat} {e : LEv} (h : e.tid ≠ t) (l : List LEv) :
    lastInv t (l ++ [e]) = lastInv t l := by
  rw [lastInv_snoc]
  cases e <;> first | rfl | exact if_neg h

/-- what the log holds of the operation a thread is in; the result `r` of a linearised one is an answer of the FIFO to `o`, so
    `r` tells a Push (`ack`) from a Pop (a value). -/
def Opened (t : Nat) (l : List LEv) : TSt → Prop
  | .idle => True
  | .pend o _ => .inv t o ∈ l ∧ lastInv t l = some o
  | .done o r => .lin t o r ∈ l ∧ lastInv t l = some o ∧ (∃ q, (fifoApply q o).2 = r) ∧ r ≠ .val none

theorem wrun_opened {l : List LEv} {w : WSt} (h : wrun l = some w) (t : Nat) : Opened t l (w.st t) := by
  refine wrun_thread (P := Opened t) trivial ?other ?inv ?lin ?obs (fun _ => trivial) (fun _ => trivial) h
  case other =>
    intro l e st he ih
    cases st with
    | idle => trivial
    | pend => exact ⟨List.mem_append_left _ ih.1, (lastInv_snoc_other he l).trans ih.2⟩
    | done =>
      obtain ⟨h1, h2, h3⟩ := ih
      exact ⟨List.mem_append_left _ h1, (lastInv_snoc_other he l).trans h2, h3⟩
  case inv =>
    intro l o _
    exact ⟨List.mem_concat_self, (lastInv_snoc ..).trans (if_pos rfl)⟩
  case lin =>
    intro l o b r ⟨_, hl⟩ hq hr
    exact ⟨List.mem_concat_self, (lastInv_snoc ..).trans hl, hq, hr⟩
  case obs =>
    intro l b ⟨hi, hl⟩
    exact ⟨List.mem_append_left _ hi, (lastInv_snoc ..).trans hl⟩

theorem lin_has_inv {l : List LEv} {w : WSt} (h : wrun l = some w) {t : Nat} {o : Op} {r : Res}
    (hm : .lin t o r ∈ l) : .inv t o ∈ l := by
  obtain ⟨l₁, l₂, w₁, w₂, rfl, h₁, hs⟩ := wrun_mem h hm
  cases hs with
  | lin h1 => exact List.mem_append_left _ (h1 ▸ wrun_opened h₁ t : Opened t l₁ (.pend ..)).1

theorem ret_val_has_lin {l : List LEv} {w : WSt} (h : wrun l = some w) {t v : Nat}
    (hm : .ret t (.val (some v)) ∈ l) : .lin t .pop (.val (some v)) ∈ l := by
  obtain ⟨l₁, l₂, w₁, w₂, rfl, h₁, hs⟩ := wrun_mem h hm
  cases hs with
  | @ret _ o _ ho =>
    obtain ⟨h1, _, ⟨q, hq⟩, _⟩ : Opened t l₁ (.done ..) := ho ▸ wrun_opened h₁ t
    -- the FIFO answers a push with `ack`, so the operation is a pop
    cases o with
    | pop => exact List.mem_append_left _ h1
    | push x => cases hq

/-- **no invention**: a value returned by a Pop was the argument of an invoked Push. -/
theorem no_invention {l : List LEv} {w : WSt} (h : wrun l = some w) {t v : Nat}
    (hm : .ret t (.val (some v)) ∈ l) : ∃ t', .inv t' (.push v) ∈ l := by
  have h1 := ret_val_has_lin h hm
  have h2 : v ∈ poppedLin l := List.mem_filterMap.mpr ⟨_, h1, rfl⟩
  have h3 : v ∈ pushedLin l := by
    rw [pushed_eq_popped_append h]; exact List.mem_append_left _ h2
  obtain ⟨e, he, hv⟩ := List.mem_filterMap.mp h3
  cases e with
  | lin t' o r =>
    cases o with
    | push x => cases hv; exact ⟨t', lin_has_inv h he⟩
    | pop => cases hv
  | _ => cases hv

def LEv.isInvRetOf (t : Nat) : LEv → Prop
  | .inv t' _ => t' = t
  | .ret t' _ => t' = t
  | _ => False

/-- thread `t` is inside a Pop at the end of `a`, the abstract queue is empty at that instant, and
    `b` contains no invocation/response of `t` (so the instant lies in the same Pop as what follows `b`). -/
def EmptyInstant (t : Nat) (a b : List LEv) : Prop :=
  (∃ wa bb, wrun a = some wa ∧ wa.q = [] ∧ wa.st t = .pend .pop bb) ∧ ∀ e, e ∈ b → ¬ e.isInvRetOf t

theorem isInvRetOf_tid {t : Nat} {e : LEv} (h : e.isInvRetOf t) : e.tid = t := by
  cases e <;> first | exact h | exact h.elim

theorem seen_has_instant {l : List LEv} {w : WSt} (h : wrun l = some w) (t : Nat) :
    w.st t = .pend .pop true → ∃ a b, l = a ++ b ∧ EmptyInstant t a b := by
  revert l w
  refine @wrun_induction _ nofun ?_
  intro l w e w' hw ih he hst
  by_cases htt : e.tid = t
  · subst htt
    cases he with
    | @obs t b h1 h2 =>
      refine ⟨l ++ [.obs t], [], (List.append_nil _).symm,
        ⟨{ w with st := upd w.st t (.pend .pop true) }, true, ?_, h2, hst⟩, nofun⟩
      rw [wrun_snoc, hw]
      show wstep w (.obs t) = _
      simp only [wstep, h1, if_pos h2]
    | inv | lin | ret | retNil => simp only [LEv.tid, upd_same] at hst; cases hst
  · rw [he.other htt] at hst
    obtain ⟨a, b, hl, hE, hb⟩ := ih hst
    refine ⟨a, b ++ [e], by rw [hl, List.append_assoc], hE, fun x hx => ?_⟩
    rcases List.mem_append.mp hx with hx | hx
    · exact hb x hx
    · rw [List.mem_singleton.mp hx]; exact fun hc => htt (isInvRetOf_tid hc)

/-- **nil only if empty**: a Pop that returns nil contains an instant (after its invocation, before
    its response) at which the abstract queue was empty. -/
theorem nil_only_if_empty {l : List LEv} {t : Nat} {w : WSt} (h : wrun (l ++ [.ret t (.val none)]) = some w) :
    ∃ a b, l = a ++ b ∧ EmptyInstant t a b := by
  obtain ⟨w₀, hw, he⟩ := wrun_snoc_some h
  cases he with
  | ret ho => exact absurd rfl (ho ▸ wrun_opened hw t : Opened t l (.done ..)).2.2.2
  | retNil hp => exact seen_has_instant hw t hp

/-- **no loss**: when a Push returns, the argument of that Push (the thread's latest invocation) has
    taken effect: it has been popped or it is in the abstract queue. -/
theorem no_loss {l : List LEv} {t : Nat} {w : WSt} (h : wrun (l ++ [.ret t .ack]) = some w) :
    ∃ v, lastInv t l = some (.push v) ∧ v ∈ poppedLin l ++ w.q := by
  obtain ⟨w₀, hw, he⟩ := wrun_snoc_some h
  cases he with
  | @ret _ o _ ho =>
    obtain ⟨h1, h3, ⟨q, hq⟩, _⟩ : Opened t l (.done ..) := ho ▸ wrun_opened hw t
    -- the FIFO answers `ack` to a push only
    cases o with
    | pop => cases q <;> cases hq
    | push v =>
      refine ⟨v, h3, ?_⟩
      show v ∈ poppedLin l ++ w₀.q
      rw [← pushed_eq_popped_append hw]
      exact List.mem_filterMap.mpr ⟨_, h1, rfl⟩

end Got.Spec.Lin
