import Got.Model.Sort
/-
What a routine of the sort model does to the state is stated as a footprint (`Steps`, with a bound on the comparisons `Run`);
permutation, sizes, the untouched outside and the form of the log follow from the footprint alone (`Steps.summary`).
-/
namespace Got.Lemmas.Sort
open Got.Model.Sort

variable {K V : Type}

/- A constant of the model is the integer literal at a fixed position of its function's table in Got/Generated/LitsSortx.lean
   (the literals of the body in source order, regenerated from the Go source); a change that shifts the positions makes it
   read another literal, so the values are asserted here and the proofs use the numerals.  Of the two thresholds only
   bounds are asserted, in SortBounds: `5 ≤ thrInsertion ≤ 12` (12 in the source) and `14 ≤ thrNinther` (40); the translator
   tie alone uses the value 40. -/
theorem gapInit_eq : gapInit = 6 := by decide
theorem gapLess_eq : gapLess = 6 := by decide
theorem gapSwap_eq : gapSwap = 6 := by decide
theorem divNinther_eq : divNinther = 8 := by decide
theorem thrProtect_eq : thrProtect = 5 := by decide
theorem divDups_eq : divDups = 4 := by decide

@[simp] theorem note_keys (s : St K V) (i j : Nat) (r : Bool) : (s.note i j r).keys = s.keys := rfl
@[simp] theorem note_vals (s : St K V) (i j : Nat) (r : Bool) : (s.note i j r).vals = s.vals := rfl
@[simp] theorem note_log (s : St K V) (i j : Nat) (r : Bool) : (s.note i j r).log = Ev.less i j r :: s.log := rfl
@[simp] theorem swap_keys (s : St K V) (i j : Nat) : (s.swap i j).keys = s.keys.swapIfInBounds i j := rfl
@[simp] theorem swap_vals (s : St K V) (i j : Nat) : (s.swap i j).vals = s.vals.swapIfInBounds i j := rfl
@[simp] theorem swap_log (s : St K V) (i j : Nat) : (s.swap i j).log = Ev.swap i j :: s.log := rfl

/-- the transposition of `u` and `v` -/
def tr (u v k : Nat) : Nat := if k = u then v else if k = v then u else k

theorem tr_left (u v : Nat) : tr u v u = v := if_pos rfl
theorem tr_right (u v : Nat) : tr u v v = u := by unfold tr; split <;> simp_all
theorem tr_of_ne {u v k : Nat} (h1 : k ≠ u) (h2 : k ≠ v) : tr u v k = k := by rw [tr, if_neg h1, if_neg h2]

theorem getElem?_swap_tr {α : Type} (xs : Array α) {u v : Nat} (hu : u < xs.size) (hv : v < xs.size) (k : Nat) :
    (xs.swapIfInBounds u v)[k]? = xs[tr u v k]? := by
  rw [Array.swapIfInBounds_def, dif_pos hu, dif_pos hv, Array.getElem?_swap]
  by_cases h1 : k = u
  · subst h1
    rw [tr_left]
    by_cases h2 : v = k
    · subst h2; simp
    · simp [h2, hv]
  · by_cases h2 : k = v
    · subst h2; rw [tr_right]; simp [hu]
    · rw [tr_of_ne h1 h2, if_neg (fun e => h2 e.symm), if_neg (fun e => h1 e.symm)]

theorem swapIfInBounds_eq_self {α : Type} (xs : Array α) {u v : Nat} (h : ¬ (u < xs.size ∧ v < xs.size)) :
    xs.swapIfInBounds u v = xs := by
  rw [Array.swapIfInBounds_def]
  split
  · split
    · exact absurd ⟨‹u < xs.size›, ‹v < xs.size›⟩ h
    · rfl
  · rfl

theorem getElem?_swapIfInBounds_of_ne {α : Type} (xs : Array α) (i j k : Nat) (h1 : k ≠ i) (h2 : k ≠ j) :
    (xs.swapIfInBounds i j)[k]? = xs[k]? := by
  by_cases h : i < xs.size ∧ j < xs.size
  · rw [getElem?_swap_tr xs h.1 h.2, tr_of_ne h1 h2]
  · rw [swapIfInBounds_eq_self xs h]

theorem swap_getElem?_left {s : St K V} {i j : Nat} (hi : i < s.keys.size) (hj : j < s.keys.size) :
    (s.swap i j).keys[i]? = s.keys[j]? := by
  rw [swap_keys, getElem?_swap_tr _ hi hj, tr_left]

theorem swap_getElem?_right {s : St K V} {i j : Nat} (hi : i < s.keys.size) (hj : j < s.keys.size) :
    (s.swap i j).keys[j]? = s.keys[i]? := by
  rw [swap_keys, getElem?_swap_tr _ hi hj, tr_right]

def InR (a b i j : Nat) : Prop := a ≤ i ∧ i < b ∧ a ≤ j ∧ j < b

theorem InR.mono {a b a' b' i j : Nat} (h : InR a b i j) (ha : a' ≤ a) (hb : b ≤ b') : InR a' b' i j := by
  unfold InR at *; omega

/-- `t` is reached from `s` by Less / Swap calls with all indices in `[a,b)` -/
inductive Steps (a b : Nat) : St K V → St K V → Prop
  | refl (s) : Steps a b s s
  | note {s t} (i j r) : Steps a b s t → InR a b i j → Steps a b s (t.note i j r)
  | swap {s t} (i j) : Steps a b s t → InR a b i j → Steps a b s (t.swap i j)

theorem Steps.trans {a b : Nat} {s t u : St K V} (h1 : Steps a b s t) (h2 : Steps a b t u) : Steps a b s u := by
  induction h2 with
  | refl => exact h1
  | note i j r _ hr ih => exact Steps.note i j r ih hr
  | swap i j _ hr ih => exact Steps.swap i j ih hr

theorem Steps.mono {a b a' b' : Nat} {s t : St K V} (h : Steps a b s t) (ha : a' ≤ a) (hb : b ≤ b') :
    Steps a' b' s t := by
  induction h with
  | refl => exact Steps.refl _
  | note i j r _ hr ih => exact Steps.note i j r ih (hr.mono ha hb)
  | swap i j _ hr ih => exact Steps.swap i j ih (hr.mono ha hb)

theorem Steps.note1 {a b : Nat} (s : St K V) (i j : Nat) (r : Bool) (h : InR a b i j) : Steps a b s (s.note i j r) :=
  Steps.note i j r (Steps.refl s) h

theorem Steps.swap1 {a b : Nat} (s : St K V) (i j : Nat) (h : InR a b i j) : Steps a b s (s.swap i j) :=
  Steps.swap i j (Steps.refl s) h

def cnt (s : St K V) : Nat := lessCount s.log

theorem cnt_swap (s : St K V) (i j : Nat) : cnt (s.swap i j) = cnt s := rfl

/-- `t` is reached from `s` by calls with all indices in `[a,b)`, at most `n` of them comparisons -/
structure Run (a b n : Nat) (s t : St K V) : Prop where
  steps : Steps a b s t
  count : cnt t ≤ cnt s + n

theorem Run.refl {a b : Nat} (s : St K V) : Run a b 0 s s := ⟨Steps.refl s, Nat.le_refl _⟩

theorem Run.note {a b : Nat} (s : St K V) {i j : Nat} (r : Bool) (h : InR a b i j) : Run a b 1 s (s.note i j r) :=
  ⟨Steps.note1 s i j r h, Nat.le_refl _⟩

theorem Run.swap {a b : Nat} (s : St K V) {i j : Nat} (h : InR a b i j) : Run a b 0 s (s.swap i j) :=
  ⟨Steps.swap1 s i j h, Nat.le_refl _⟩

theorem Run.trans {a b n m : Nat} {s t u : St K V} (h1 : Run a b n s t) (h2 : Run a b m t u) : Run a b (n + m) s u :=
  ⟨h1.steps.trans h2.steps, by have := h1.count; have := h2.count; omega⟩

theorem Run.mono {a b n a' b' n' : Nat} {s t : St K V} (h : Run a b n s t) (ha : a' ≤ a) (hb : b ≤ b') (hn : n ≤ n') :
    Run a' b' n' s t :=
  ⟨h.steps.mono ha hb, Nat.le_trans h.count (Nat.add_le_add_left hn _)⟩

theorem Run.le {a b n n' : Nat} {s t : St K V} (h : Run a b n s t) (hn : n ≤ n') : Run a b n' s t :=
  h.mono (Nat.le_refl _) (Nat.le_refl _) hn

theorem Steps.sizes {a b : Nat} {s t : St K V} (h : Steps a b s t) :
    t.keys.size = s.keys.size ∧ t.vals.size = s.vals.size := by
  induction h with
  | refl => exact ⟨rfl, rfl⟩
  | note i j r _ _ ih => exact ih
  | swap i j _ _ ih => simpa using ih

theorem Steps.keys_size {a b : Nat} {s t : St K V} (h : Steps a b s t) : t.keys.size = s.keys.size := h.sizes.1

theorem Steps.outside {a b : Nat} {s t : St K V} (h : Steps a b s t) (k : Nat) (hk : k < a ∨ b ≤ k) :
    t.keys[k]? = s.keys[k]? ∧ t.vals[k]? = s.vals[k]? := by
  induction h with
  | refl => exact ⟨rfl, rfl⟩
  | note i j r _ _ ih => exact ih
  | swap i j _ hr ih =>
    unfold InR at hr
    rw [swap_keys, swap_vals, getElem?_swapIfInBounds_of_ne _ _ _ _ (by omega) (by omega),
      getElem?_swapIfInBounds_of_ne _ _ _ _ (by omega) (by omega)]
    exact ih

theorem Steps.log {a b : Nat} {s t : St K V} (h : Steps a b s t) :
    ∃ evs, t.log = evs ++ s.log ∧ ∀ e ∈ evs, match e with
      | .less i j _ => a ≤ i ∧ i < b ∧ a ≤ j ∧ j < b
      | .swap i j => a ≤ i ∧ i < b ∧ a ≤ j ∧ j < b := by
  induction h with
  | refl => exact ⟨[], rfl, by simp⟩
  | note i j r _ hr ih =>
    obtain ⟨evs, h1, h2⟩ := ih
    refine ⟨Ev.less i j r :: evs, by simp [h1], ?_⟩
    intro e he
    rcases List.mem_cons.1 he with he | he
    · subst he; exact hr
    · exact h2 e he
  | swap i j _ hr ih =>
    obtain ⟨evs, h1, h2⟩ := ih
    refine ⟨Ev.swap i j :: evs, by simp [h1], ?_⟩
    intro e he
    rcases List.mem_cons.1 he with he | he
    · subst he; exact hr
    · exact h2 e he

theorem zip_swapIfInBounds {α β : Type} (xs : Array α) (ys : Array β) (i j : Nat)
    (hi : i < xs.size) (hj : j < xs.size) (hi' : i < ys.size) (hj' : j < ys.size) :
    (xs.swapIfInBounds i j).zip (ys.swapIfInBounds i j) = (xs.zip ys).swapIfInBounds i j := by
  apply Array.ext_getElem?
  intro k
  have hzs : (xs.zip ys).size = min xs.size ys.size := Array.size_zip
  rw [getElem?_swap_tr (xs.zip ys) (by omega) (by omega)]
  simp only [Array.zip_eq_zipWith, Array.getElem?_zipWith]
  rw [getElem?_swap_tr xs hi hj, getElem?_swap_tr ys hi' hj']

theorem Steps.zip_perm {a b : Nat} {s t : St K V} (h : Steps a b s t) (hb : b ≤ s.keys.size) (hb' : b ≤ s.vals.size) :
    (t.keys.zip t.vals).Perm (s.keys.zip s.vals) := by
  induction h with
  | refl => exact Array.Perm.refl _
  | note i j r _ _ ih => exact ih
  | @swap t i j hst hr ih =>
    unfold InR at hr
    have hsz := hst.sizes
    rw [swap_keys, swap_vals, zip_swapIfInBounds _ _ _ _ (by omega) (by omega) (by omega) (by omega)]
    refine Array.Perm.trans ?_ ih
    have hzs : (t.keys.zip t.vals).size = min t.keys.size t.vals.size := Array.size_zip
    rw [Array.swapIfInBounds_def, dif_pos (by omega), dif_pos (by omega)]
    exact Array.swap_perm _ _

/-- in the words of `C15_translated_source_heapSort_perm_pairing` and `doPivot_translated_perm` (the range condition on the new events written out) -/
theorem Steps.summary {a b : Nat} {s t : St K V} (st : Steps a b s t) (hbk : b ≤ s.keys.size) (hbv : b ≤ s.vals.size) :
    (t.keys.zip t.vals).Perm (s.keys.zip s.vals) ∧ t.keys.size = s.keys.size ∧ t.vals.size = s.vals.size ∧
      (∀ k, k < a ∨ b ≤ k → t.keys[k]? = s.keys[k]? ∧ t.vals[k]? = s.vals[k]?) ∧
      ∃ evs, t.log = evs ++ s.log ∧ ∀ e ∈ evs, match e with
        | .less i j _ => a ≤ i ∧ i < b ∧ a ≤ j ∧ j < b
        | .swap i j => a ≤ i ∧ i < b ∧ a ≤ j ∧ j < b :=
  ⟨st.zip_perm hbk hbv, st.sizes.1, st.sizes.2, st.outside, st.log⟩

end Got.Lemmas.Sort
