import Got.Lemmas.SortBasic
/-
Order invariants of the sorting loops are stated between places (`KLe lt ks i j`), not key values: a swap only relabels the
places by a transposition (`KLe.swap`), and an answer of the closure is such a fact (`KLe.of_stdLess`, `KLe.of_stdLess_false`).
-/
namespace Got.Lemmas.Sort
open Got.Model.Sort

variable {K V : Type}

/-- a strict weak order: incomparability is transitive (`incomp_trans`), so `lt y x = false` is a total preorder `x ≤ y` -/
structure StrictWeak (lt : K → K → Bool) : Prop where
  irrefl : ∀ x, lt x x = false
  trans : ∀ x y z, lt x y = true → lt y z = true → lt x z = true
  incomp_trans : ∀ x y z, lt x y = false → lt y x = false → lt y z = false → lt z y = false →
    lt x z = false ∧ lt z x = false

namespace StrictWeak
variable {lt : K → K → Bool} (sw : StrictWeak lt)
include sw

/-- `x ≤ y` is written `lt y x = false` -/
theorem le_of_lt {x y : K} (h : lt x y = true) : lt y x = false := by
  cases h' : lt y x with
  | false => rfl
  | true => have := sw.trans x y x h h'; rw [sw.irrefl] at this; exact this.symm

theorem le_trans {x y z : K} (h1 : lt y x = false) (h2 : lt z y = false) : lt z x = false := by
  cases hzx : lt z x with
  | false => rfl
  | true =>
    cases hxy : lt x y with
    | true => have := sw.trans z x y hzx hxy; rw [h2] at this; exact this.symm
    | false =>
      cases hyz : lt y z with
      | true => have := sw.trans y z x hyz hzx; rw [h1] at this; exact this.symm
      | false =>
        have := (sw.incomp_trans x y z hxy h1 hyz h2).2
        rw [hzx] at this; exact this

theorem le_total (x y : K) : lt x y = false ∨ lt y x = false := by
  cases h : lt x y with
  | false => exact Or.inl rfl
  | true => exact Or.inr (sw.le_of_lt h)

end StrictWeak

theorem StrictWeak.int_lt : StrictWeak (fun (x y : Int) => decide (x < y)) where
  irrefl := by intro x; simp
  trans := by intro x y z h1 h2; simp at *; omega
  incomp_trans := by intro x y z h1 h2 h3 h4; simp at *; omega

def AllK (ks : Array K) (a b : Nat) (P : K → Prop) : Prop :=
  ∀ k x, a ≤ k → k < b → ks[k]? = some x → P x

def SortedOn (lt : K → K → Bool) (ks : Array K) (a b : Nat) : Prop :=
  ∀ i j x y, a ≤ i → i < j → j < b → ks[i]? = some x → ks[j]? = some y → lt y x = false

theorem stdLess_eq (lt : K → K → Bool) {s : St K V} {i j : Nat} {x y : K}
    (hx : s.keys[i]? = some x) (hy : s.keys[j]? = some y) : stdLess lt s i j = lt x y := by
  unfold stdLess; rw [hx, hy]

/-- the key at `i` is not above the key at `j` -/
def KLe (lt : K → K → Bool) (ks : Array K) (i j : Nat) : Prop :=
  ∀ x y, ks[i]? = some x → ks[j]? = some y → lt y x = false

theorem sortedOn_iff {lt : K → K → Bool} {ks : Array K} {a b : Nat} :
    SortedOn lt ks a b ↔ ∀ i j, a ≤ i → i < j → j < b → KLe lt ks i j :=
  ⟨fun h i j h1 h2 h3 x y => h i j x y h1 h2 h3, fun h i j x y h1 h2 h3 => h i j h1 h2 h3 x y⟩

theorem KLe.swap {lt : K → K → Bool} {ks : Array K} {u v : Nat} (hu : u < ks.size) (hv : v < ks.size) {i j : Nat}
    (h : KLe lt ks (tr u v i) (tr u v j)) : KLe lt (ks.swapIfInBounds u v) i j := by
  intro x y hx hy
  rw [getElem?_swap_tr ks hu hv] at hx hy
  exact h x y hx hy

theorem KLe.of_stdLess_false {lt : K → K → Bool} {s : St K V} {i j : Nat} (h : stdLess lt s j i = false) :
    KLe lt s.keys i j := by
  intro x y hx hy
  rw [← stdLess_eq lt hy hx]; exact h

theorem KLe.of_stdLess {lt : K → K → Bool} (sw : StrictWeak lt) {s : St K V} {i j : Nat} (h : stdLess lt s i j = true) :
    KLe lt s.keys i j := by
  intro x y hx hy
  exact sw.le_of_lt ((stdLess_eq lt hx hy).symm.trans h)

theorem KLe.refl {lt : K → K → Bool} (sw : StrictWeak lt) (ks : Array K) (i : Nat) : KLe lt ks i i := by
  intro x y hx hy
  obtain rfl := Option.some.inj (hx.symm.trans hy); exact sw.irrefl _

theorem KLe.trans {lt : K → K → Bool} (sw : StrictWeak lt) {ks : Array K} {i j k : Nat} (hj : j < ks.size)
    (h1 : KLe lt ks i j) (h2 : KLe lt ks j k) : KLe lt ks i k := by
  intro x z hx hz
  exact sw.le_trans (h1 x ks[j] hx (Array.getElem?_eq_getElem hj)) (h2 ks[j] z (Array.getElem?_eq_getElem hj) hz)

theorem getElem?_some_of_lt {α : Type} (xs : Array α) (i : Nat) (h : i < xs.size) : ∃ x, xs[i]? = some x :=
  ⟨xs[i], Array.getElem?_eq_getElem h⟩

theorem AllK.mono {ks : Array K} {a b a' b' : Nat} {P : K → Prop} (h : AllK ks a b P) (ha : a ≤ a') (hb : b' ≤ b) :
    AllK ks a' b' P := fun k x h1 h2 hx => h k x (by omega) (by omega) hx

theorem AllK.imp {ks : Array K} {a b : Nat} {P Q : K → Prop} (h : AllK ks a b P) (hpq : ∀ x, P x → Q x) :
    AllK ks a b Q := fun k x h1 h2 hx => hpq x (h k x h1 h2 hx)

/-- steps inside `[a',b')` only permute its keys; steps away from it leave them alone -/
theorem Steps.allK {a b : Nat} {s t : St K V} (h : Steps a b s t) {a' b' : Nat} {P : K → Prop}
    (hd : (a' ≤ a ∧ b ≤ b') ∨ b' ≤ a ∨ b ≤ a') (hP : AllK s.keys a' b' P) : AllK t.keys a' b' P := by
  rcases hd with hin | hout
  · induction h with
    | refl => exact hP
    | note i j r _ _ ih => exact ih
    | @swap t i j hst hr ih =>
      unfold InR at hr
      intro k x h1 h2 hx
      rw [swap_keys] at hx
      by_cases hij : i < t.keys.size ∧ j < t.keys.size
      · rw [getElem?_swap_tr _ hij.1 hij.2] at hx
        have hk : a' ≤ tr i j k ∧ tr i j k < b' := by
          unfold tr
          split
          · omega
          · split <;> omega
        exact ih (tr i j k) x hk.1 hk.2 hx
      · rw [swapIfInBounds_eq_self _ hij] at hx
        exact ih k x h1 h2 hx
  · intro k x h1 h2 hx
    rw [(h.outside k (by omega)).1] at hx
    exact hP k x h1 h2 hx

theorem Steps.sortedOn_disjoint {lt : K → K → Bool} {a b : Nat} {s t : St K V} (h : Steps a b s t) {a' b' : Nat}
    (hd : b' ≤ a ∨ b ≤ a') (hS : SortedOn lt s.keys a' b') : SortedOn lt t.keys a' b' := by
  intro i j x y h1 h2 h3 hx hy
  rw [(h.outside i (by omega)).1] at hx
  rw [(h.outside j (by omega)).1] at hy
  exact hS i j x y h1 h2 h3 hx hy

end Got.Lemmas.Sort
