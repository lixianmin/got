import Got.Lemmas.MSQueueInv
/-
Client-visible value facts of the queue model. The heap itself is the ghost record: allocated nodes 1..nalloc-1 hold the
arguments of the invoked Pushes in invocation order (`invs`), the chain after the dummy holds the values in Push-linearisation
order (`pushed`), and every value-returning Pop logs its marker and its response in the same step (`rets`).
-/
namespace Got.Model.MSQueue
open Got.Spec.Lin

structure ValInv (s : State) : Prop where
  dummy : ∃ rest, s.chain = 0 :: rest
  invs : invPushVals s.log = (List.range' 1 (s.nalloc - 1)).map s.val
  pushed : pushedLin s.log = s.chain.tail.map s.val
  rets : retVals s.log = poppedLin s.log

/-- for the events of a step of the model the three conditions on `evs` hold by `rfl`, except `h1` at a Push
    invocation, which reads the value just stored. -/
theorem ValInv.append {s s' : State} (hI : Inv s) (hV : ValInv s) {ext : List Nat} {evs : List LEv} {k : Nat}
    (hc : s'.chain = s.chain ++ ext) (hv : ∀ x, x < s.nalloc → s'.val x = s.val x)
    (hn : s'.nalloc = s.nalloc + k) (hl : s'.log = s.log ++ evs)
    (h1 : evs.filterMap LEv.invPush = (List.range' s.nalloc k).map s'.val)
    (h2 : evs.filterMap LEv.pushLin = ext.map s'.val)
    (h3 : evs.filterMap LEv.retVal = evs.filterMap LEv.popLin) : ValInv s' := by
  obtain ⟨rest, hr⟩ := hV.dummy
  have hpos := hI.glob.nalloc_pos
  refine ⟨⟨rest ++ ext, by rw [hc, hr]; rfl⟩, ?_, ?_, ?_⟩
  · rw [hl, hn]; unfold invPushVals
    rw [List.filterMap_append, h1, show s.nalloc + k - 1 = (s.nalloc - 1) + k by omega,
      ← List.range'_append_1, List.map_append, show 1 + (s.nalloc - 1) = s.nalloc by omega]
    refine congrArg (· ++ _) (hV.invs.trans (List.map_congr_left fun a ha => ?_))
    rw [List.mem_range'_1] at ha
    exact (hv a (by omega)).symm
  · rw [hl, hc]; unfold pushedLin
    rw [List.filterMap_append, h2, List.tail_append_of_ne_nil (by rw [hr]; nofun), List.map_append]
    refine congrArg (· ++ _) (hV.pushed.trans (List.map_congr_left fun a ha => ?_))
    exact (hv a (hI.glob.lt a (List.mem_of_mem_tail ha))).symm
  · rw [hl]; unfold retVals poppedLin
    rw [List.filterMap_append, List.filterMap_append, h3]
    exact congrArg (· ++ _) hV.rets

theorem ThStep.valinv {s : State} {a : Act} {p : Pc} {h' : Heap} {p' : Pc} {evs : List LEv} {t : Nat}
    (hs : ThStep s.toHeap t a p h' p' evs) (hI : Inv s) (hV : ValInv s) : ValInv (lift s t h' p' evs) := by
  have nil : s.chain = s.chain ++ [] := (List.append_nil _).symm
  have swing : ∀ tl x evs, evs.filterMap LEv.invPush = [] → evs.filterMap LEv.pushLin = [] →
      evs.filterMap LEv.retVal = evs.filterMap LEv.popLin → ValInv (lift s t (swing s.toHeap tl x) p' evs) := by
    intro tl x evs h1 h2 h3
    unfold MSQueue.swing; split <;> exact hV.append hI (k := 0) nil (fun _ _ => rfl) rfl rfl h1 h2 h3
  cases hs with
  | invPush =>
    refine hV.append hI (k := 1) nil (fun x hx => upd_other (Nat.ne_of_lt hx)) rfl rfl ?_ rfl rfl
    show [_] = [upd s.val s.nalloc _ s.nalloc]
    rw [upd_same]
  | link => exact hV.append hI (k := 0) rfl (fun _ _ => rfl) rfl rfl rfl rfl rfl
  | p4h | p5 | d5h => exact swing _ _ _ rfl rfl rfl
  | invPop | loc | obs | empty | take => exact hV.append hI (k := 0) nil (fun _ _ => rfl) rfl rfl rfl rfl rfl

theorem valinv_step {s : State} (hI : Inv s) (hV : ValInv s) (a : Act) : ValInv (step s a) := by
  have H := step_spec s a
  generalize step s a = s' at H
  cases H with
  | skip => exact hV
  | move hs => exact hs.valinv hI hV

theorem valinv_init : ValInv init := ⟨⟨[], rfl⟩, rfl, rfl, rfl⟩

theorem valinv_run {s : State} (hI : Inv s) (hV : ValInv s) (acts : List Act) : ValInv (run s acts) :=
  (Got.Lemmas.Lts.foldl_inv (P := fun s => Inv s ∧ ValInv s) (fun _ a h => ⟨inv_step h.1 a, valinv_step h.1 h.2 a⟩) acts ⟨hI, hV⟩).2

theorem valinv_reachable (acts : List Act) : ValInv (run init acts) := valinv_run inv_init valinv_init acts

theorem nodup_map_of_inj_on {f : Nat → Nat} {l : List Nat} (hn : l.Nodup)
    (hinj : ∀ a b, a ∈ l → b ∈ l → f a = f b → a = b) : (l.map f).Nodup :=
  List.pairwise_map.mpr (hn.imp_of_mem fun ha hb hne hf => hne (hinj _ _ ha hb hf))

/-- **FIFO order, client level**: the values returned by Pops so far (in return order) followed by the
    current abstract queue are exactly the pushed values in the order in which the Pushes took effect. -/
theorem rets_append_absQ {s : State} (hI : Inv s) (hV : ValInv s) :
    retVals s.log ++ absQ s.toHeap = pushedLin s.log := by
  obtain ⟨w, hw, hq, _⟩ := hI.logi.ex
  rw [hV.rets, ← hq]
  exact (pushed_eq_popped_append hw).symm

/-- **no duplication, client level**: if the arguments of the invoked Pushes are pairwise distinct, so
    are the values returned by Pops (and the remaining queue content is disjoint from them). -/
theorem rets_nodup {s : State} (hI : Inv s) (hV : ValInv s) (hd : (invPushVals s.log).Nodup) :
    (retVals s.log ++ absQ s.toHeap).Nodup := by
  rw [rets_append_absQ hI hV, hV.pushed]
  rw [hV.invs] at hd
  obtain ⟨rest, hr⟩ := hV.dummy
  have hnd := hI.glob.nodup
  rw [hr, List.nodup_cons] at hnd
  have hmem : ∀ a, a ∈ s.chain.tail → a ∈ List.range' 1 (s.nalloc - 1) := by
    intro a ha
    have hlt := hI.glob.lt a (List.mem_of_mem_tail ha)
    rw [hr] at ha
    have hne : a ≠ 0 := fun e => hnd.1 (e ▸ ha)
    rw [List.mem_range']
    exact ⟨a - 1, by omega, by omega⟩
  apply nodup_map_of_inj_on
  · rw [hr]; exact hnd.2
  · intro a b ha hb
    exact hd.inj_of_map (hmem a ha) (hmem b hb)

end Got.Model.MSQueue
