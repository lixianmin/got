/-
Runs of a labelled transition system given by a total step function, `acts.foldl step s` (the `run` of every concurrent
model in Got/Model but Ants unfolds to this, TaskQ's and Delayed's with `stepD`): what holds along every run because every step keeps it.
-/
namespace Got.Lemmas.Lts

variable {σ τ α β : Type}

theorem foldl_inv_mem {P : σ → Prop} {Q : α → Prop} {step : σ → α → σ} (hstep : ∀ s a, Q a → P s → P (step s a)) :
    ∀ (acts : List α), (∀ a ∈ acts, Q a) → ∀ {s : σ}, P s → P (acts.foldl step s) :=
  fun acts hq _ h => List.foldlRecOn acts step h fun s hs a ha => hstep s a (hq a ha) hs

theorem foldl_inv {P : σ → Prop} {step : σ → α → σ} (hstep : ∀ s a, P s → P (step s a)) (acts : List α) {s : σ}
    (h : P s) : P (acts.foldl step s) :=
  foldl_inv_mem (Q := fun _ => True) (fun s a _ => hstep s a) acts (fun _ _ => trivial) h

/-- a partial step function made total by skipping the disabled actions: a step is a stutter or a move of the relation that
    holds of every enabled step -/
theorem getD_cases {step : σ → α → Option σ} {Move : σ → α → σ → Prop} (hstep : ∀ {s a s'}, step s a = some s' → Move s a s')
    (s : σ) (a : α) : (step s a).getD s = s ∨ Move s a ((step s a).getD s) :=
  match h : step s a with
  | none => .inl rfl
  | some _ => .inr (hstep h)

/-- `hcases`: a step is a stutter or a move of the relation (for a relation without a constructor for the stutter) -/
theorem step_inv_of {P : σ → Prop} {step : σ → α → σ} {Move : σ → α → σ → Prop}
    (hcases : ∀ s a, step s a = s ∨ Move s a (step s a)) (hmove : ∀ {s a s'}, Move s a s' → P s → P s') {s : σ} (h : P s)
    (a : α) : P (step s a) :=
  (hcases s a).elim (fun e => e.symm ▸ h) fun m => hmove m h

theorem foldl_inv_of {P : σ → Prop} {step : σ → α → σ} {Move : σ → α → σ → Prop}
    (hcases : ∀ s a, step s a = s ∨ Move s a (step s a)) (hmove : ∀ {s a s'}, Move s a s' → P s → P s') :
    ∀ (acts : List α) {s : σ}, P s → P (acts.foldl step s) :=
  foldl_inv fun _ a h => step_inv_of hcases hmove h a

/-- the actions of the second system (in the ties the hand-written model; `t` its state) that answer a run of the first, `m t a` answering `a` -/
def answers (g : τ → β → τ) (m : τ → α → β) (t : τ) : List α → List β
  | [] => []
  | a :: l => m t a :: answers g m (g t (m t a)) l

theorem length_answers (g : τ → β → τ) (m : τ → α → β) : ∀ (t : τ) (acts : List α), (answers g m t acts).length = acts.length
  | _, [] => rfl
  | t, a :: l => congrArg (· + 1) (length_answers g m (g t (m t a)) l)

theorem foldl_sim {R : σ → τ → Prop} {f : σ → α → σ} {g : τ → β → τ} (m : τ → α → β)
    (hstep : ∀ s t a, R s t → R (f s a) (g t (m t a))) :
    ∀ (acts : List α) {s : σ} {t : τ}, R s t → R (acts.foldl f s) ((answers g m t acts).foldl g t)
  | [], _, _, h => h
  | a :: l, _, _, h => foldl_sim m hstep l (hstep _ _ a h)

end Got.Lemmas.Lts
