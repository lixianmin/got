import Got.Lemmas.CacheInv
/-
C04: a future is resolved at most once, by the worker holding its job, with the pair the loader returned.
-/
namespace Got.Lemmas.Cache
open Got.Model.Cache Got.Spec.Cache

variable {cfg : Cfg} {s s' : State} {a : Act}

theorem Step.nfut_le (h : Step cfg s a s') : s.nfut ≤ s'.nfut := by
  cases h <;> first
    | exact Nat.le_refl _
    | exact Nat.le_succ _

/-- a step changes the result of an allocated future only by the publication of its job's worker, and never its key -/
theorem Step.res (h : Step cfg s a s') (f : FutId) (hf : f < s.nfut) :
    ((s'.fut f).res = (s.fut f).res ∨
      ∃ w j r, a = .wk w ∧ s.wpc w = .publish j r ∧ j.fut = f ∧ (s'.fut f).res = some r) ∧
    (s'.fut f).key = (s.fut f).key := by
  cases h
  case publish w j r hw =>
    by_cases e : f = j.fut
    · subst e; exact ⟨.inr ⟨w, j, r, rfl, hw, rfl, by simp only [setWpc, upd_same]⟩, by simp only [setWpc, upd_same]⟩
    · simp only [setWpc, upd_other e, true_or, and_self]
  case clearPred w j _ | wgDone w j _ =>
    by_cases e : f = j.fut
    · subst e; simp only [setWpc, upd_same, true_or, and_self]
    · simp only [setWpc, upd_other e, true_or, and_self]
  case ldExpired | ldHidden =>
    exact ⟨.inl (congrArg Fut.res (upd_other (Nat.ne_of_lt hf))), congrArg Fut.key (upd_other (Nat.ne_of_lt hf))⟩
  case setStart c k r _ _ =>
    have := orphanMark_fields s.fut (s.map k) f
    simp only [setCS, upd_other (Nat.ne_of_lt hf)]
    exact ⟨.inl this.2.1, this.1⟩
  all_goals exact ⟨.inl rfl, rfl⟩

/-- resolved at most once: the publication step of `Step.res` happens only while the result is still unset (`worker_unres`) -/
theorem res_stable (h : Inv cfg s) (hs : Step cfg s a s') (f : FutId) (hf : f < s.nfut) (r : Res)
    (hr : (s.fut f).res = some r) : (s'.fut f).res = some r := by
  rcases (hs.res f hf).1 with e | ⟨w, j, r', _, hw, hj, _⟩
  · rw [e]; exact hr
  · rw [← hj, worker_unres h (w := w) (by rw [hw]; rfl) (by rw [hw]; rfl)] at hr; cases hr

theorem res_stable_run (cfg : Cfg) (acts : List Act) (s : State) (h : Inv cfg s) (f : FutId) (hf : f < s.nfut) (r : Res)
    (hr : (s.fut f).res = some r) : ((run cfg s acts).fut f).res = some r :=
  (Lts.foldl_inv_of (P := fun s => Inv cfg s ∧ f < s.nfut ∧ (s.fut f).res = some r) (step_cases cfg)
    (fun hs ⟨h, hf, hr⟩ => ⟨hs.inv h, Nat.lt_of_lt_of_le hf hs.nfut_le, res_stable h hs f hf r hr⟩) acts ⟨h, hf, hr⟩).2.2

end Got.Lemmas.Cache
