import Got.Lemmas.Codec
import Got.Generated.AstIox
/-
Translator tie of the iox codec: the straight-line methods.  `Got.Generated.AstIox` holds the MiniGoBytes terms that
tools/srcfacts (minigo_codec.go) regenerates from /repo/iox on every run.  `s_<fn>_ast` (a method of OctetsStream),
`r_<fn>_ast` (OctetsReader) and, in `CodecAstLoop`, `w_<fn>_ast` (OctetsWriter) state that interpreting the generated term on
an arbitrary stream `(buf, pos)` gives exactly what the hand-written model `Got.Model.Codec` computes.
-/
namespace Got.Lemmas.CodecAst
open Got.Model.MiniGoBytes Got.Generated.AstIox
open Got.Model.Codec (writeBool writeByte writeInt16 writeInt32 writeInt64 writeRaw readByte readBool readInt16 readInt32
  readInt64)

def cv : Got.Model.Codec.Err → Err
  | .NotEnoughData => .NotEnoughData
  | .Bad7BitInt => .Bad7BitInt
  | .NegativeSize => .NegativeSize
  | .InvalidArgument => .InvalidArgument

/-- what a translated reader returns for the model's result `r`; the model's `crash` is a Go panic -/
def readOut {α : Type} (enc : α → Val) (zero : Val) (st : St) (r : Got.Model.Codec.Res α) : Out :=
  match r.out with
  | .ok v => .ret [enc v, .err none] [] { st with position := (r.pos : Int), alloc := st.alloc + r.alloc }
  | .err e => .ret [zero, .err (some (cv e))] [] { st with position := (r.pos : Int), alloc := st.alloc + r.alloc }
  | .crash => .panic

/-- what a translated writer returns: `nil`, the model's bytes appended -/
def writeOut (st : St) (bs : List Byte) : Out :=
  .ret [.err none] [none] { st with buffer := st.buffer ++ bs }

/-- finds a name in the generated table by `simp` on the characters of the keys: evaluating `==` on two `String`s, as
    `rfl` would, costs the kernel far more -/
macro "tbl_lookup" : tactic =>
  `(tactic| simp only [table, fns, lookup_cons_ne, List.lookup_cons_self, ne_eq, String.reduceEq, not_false_eq_true])

/-- the fuel comes out as `fuel - n + n`: `n` visible successors for the `exec_*` lemmas, which are stated for `f + 1` -/
theorem run_table {name : String} {fn : Fn} (n : Nat) {fuel : Nat} (hf : n ≤ fuel) (args : List Val) (st : St)
    (hl : fn.params.length = args.length) (h : table name = some fn := by tbl_lookup) :
    run table name fuel args st =
      finish fn.params (exec table fn.params (fuel - n + n) fn.body (fn.params.zip args) st) := by
  rw [Nat.sub_add_cancel hf, run_eq h fuel args st hl]

theorem tbl_r_ReadString : table "OctetsReader.ReadString" = some OctetsReader_ReadString := by tbl_lookup
theorem tbl_r_ReadBytes : table "OctetsReader.ReadBytes" = some OctetsReader_ReadBytes := by tbl_lookup

/-! Fuel: `exec` at `f + 1` runs the head statement and hands `f` to the rest of the block, to the branch, loop body or
callee's body the statement enters, and to the next round of a loop.  So a block of `k` statements needs `k + 1` units (one
for its end), a loop one more per round, and a nested block runs on what is left where it is entered without drawing on what
follows it.  The bounds `n ≤ fuel` of the theorems cover the longest such chain and are not all tight.
`ast_eval [facts]` executes a body by rewriting with the simp set `ast_simp` (the one-step lemmas of `exec`), never by
definitional unfolding: the kernel would otherwise evaluate `decide` and the `BitVec` / `Int` operations of `Val` on
symbolic arguments.  `exec_loop` is not in the set: a loop is entered by hand, with `exec_loop'` on the loop statement kept
folded. -/

attribute [ast_simp] List.lookup List.length_nil List.length_cons List.zip List.zipWith decide_true decide_false if_true
  if_false false_or true_and Int.toNat_natCast BitVec.setWidth_eq Option.map_some Option.map_none Bool.false_and
  Bool.and_false Nat.add_zero List.cons_append List.nil_append Option.some.injEq Bool.not_true Bool.not_false Bool.true_or

/-- repeated passes: a statement exposed by the reduction of an `if` inside one pass is executed by the next -/
syntax "ast_eval" ("[" Lean.Parser.Tactic.simpLemma,* "]")? : tactic
macro_rules
  | `(tactic| ast_eval) => `(tactic| ast_eval [])
  | `(tactic| ast_eval [$ls,*]) => `(tactic|
    (simp only [ast_simp, reduceCtorEq, Int.reduceToNat, Int.reduceLT, Nat.reduceLT, Nat.reduceLeDiff, Nat.reduceEqDiff,
       String.reduceBEq, BitVec.reduceOfInt, $ls,*];
     repeat simp only [ast_simp, reduceCtorEq, Int.reduceToNat, Int.reduceLT, Nat.reduceLT, Nat.reduceLeDiff,
       Nat.reduceEqDiff, String.reduceBEq, BitVec.reduceOfInt, $ls,*]))

theorem s_writeByte_ast (b : Byte) (st : St) (fuel : Nat) (hf : 3 ≤ fuel) :
    run table "OctetsStream.WriteByte" fuel [.bv 8 false b] st = some (writeOut st (writeByte b)) := by
  refine (run_table (fn := OctetsStream_WriteByte) 3 hf _ _ rfl).trans ?_
  simp only [OctetsStream_WriteByte]
  ast_eval
  simp [writeOut, writeByte]

theorem s_writeBool_ast (b : Bool) (st : St) (fuel : Nat) (hf : 5 ≤ fuel) :
    run table "OctetsStream.WriteBool" fuel [.bool b] st = some (writeOut st (writeBool b)) := by
  refine (run_table (fn := OctetsStream_WriteBool) 5 hf _ _ rfl).trans ?_
  simp only [OctetsStream_WriteBool]
  cases b <;> ast_eval <;> simp [writeOut, Got.Lemmas.Codec.writeBool_eq]

/-! The translator prints WriteInt16/32/64 and ReadInt16/32/64 in two shapes, `[appendBuf (writeFixedArgs shifts), ret nil]`
and `readFixedBody w n first lanes`.  The ties are proved once per shape, for any numbers; a generated body is an instance
by `rfl`. -/

/-- `byte(a0), byte(a0>>k1), …`: the arguments of `append` -/
def writeFixedArgs (shifts : List Int) : List Expr :=
  .conv (.bv 8 false) (.var "a0") :: shifts.map fun k => .conv (.bv 8 false) (.shr (.var "a0") (.lit .int k))

theorem bytesOf_map {α : Type} (g : α → Byte) (l : List α) :
    bytesOf (l.map fun k => .bv 8 false (g k)) = some (l.map g) := by
  induction l with
  | nil => rfl
  | cons b t ih => ast_eval [List.map_cons, ih]

theorem evalList_shifts (st : St) (env : Env) {w : Nat} (d : BitVec w) (ha : env.lookup "a0" = some (.bv w true d))
    (hw : ¬ w < 8) : ∀ shifts : List Int, (∀ k ∈ shifts, ¬ k < 0) →
    evalList st env (shifts.map fun k => .conv (.bv 8 false) (.shr (.var "a0") (.lit .int k))) =
      .val (shifts.map fun k => .bv 8 false ((d.sshiftRight k.toNat).setWidth 8))
  | [], _ => rfl
  | k :: t, hs => by
    have ih := evalList_shifts st env d ha hw t fun x hx => hs x (List.mem_cons_of_mem _ hx)
    ast_eval [List.map_cons, ha, hw, hs k List.mem_cons_self, ih]

/-- `hw`: `byte(·)` of a value at least a byte wide truncates (no sign extension); `hs`: a negative shift count would panic -/
theorem s_writeFixed_ast {w : Nat} (shifts : List Int) {name : String} {fn : Fn} (hp : fn.params = ["a0"])
    (hb : fn.body = [.appendBuf (writeFixedArgs shifts), .ret [.nil]]) (hw : ¬ w < 8) (hs : ∀ k ∈ shifts, ¬ k < 0)
    (d : BitVec w) (st : St) (fuel : Nat) (hf : 3 ≤ fuel) (h : table name = some fn := by tbl_lookup) :
    run table name fuel [.bv w true d] st = some (writeOut st (Got.Model.Codec.writeFixed shifts d)) := by
  refine (run_table 3 hf _ _ (by rw [hp]; rfl) h).trans ?_
  rw [hp, hb]
  unfold writeFixedArgs Got.Model.Codec.writeFixed
  ast_eval [hw, evalList_shifts st [("a0", Val.bv w true d)] d rfl hw shifts hs, bytesOf_map]
  rfl

theorem s_writeInt16_ast (d : BitVec 16) (st : St) (fuel : Nat) (hf : 3 ≤ fuel) :
    run table "OctetsStream.WriteInt16" fuel [.bv 16 true d] st = some (writeOut st (writeInt16 d)) :=
  s_writeFixed_ast _ (fn := OctetsStream_WriteInt16) rfl rfl (by decide) (by decide) d st fuel hf

theorem s_writeInt32_ast (d : BitVec 32) (st : St) (fuel : Nat) (hf : 3 ≤ fuel) :
    run table "OctetsStream.WriteInt32" fuel [.bv 32 true d] st = some (writeOut st (writeInt32 d)) :=
  s_writeFixed_ast _ (fn := OctetsStream_WriteInt32) rfl rfl (by decide) (by decide) d st fuel hf

theorem s_writeInt64_ast (d : BitVec 64) (st : St) (fuel : Nat) (hf : 3 ≤ fuel) :
    run table "OctetsStream.WriteInt64" fuel [.bv 64 true d] st = some (writeOut st (writeInt64 d)) :=
  s_writeFixed_ast _ (fn := OctetsStream_WriteInt64) rfl rfl (by decide) (by decide) d st fuel hf

/-- `T(v0[first]) | T(v0[i1])<<k1 | …`, left associated as go/ast parses it -/
def laneExpr (w first : Nat) (lanes : List (Nat × Nat)) : Expr :=
  lanes.foldl (fun acc ik => .or acc (.shl (.conv (.bv w true) (.index (.var "v0") (.lit .int ik.1))) (.lit .int ik.2)))
    (.conv (.bv w true) (.index (.var "v0") (.lit .int first)))

/-- ReadInt16/32/64 with `readSize = n` -/
def readFixedBody (w n first : Nat) (lanes : List (Nat × Nat)) : List Stmt :=
  [.ite (.lt (.len .buf) (.add .pos (.lit .int n))) [.ret [.lit (.bv w true) 0, .errc .NotEnoughData]] [],
   .decl "v0" (.sliceFrom .buf .pos),
   .decl "v1" (laneExpr w first lanes),
   .setPos (.add .pos (.lit .int n)),
   .ret [.var "v1", .nil]]

/-- an out-of-range lane is a Go panic -/
def laneVal {w : Nat} : Option (BitVec w) → EV Val
  | some v => .val (.bv w true v)
  | none => .panic

theorem eval_byteAt (st : St) (env : Env) (b : List Byte) (hv : env.lookup "v0" = some (.bytes b)) (w i : Nat) :
    eval st env (.conv (.bv w true) (.index (.var "v0") (.lit .int i))) = laneVal ((b[i]?).map (·.setWidth w)) := by
  have hn : ¬ ((i : Int) < 0) := by omega
  cases hb : b[i]? <;> ast_eval [hv, hn, hb] <;> rfl

theorem eval_laneExpr (st : St) (env : Env) (b : List Byte) (hv : env.lookup "v0" = some (.bytes b)) (w first : Nat)
    (lanes : List (Nat × Nat)) :
    eval st env (laneExpr w first lanes) = laneVal (Got.Model.Codec.orLanes w b first lanes) := by
  unfold laneExpr Got.Model.Codec.orLanes
  have he := eval_byteAt st env b hv w first
  generalize (b[first]?).map (fun x => x.setWidth w) = acc at he ⊢
  generalize Expr.conv (.bv w true) (.index (.var "v0") (.lit .int first)) = e at he
  induction lanes generalizing e acc with
  | nil => exact he
  | cons ik lanes ih =>
    rw [List.foldl_cons, List.foldl_cons]
    refine ih _ _ ?_
    have hn : ¬ ((ik.2 : Int) < 0) := by omega
    have hl := eval_byteAt st env b hv w ik.1
    -- folded, so that `ast_eval` rewrites the lane's byte with `hl` and does not evaluate it a second time
    generalize Expr.conv (.bv w true) (.index (.var "v0") (.lit .int ik.1)) = x at hl ⊢
    cases acc <;> cases hb : b[ik.1]? <;> rw [hb] at hl <;> ast_eval [he, hl, hn, laneVal]

/-- Where a lane is out of range (`orLanes` is `none`) the model crashes and the term panics: the tie needs no
    `readFixed_total`. -/
theorem s_readFixed_ast (w : Nat) (lits : List Int) {name : String} {fn : Fn} (hp : fn.params = [])
    (hb : fn.body = readFixedBody w (Got.Model.Codec.lit lits 0) (Got.Model.Codec.lit lits 2)
      (Got.Model.Codec.lanesOf (lits.drop 3)))
    (buf : List Byte) (pos a fuel : Nat) (hf : 7 ≤ fuel) (h : table name = some fn := by tbl_lookup) :
    run table name fuel [] ⟨buf, pos, a⟩ =
      some (readOut (.bv w true) (.bv w true 0) ⟨buf, pos, a⟩ (Got.Model.Codec.readFixed w lits buf pos)) := by
  refine (run_table 7 hf _ _ (by rw [hp]; rfl) h).trans ?_
  rw [hp, hb]
  unfold readFixedBody Got.Model.Codec.readFixed
  generalize Got.Model.Codec.lit lits 0 = n
  by_cases hl : pos + n ≤ buf.length
  · have h1 : ¬ ((buf.length : Int) < (pos : Int) + (n : Int)) := by omega
    have h2 : ¬ ((pos : Int) < 0) := by omega
    have h3 : ¬ ((buf.length : Int) < (pos : Int)) := by omega
    simp only [show ¬ pos + n > buf.length by omega, show ¬ pos > buf.length by omega, if_false]
    ast_eval [h1, h2, h3]
    rw [eval_laneExpr _ _ (buf.drop pos) rfl]
    cases Got.Model.Codec.orLanes w (buf.drop pos) _ _ <;> simp only [laneVal, readOut] <;> ast_eval
    simp
  · have h1 : (buf.length : Int) < (pos : Int) + (n : Int) := by omega
    simp only [show pos + n > buf.length by omega, if_true]
    ast_eval [h1]
    simp [readOut, cv]

theorem s_readInt16_ast (buf : List Byte) (pos a : Nat) (fuel : Nat) (hf : 7 ≤ fuel) :
    run table "OctetsStream.ReadInt16" fuel [] ⟨buf, pos, a⟩ =
      some (readOut (.bv 16 true) (.bv 16 true 0) ⟨buf, pos, a⟩ (readInt16 buf pos)) :=
  s_readFixed_ast 16 _ (fn := OctetsStream_ReadInt16) rfl rfl buf pos a fuel hf

theorem s_readInt32_ast (buf : List Byte) (pos a : Nat) (fuel : Nat) (hf : 7 ≤ fuel) :
    run table "OctetsStream.ReadInt32" fuel [] ⟨buf, pos, a⟩ =
      some (readOut (.bv 32 true) (.bv 32 true 0) ⟨buf, pos, a⟩ (readInt32 buf pos)) :=
  s_readFixed_ast 32 _ (fn := OctetsStream_ReadInt32) rfl rfl buf pos a fuel hf

theorem s_readInt64_ast (buf : List Byte) (pos a : Nat) (fuel : Nat) (hf : 7 ≤ fuel) :
    run table "OctetsStream.ReadInt64" fuel [] ⟨buf, pos, a⟩ =
      some (readOut (.bv 64 true) (.bv 64 true 0) ⟨buf, pos, a⟩ (readInt64 buf pos)) :=
  s_readFixed_ast 64 _ (fn := OctetsStream_ReadInt64) rfl rfl buf pos a fuel hf

theorem s_write_ast (data : List Byte) (st : St) (fuel : Nat) (hf : 5 ≤ fuel) :
    run table "OctetsStream.Write" fuel [.bytes data] st =
      some (.ret [.err none] [some data] { st with buffer := st.buffer ++ writeRaw data }) := by
  rw [Got.Lemmas.Codec.writeRaw_eq]
  refine (run_table (fn := OctetsStream_Write) 5 hf _ _ rfl).trans ?_
  simp only [OctetsStream_Write]
  cases data with
  | nil => ast_eval [Int.natCast_zero, Int.lt_irrefl, List.append_nil]
  | cons b t =>
    have h : (0 : Int) < ((t.length : Int) + 1) := by omega
    ast_eval [h, Int.natCast_add, Int.cast_ofNat_Int]

theorem s_readByte_ast (buf : List Byte) (pos a : Nat) (fuel : Nat) (hf : 5 ≤ fuel) :
    run table "OctetsStream.ReadByte" fuel [] ⟨buf, pos, a⟩ =
      some (readOut (.bv 8 false) (.bv 8 false 0) ⟨buf, pos, a⟩ (readByte buf pos)) := by
  refine (run_table (fn := OctetsStream_ReadByte) 5 hf _ _ rfl).trans ?_
  simp only [OctetsStream_ReadByte]
  by_cases h : pos < buf.length
  · rw [Got.Lemmas.Codec.readByte_lt buf pos h]
    have h1 : ¬ ((buf.length : Int) ≤ (pos : Int)) := by omega
    have e0 : buf[pos]? = some buf[pos] := List.getElem?_eq_getElem h
    have hn : ¬ ((pos : Int) < 0) := by omega
    ast_eval [h1, e0, hn]
    simp [readOut]
  · rw [Got.Lemmas.Codec.readByte_ge buf pos (by omega)]
    have h1 : (buf.length : Int) ≤ (pos : Int) := by omega
    ast_eval [h1]
    simp [readOut, cv]

theorem s_readBool_ast (buf : List Byte) (pos a : Nat) (fuel : Nat) (hf : 8 ≤ fuel) :
    run table "OctetsStream.ReadBool" fuel [] ⟨buf, pos, a⟩ =
      some (readOut .bool (.bool false) ⟨buf, pos, a⟩ (readBool buf pos)) := by
  refine (run_table (fn := OctetsStream_ReadBool) 8 hf _ _ rfl).trans ?_
  simp only [OctetsStream_ReadBool]
  rw [exec_call (vs := []) (h := rfl), s_readByte_ast buf pos a (fuel - 8 + 7) (by omega)]
  by_cases h : pos < buf.length
  · rw [Got.Lemmas.Codec.readByte_lt buf pos h, Got.Lemmas.Codec.readBool_lt buf pos h]
    simp only [readOut]
    ast_eval
    simp [← Bool.beq_eq_decide_eq]
  · rw [Got.Lemmas.Codec.readByte_ge buf pos (by omega), Got.Lemmas.Codec.readBool_ge buf pos (by omega)]
    simp only [readOut]
    ast_eval
    simp [cv]

/-! The delegating methods of OctetsWriter / OctetsReader (`return my.stream.X(…)`) take two more units of fuel than the
stream method: one for the call, one for the `return`. -/

theorem writer_wrap {name callee : String} {fn : Fn} (hp : fn.params = ["a0"])
    (hb : fn.body = [.call ["r0"] callee [.var "a0"], .ret [.var "r0"]]) (v : Val) (st : St) (bs : List Byte)
    (n fuel : Nat) (hf : n + 2 ≤ fuel) (hv : outsOf [("a0", v)] ["a0"] = [none])
    (hc : ∀ f, n ≤ f → run table callee f [v] st = some (writeOut st bs)) (h : table name = some fn := by tbl_lookup) :
    run table name fuel [v] st = some (writeOut st bs) := by
  obtain ⟨g, rfl⟩ : ∃ g, fuel = g + 2 := ⟨fuel - 2, by omega⟩
  rw [run_eq h _ _ _ (by rw [hp]; rfl), hp, hb, exec_call (vs := [v]) (h := by ast_eval), hc _ (by omega)]
  simp only [writeOut]
  ast_eval
  exact congrArg (Out.ret _ · _) hv

theorem reader_wrap {α : Type} {name callee : String} {fn : Fn} (hp : fn.params = [])
    (hb : fn.body = [.call ["r0", "r1"] callee [], .ret [.var "r0", .var "r1"]]) (enc : α → Val) (zero : Val) (st : St)
    (r : Got.Model.Codec.Res α) (n fuel : Nat) (hf : n + 2 ≤ fuel)
    (hc : ∀ f, n ≤ f → run table callee f [] st = some (readOut enc zero st r)) (h : table name = some fn := by tbl_lookup) :
    run table name fuel [] st = some (readOut enc zero st r) := by
  obtain ⟨g, rfl⟩ : ∃ g, fuel = g + 2 := ⟨fuel - 2, by omega⟩
  rw [run_eq h _ _ _ (by rw [hp]; rfl), hp, hb, exec_call (vs := []) (h := rfl), hc _ (by omega)]
  unfold readOut
  cases r.out <;> ast_eval

theorem r_readByte_ast (buf : List Byte) (pos a : Nat) (fuel : Nat) (hf : 7 ≤ fuel) :
    run table "OctetsReader.ReadByte" fuel [] ⟨buf, pos, a⟩ =
      some (readOut (.bv 8 false) (.bv 8 false 0) ⟨buf, pos, a⟩ (readByte buf pos)) :=
  reader_wrap (fn := OctetsReader_ReadByte) rfl rfl _ _ _ _ 5 fuel hf (s_readByte_ast buf pos a)

theorem r_readBool_ast (buf : List Byte) (pos a : Nat) (fuel : Nat) (hf : 10 ≤ fuel) :
    run table "OctetsReader.ReadBool" fuel [] ⟨buf, pos, a⟩ =
      some (readOut .bool (.bool false) ⟨buf, pos, a⟩ (readBool buf pos)) :=
  reader_wrap (fn := OctetsReader_ReadBool) rfl rfl _ _ _ _ 8 fuel hf (s_readBool_ast buf pos a)

theorem r_readInt16_ast (buf : List Byte) (pos a : Nat) (fuel : Nat) (hf : 9 ≤ fuel) :
    run table "OctetsReader.ReadInt16" fuel [] ⟨buf, pos, a⟩ =
      some (readOut (.bv 16 true) (.bv 16 true 0) ⟨buf, pos, a⟩ (readInt16 buf pos)) :=
  reader_wrap (fn := OctetsReader_ReadInt16) rfl rfl _ _ _ _ 7 fuel hf (s_readInt16_ast buf pos a)

theorem r_readInt32_ast (buf : List Byte) (pos a : Nat) (fuel : Nat) (hf : 9 ≤ fuel) :
    run table "OctetsReader.ReadInt32" fuel [] ⟨buf, pos, a⟩ =
      some (readOut (.bv 32 true) (.bv 32 true 0) ⟨buf, pos, a⟩ (readInt32 buf pos)) :=
  reader_wrap (fn := OctetsReader_ReadInt32) rfl rfl _ _ _ _ 7 fuel hf (s_readInt32_ast buf pos a)

theorem r_readInt64_ast (buf : List Byte) (pos a : Nat) (fuel : Nat) (hf : 9 ≤ fuel) :
    run table "OctetsReader.ReadInt64" fuel [] ⟨buf, pos, a⟩ =
      some (readOut (.bv 64 true) (.bv 64 true 0) ⟨buf, pos, a⟩ (readInt64 buf pos)) :=
  reader_wrap (fn := OctetsReader_ReadInt64) rfl rfl _ _ _ _ 7 fuel hf (s_readInt64_ast buf pos a)

end Got.Lemmas.CodecAst
