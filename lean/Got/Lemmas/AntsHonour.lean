import Got.Lemmas.AntsTime
import Got.Lemmas.AntsQueues
/- ants model: if every handler honours cancellation (`AllHon`) and N ≥ 1, no closure-send waits across a clock step
   (`no_stall`, a pigeonhole on the N inner-worker slots); so the executions under maximal progress with honouring
   handlers (`runH`) are executions `runMP` of AntsTime.lean for every task (C08_bound_honour) -/
namespace Got.Model.Ants

def honourAct : Act → Bool
  | .wStart _ _ hon => hon
  | _ => true

def AllHon (s : State) : Prop := ∀ k a w, ((s.task k).at_ a).pc ≠ .running w false

theorem tstep_hon {c : Cfg} {now qlen : Nat} {t t' : Task} {act : Act} (ha : honourAct act = true) (ok : TaskOK t)
    (hh : ∀ a w, (t.at_ a).pc ≠ .running w false) (h : TStep c now qlen t act t') (b w : Nat) :
    (t'.at_ b).pc ≠ .running w false := by
  rcases tstep_cpc ok h b with e | ⟨k, m, _⟩
  · rw [e]; exact hh b w
  · generalize (t.at_ b).pc = p, (t'.at_ b).pc = p' at m
    cases m
    case wStart => cases (show _ = true from ha); exact nofun
    all_goals exact nofun

theorem allHon_step {c : Cfg} {s s2 : State} {act : Act} (ha : honourAct act = true) (hinv : Inv s) (hh : AllHon s)
    (h : step c s act = some s2) : AllHon s2 := by
  intro k a w
  rcases step_task_cases h k with e | ⟨rfl, hT⟩
  · rw [e]; exact hh k a w
  · exact tstep_hon ha (hinv _) (hh _) hT a w

/-- the invariants that `no_stall` reads, kept along `runH`: those of `Live` (AntsLive.lean) with `AllHon` for `LiveInv` -/
structure AllInv (c : Cfg) (s : State) : Prop where
  inv : Inv s
  slots : SlotInv c s
  queues : QueueInv s
  supp : Supp s
  tasks : TasksInv s
  disp : dispatching s ≤ c.N
  hon : AllHon s

theorem busy_slot {c : Cfg} {s : State} (hi : AllInv c s) (hqu : quiescent c s = true) {w kw aw : Nat}
    (hs : s.slot w = some (kw, aw)) :
    kw ∈ s.tasks ∧ (s.task kw).pc.dispatching = true ∧ ((s.task kw).at_ (s.task kw).cur).pc.slot? = some w := by
  have hb := hi.slots.back w kw aw hs
  have hne : ((s.task kw).at_ aw).pc ≠ .none := by intro h; rw [h] at hb; cases hb
  have hk := mem_of_cl hi.supp hne
  have ok := hi.inv kw
  have hlt := lt_of_pc ok rfl hne
  -- the closure is inside its handler: in every other stage its worker could take a step
  have hbusy := (quiescent_stuck hi.inv hi.supp hqu).busy kw aw
  have hrun : ∃ w', ((s.task kw).at_ aw).pc = .running w' true := by
    generalize hpc : ((s.task kw).at_ aw).pc = p at hb hbusy
    cases p <;> first | (cases hb; done) | (cases hbusy; done) | skip
    rename_i w' hon
    cases hon
    · exact absurd hpc (hi.hon kw aw w')
    · exact ⟨w', rfl⟩
  obtain ⟨w', hpc⟩ := hrun
  -- its context is not done (no honouring handler is overdue in a quiescent state)
  have hctx : ((s.task kw).at_ aw).ctxDone = false := by
    simp only [quiescent, Bool.and_eq_true, Bool.not_eq_true'] at hqu
    have := hqu.2
    simp only [overdueHandler, List.any_eq_false] at this
    have := this kw hk
    cases hcd : ((s.task kw).at_ aw).ctxDone
    · rfl
    · exfalso
      apply this
      rw [List.any_eq_true]
      exact ⟨aw, List.mem_range.mpr hlt, by simp [hpc, hcd]⟩
  have hcur : aw + 1 = (s.task kw).att := by
    apply Classical.byContradiction
    intro hn
    have := (ok.past aw (by omega)).2.1
    rw [hctx] at this; cases this
  have hc : (s.task kw).cur = aw := Task.cur_eq hcur
  have hpost : (s.task kw).pc.post = false := by
    cases hp : (s.task kw).pc.post
    · rfl
    · have := ok.ctxd (by omega) hp
      rw [hc, hctx] at this; cases this
  have hpre := ok.not_pre (by omega)
  refine ⟨hk, ?_, hc.symm ▸ hb⟩
  generalize (s.task kw).pc = p at hpost hpre
  cases p <;> first | rfl | (cases hpost; done) | cases hpre

/-- with N ≥ 1 and honouring handlers the clock guard `pc ≠ sendCl` of `runMP` (the hypothesis of C08_bound_partial) holds by
    itself -/
theorem no_stall {c : Cfg} {s : State} (hN : 1 ≤ c.N) (hi : AllInv c s) (hqu : quiescent c s = true) (k : Nat) :
    (s.task k).pc ≠ .sendCl := by
  intro hp
  have hst := quiescent_stuck hi.inv hi.supp hqu
  have hk : k ∈ s.tasks := mem_of_pc hi.supp (by rw [hp]; simp)
  have hA : c.N ≤ s.innerQ.length := Nat.le_of_not_lt fun hlt =>
    hst.not_step rfl (.sendCl (.sendCl ⟨hp, ((hi.inv k).sendCl hp).1⟩) hlt)
  obtain ⟨k1, a1, rest, hq1⟩ : ∃ k1 a1 rest, s.innerQ = (k1, a1) :: rest := by
    cases h : s.innerQ with
    | nil => simp [h] at hA; omega
    | cons p rest => exact ⟨p.1, p.2, rest, rfl⟩
  have hpc1 := hi.queues.iq k1 a1 (by rw [hq1]; simp)
  have hB : ∀ w, w < c.N → ∃ kw aw, s.slot w = some (kw, aw) := by
    intro w hw
    cases hs : s.slot w with
    | some p => exact ⟨p.1, p.2, rfl⟩
    | none => exact absurd (.wTake (.wTake hpc1) hq1 hw hs) (hst.not_step rfl)
  -- pigeonhole on `g`, the slot in which a task's current attempt runs (`N` if in none, as for `k`, whose closure is not sent yet):
  -- `g` takes each of the N + 1 values 0 … N at a task that is being dispatched (the holder of slot `w < N` runs its current
  -- attempt there: `busy_slot`), so N + 1 tasks are being dispatched, against `hi.disp`.
  let g : Nat → Nat := fun x => (((s.task x).at_ (s.task x).cur).pc.slot?).getD c.N
  have hsub : List.range (c.N + 1) ⊆ (s.tasks.filter fun x => (s.task x).pc.dispatching).map g := by
    intro w hw
    rw [List.mem_map]
    by_cases hwN : w = c.N
    · exact ⟨k, List.mem_filter.mpr ⟨hk, by rw [hp]; rfl⟩, by simp only [g, ((hi.inv k).sendCl hp).1]; exact hwN.symm⟩
    · obtain ⟨kw, aw, hs⟩ := hB w (by have := List.mem_range.mp hw; omega)
      obtain ⟨hkw, hd, hsl⟩ := busy_slot hi hqu hs
      exact ⟨kw, List.mem_filter.mpr ⟨hkw, hd⟩, by simp only [g, hsl]; rfl⟩
  have := List.nodup_range.length_le_of_subset hsub
  rw [List.length_range, List.length_map] at this
  exact Nat.not_succ_le_self _ (Nat.le_trans this hi.disp)

def clockH (c : Cfg) (s : State) : Act → Bool
  | .advance _ => quiescent c s
  | a => honourAct a

/-- like `run`, but the clock moves only in quiescent states (which includes: no honouring handler is overdue) and every
    handler invocation honours cancellation (`wStart … hon` with hon = true) -/
def runH (c : Cfg) (s : State) : List Act → Option State
  | [] => some s
  | a :: rest =>
    if clockH c s a then
      match step c s a with
      | none => none
      | some s' => runH c s' rest
    else none

theorem allInv_init (c : Cfg) : AllInv c init :=
  ⟨inv_init, slotInv_init c, queueInv_init, supp_init, tasksInv_init, by simp [dispatching, init],
    by intro k a w; simp [init]⟩

theorem allInv_step {c : Cfg} (hc : c.old = false) {s s2 : State} {act : Act} (ha : honourAct act = true)
    (hi : AllInv c s) (h : step c s act = some s2) : AllInv c s2 :=
  ⟨inv_step hc hi.inv h, slotInv_step hi.inv hi.slots h, queueInv_step hi.inv hi.queues h, supp_step hi.supp h,
    tasksInv_step hi.tasks h, disp_step hi.tasks hi.disp h, allHon_step ha hi.inv hi.hon h⟩

theorem runH_runMP {c : Cfg} (hc : c.old = false) (hN : 1 ≤ c.N) (k : Nat) {acts : List Act} {s s2 : State}
    (hi : AllInv c s) (h : runH c s acts = some s2) : runMP c k s acts = some s2 := by
  induction acts generalizing s with
  | nil => simpa [runH, runMP] using h
  | cons a rest ih =>
    simp only [runH] at h
    split at h
    · rename_i hg
      split at h
      · cases h
      · rename_i s1 hst
        have hha : honourAct a = true := by cases a <;> first | rfl | exact hg
        have hck : clockOK c k s a = true := by
          cases a <;> first | rfl | skip
          have hq : quiescent c s = true := hg
          simp only [clockOK, hq, Bool.true_and, decide_eq_true_eq]
          exact no_stall hN hi hq k
        simp only [runMP, hck, ↓reduceIte, hst]
        exact ih (allInv_step hc hha hi hst) h
    · cases h

end Got.Model.Ants
