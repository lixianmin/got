import Got.Model.MiniGoSort
/-
What the local variables of a translated function hold, as one fact.  The translator numbers the variables of a function
`0, 1, 2, …` and the interpreter's environment is an array indexed by that number, so "variable `i` holds `vs[i]`" with `vs`
a literal list (slots a lemma does not care about left as variables) says at once what a fragment reads (a lookup in the
literal), what it assigns (`List.set` on the literal, which unification computes) and what it leaves alone.
-/
namespace Got.Model.MiniGoSort

def Frame (vs : List Int) (env : Env) : Prop := ∀ i v, vs[i]? = some v → env.get i = v

/-- used as `h.get 9 rfl`: the `rfl` looks `v` up in the literal -/
theorem Frame.get {vs : List Int} {env : Env} (h : Frame vs env) (i : Nat) {v : Int} (hv : vs[i]? = some v) :
    env.get i = v :=
  h i v hv

theorem Frame.set {vs : List Int} {env : Env} (h : Frame vs env) (i : Nat) (v : Int) :
    Frame (vs.set i v) (env.set i v) := fun j w hw => by
  rw [Env.get_set]
  by_cases hji : j = i
  · subst hji
    obtain ⟨_, rfl⟩ := List.getElem?_eq_some_iff.1 hw
    rw [if_pos rfl, List.getElem_set_self]
  · rw [if_neg hji]
    exact h j w ((List.getElem?_set_ne (Ne.symm hji)).symm.trans hw)

/-- forgets the temporaries a fragment leaves behind -/
theorem Frame.take {vs : List Int} {env : Env} (h : Frame vs env) (k : Nat) : Frame (vs.take k) env := fun i v hv => by
  rw [List.getElem?_take] at hv
  split at hv
  · exact h i v hv
  · cases hv

theorem Frame.init (args : List Int) (k : Nat) : Frame (args ++ List.replicate k 0) args.toArray := fun i v hv => by
  unfold Env.get
  rw [List.getElem?_toArray]
  rcases Nat.lt_or_ge i args.length with hi | hi
  · rw [List.getElem?_append_left hi] at hv
    rw [hv]
    rfl
  · rw [List.getElem?_append_right hi] at hv
    rw [List.getElem?_eq_none hi]
    exact (List.mem_replicate.1 (List.mem_of_getElem? hv)).2.symm

end Got.Model.MiniGoSort
