import Got.Lemmas.Codec
/-
Readers of the codec model and the per-call invariant of C12.  `Good`, `SeqGood`, `Op.width` and `Op.mayFail` are the words
of the C12 statements; `Bound`, `BytesCase` and `CallSpec` serve the proofs.
-/
namespace Got.Lemmas.Codec
open Got.Model.Codec Got.Facts Got.Spec.Codec

/-- one iteration of `for i := 0; i < 28; i += 7` at shift `i`; `k` = the rest of the function -/
def step7 (buf : List Byte) (i : Nat) (num : BitVec 32) (pos : Nat)
    (k : BitVec 32 → Nat → Res (BitVec 32)) : Res (BitVec 32) :=
  match readByte buf pos with
  | ⟨.ok b, p, _⟩ =>
    if b ≤ 127#8 then ⟨.ok (num ||| ((b &&& 127#8).setWidth 32 <<< i)), p, 0⟩
    else k (num ||| ((b &&& 127#8).setWidth 32 <<< i)) p
  | ⟨.err e, p, _⟩ => ⟨.err e, p, 0⟩
  | ⟨.crash, p, _⟩ => ⟨.crash, p, 0⟩

/-- the code after the loop: fifth byte, must be ≤ 15 -/
def last7 (buf : List Byte) (num : BitVec 32) (pos : Nat) : Res (BitVec 32) :=
  match readByte buf pos with
  | ⟨.ok b, p, _⟩ =>
    if b > 15#8 then ⟨.err .Bad7BitInt, p, 0⟩
    else ⟨.ok (num ||| (b.setWidth 32 <<< 28)), p, 0⟩
  | ⟨.err e, p, _⟩ => ⟨.err e, p, 0⟩
  | ⟨.crash, p, _⟩ => ⟨.crash, p, 0⟩

theorem read7Loop_lt (buf : List Byte) (fuel i : Nat) (num : BitVec 32) (pos : Nat) (h : i < 28) :
    read7Loop buf (fuel + 1) i num pos
      = step7 buf i num pos (fun n p => read7Loop buf fuel (i + 7) n p) := by
  rw [read7Loop]
  -- indices into `r7` (layout at `read7Loop`): 2 = loop bound, 3 = increment, 5 = mask, 6 = continuation test;
  -- 8 = limit of the fifth byte, 10 = its shift
  simp only [show lit r7 2 = 28 from rfl, show lit r7 3 = 7 from rfl, show lit r7 5 = 127 from rfl,
    show lit r7 6 = 127 from rfl, h, if_true, step7]
  rfl

theorem read7Loop_ge (buf : List Byte) (fuel i : Nat) (num : BitVec 32) (pos : Nat) (h : ¬ i < 28) :
    read7Loop buf (fuel + 1) i num pos = last7 buf num pos := by
  rw [read7Loop]
  simp only [show lit r7 2 = 28 from rfl, show lit r7 8 = 15 from rfl, show lit r7 10 = 28 from rfl, h,
    if_false, last7]
  rfl

theorem read7_eq (buf : List Byte) (pos : Nat) : read7 buf pos =
    step7 buf 0 0#32 pos (fun n p => step7 buf 7 n p (fun n p => step7 buf 14 n p (fun n p =>
      step7 buf 21 n p (fun n p => last7 buf n p)))) := by
  show read7Loop buf 64 0 0#32 pos = _   -- 64 = `read7Fuel`
  simp only [read7Loop_lt, read7Loop_ge, Nat.reduceAdd, Nat.reduceLT, Nat.lt_irrefl, not_false_eq_true,
    Nat.zero_add]

/-- `Good` (below) for a prefix decoder that reads at most `j` bytes -/
structure Bound {α : Type} (buf : List Byte) (pos j : Nat) (r : Res α) : Prop where
  nocrash : r.out ≠ .crash
  mono : pos ≤ r.pos
  inb : r.pos ≤ buf.length
  le : r.pos ≤ pos + j
  alloc : r.alloc = 0
  errs : ∀ e, r.out = .err e → e = .NotEnoughData ∨ e = .Bad7BitInt

theorem last7_bound (buf : List Byte) (num : BitVec 32) (pos : Nat) (h : pos ≤ buf.length) :
    Bound buf pos 1 (last7 buf num pos) := by
  unfold last7
  by_cases hl : pos < buf.length
  · rw [readByte_lt buf pos hl]
    dsimp only
    split <;> exact ⟨by simp, Nat.le_add_right _ _, hl, Nat.le_refl _, rfl, by simp⟩
  · rw [readByte_ge buf pos (Nat.le_of_not_lt hl)]
    exact ⟨nofun, Nat.le_refl _, h, Nat.le_add_right _ _, rfl, by simp⟩

theorem step7_bound (buf : List Byte) (i : Nat) (num : BitVec 32) (pos j : Nat)
    (k : BitVec 32 → Nat → Res (BitVec 32)) (h : pos ≤ buf.length)
    (hk : pos + 1 ≤ buf.length → ∀ n, Bound buf (pos + 1) j (k n (pos + 1))) :
    Bound buf pos (j + 1) (step7 buf i num pos k) := by
  unfold step7
  by_cases hl : pos < buf.length
  · rw [readByte_lt buf pos hl]
    dsimp only
    split
    · exact ⟨nofun, Nat.le_add_right _ _, hl, Nat.add_le_add_left (Nat.le_add_left 1 j) pos, rfl, nofun⟩
    · have b := hk hl (num ||| ((buf[pos] &&& 127#8).setWidth 32 <<< i))
      exact ⟨b.nocrash, Nat.le_trans (Nat.le_add_right _ _) b.mono, b.inb,
        by rw [Nat.add_comm j 1, ← Nat.add_assoc]; exact b.le, b.alloc, b.errs⟩
  · rw [readByte_ge buf pos (Nat.le_of_not_lt hl)]
    exact ⟨nofun, Nat.le_refl _, h, Nat.le_add_right _ _, rfl, by simp⟩

theorem read7_bound (buf : List Byte) (pos : Nat) (h : pos ≤ buf.length) :
    Bound buf pos 5 (read7 buf pos) := by
  rw [read7_eq]
  apply step7_bound _ _ _ _ _ _ h
  intro h1 n
  apply step7_bound _ _ _ _ _ _ h1
  intro h2 n
  apply step7_bound _ _ _ _ _ _ h2
  intro h3 n
  apply step7_bound _ _ _ _ _ _ h3
  intro h4 n
  exact last7_bound _ _ _ h4

/-- at the end of the input, or beyond it (which a stream, keeping `pos ≤ len`, never is) -/
theorem read7_beyond (buf : List Byte) (pos : Nat) (h : buf.length ≤ pos) :
    read7 buf pos = ⟨.err .NotEnoughData, pos, 0⟩ := by
  rw [read7_eq]
  unfold step7
  rw [readByte_ge buf pos h]

theorem readByte_of_drop (buf : List Byte) (pos : Nat) (b : Byte) (tl : List Byte)
    (hd : buf.drop pos = b :: tl) : readByte buf pos = ⟨.ok b, pos + 1, 0⟩ := by
  have hlt : pos < buf.length := add_le_length_of_drop_eq hd (by simp) (Nat.le_refl 1)
  rw [List.drop_eq_getElem_cons hlt] at hd
  rw [readByte_lt buf pos hlt, (List.cons.inj hd).1]

theorem step7_of_drop {buf : List Byte} {pos : Nat} {b : Byte} {tl : List Byte} (hd : buf.drop pos = b :: tl)
    (i : Nat) (num : BitVec 32) (k : BitVec 32 → Nat → Res (BitVec 32)) :
    step7 buf i num pos k =
      if b ≤ 127#8 then ⟨.ok (num ||| ((b &&& 127#8).setWidth 32 <<< i)), pos + 1, 0⟩
      else k (num ||| ((b &&& 127#8).setWidth 32 <<< i)) (pos + 1) := by
  unfold step7
  rw [readByte_of_drop buf pos b tl hd]

theorem last7_of_drop {buf : List Byte} {pos : Nat} {b : Byte} {tl : List Byte} (hd : buf.drop pos = b :: tl)
    (num : BitVec 32) :
    last7 buf num pos =
      if b > 15#8 then ⟨.err .Bad7BitInt, pos + 1, 0⟩ else ⟨.ok (num ||| (b.setWidth 32 <<< 28)), pos + 1, 0⟩ := by
  unfold last7
  rw [readByte_of_drop buf pos b tl hd]

theorem drop_succ_of_drop {buf : List Byte} {pos : Nat} {b : Byte} {tl : List Byte} (hd : buf.drop pos = b :: tl) :
    buf.drop (pos + 1) = tl := by
  rw [← List.tail_drop, hd, List.tail_cons]

theorem streamRead_zero (buf : List Byte) (pos : Nat) :
    streamRead buf pos 0 = ⟨.err .InvalidArgument, pos, 0⟩ := by
  simp [streamRead]

theorem streamRead_pos (buf : List Byte) (pos n : Nat) (hn : 0 < n) (h : pos ≤ buf.length) :
    streamRead buf pos n =
      ⟨.ok (min n (buf.length - pos),
            (buf.drop pos).take (min n (buf.length - pos)) ++ List.replicate (n - min n (buf.length - pos)) 0),
        pos + min n (buf.length - pos), 0⟩ := by
  -- with `pos ≤ len` the signed `remain` is the natural number `m = len - pos`
  unfold streamRead
  rw [if_neg (Nat.ne_of_gt hn), ← Int.ofNat_sub h]
  generalize buf.length - pos = m
  have hneg : ∀ k : Nat, ¬ ((k : Int) < 0) := fun k => Int.not_lt.2 (Int.natCast_nonneg k)
  rcases Nat.lt_or_ge m n with hc | hc
  · rcases Nat.eq_zero_or_pos m with rfl | hm
    · simp
    · simp only [Int.natCast_eq_zero, Nat.ne_of_gt hm, if_false, gt_iff_lt, Int.ofNat_lt, hc, if_true, hneg,
        Int.toNat_natCast, Nat.min_eq_right (Nat.le_of_lt hc)]
  · simp only [Int.natCast_eq_zero, Nat.ne_of_gt (Nat.lt_of_lt_of_le hn hc), if_false, gt_iff_lt, Int.ofNat_lt,
      Nat.not_lt.2 hc, hneg, Int.toNat_natCast, Nat.min_eq_left hc]

theorem streamRead_full (buf : List Byte) (pos n : Nat) (hn : 0 < n) (h : pos + n ≤ buf.length) :
    streamRead buf pos n = ⟨.ok (n, (buf.drop pos).take n), pos + n, 0⟩ := by
  rw [streamRead_pos buf pos n hn (Nat.le_trans (Nat.le_add_right _ _) h),
    Nat.min_eq_left (Nat.le_sub_of_add_le' h), Nat.sub_self, List.replicate_zero, List.append_nil]

theorem toInt_of_not_slt_zero (size : BitVec 32) (h : ¬ size.slt 0#32 = true) :
    size.toInt = (size.toNat : Int) :=
  BitVec.toInt_eq_toNat_of_msb (by rwa [BitVec.slt_zero_eq_msb, Bool.not_eq_true] at h)

theorem toInt_neg_of_slt_zero (size : BitVec 32) (h : size.slt 0#32 = true) : size.toInt < 0 := by
  simpa using BitVec.slt_iff_toInt_lt.mp h

/-- the three ways `ReadBytes` can end once the length prefix `size` was decoded and the cursor is at `p`; the early
    return for `size = 0` is `full` with nothing to copy -/
inductive BytesCase (buf : List Byte) (p : Nat) (size : BitVec 32) (r : Res (List Byte)) : Prop where
  | negative (h : size.toInt < 0) (hr : r = ⟨.err .NegativeSize, p, 0⟩)
  | short (hi : size.toInt = size.toNat) (h : buf.length - p < size.toNat) (hr : r = ⟨.err .NotEnoughData, p, 0⟩)
  | full (hi : size.toInt = size.toNat) (h : p + size.toNat ≤ buf.length)
      (hr : r = ⟨.ok ((buf.drop p).take size.toNat), p + size.toNat, size.toNat⟩)

theorem readBytes_char (buf : List Byte) (pos : Nat) (hpos : pos ≤ buf.length) :
    (∃ e p, read7 buf pos = ⟨.err e, p, 0⟩ ∧ readBytes buf pos = ⟨.err e, p, 0⟩) ∨
    (∃ size p, read7 buf pos = ⟨.ok size, p, 0⟩ ∧ BytesCase buf p size (readBytes buf pos)) := by
  have hb := read7_bound buf pos hpos
  unfold readBytes
  rcases hr : read7 buf pos with ⟨o, p, a⟩
  rw [hr] at hb
  have ha : a = 0 := hb.alloc
  subst ha
  cases o with
  | crash => exact absurd rfl hb.nocrash
  | err e => exact Or.inl ⟨e, p, rfl, rfl⟩
  | ok size =>
    refine Or.inr ⟨size, p, rfl, ?_⟩
    have hp : p ≤ buf.length := hb.inb
    dsimp only
    rw [show lit lits_iox_OctetsReader_ReadBytes 0 = 0 from rfl, show lit lits_iox_OctetsReader_ReadBytes 1 = 0 from rfl]
    by_cases hneg : size.slt (BitVec.ofNat 32 0) = true
    · rw [if_pos hneg]
      exact .negative (toInt_neg_of_slt_zero size hneg) rfl
    · rw [if_neg hneg]
      have hi := toInt_of_not_slt_zero size hneg
      by_cases hz : size = BitVec.ofNat 32 0
      · rw [if_pos hz]
        subst hz
        exact .full rfl hp rfl
      · rw [if_neg hz]
        have h0 : 0 < size.toNat := by
          rcases Nat.eq_zero_or_pos size.toNat with h | h
          · exact absurd (BitVec.eq_of_toNat_eq (by simpa using h)) hz
          · exact h
        by_cases hs : size.toInt > (buf.length : Int) - (p : Int)
        · rw [if_pos hs]
          exact .short hi (by omega) rfl
        · rw [if_neg hs]
          have hn : size.toInt.toNat = size.toNat := by omega
          have hfull : p + size.toNat ≤ buf.length := by omega
          rw [hn, streamRead_full buf p size.toNat h0 hfull]
          dsimp only
          rw [if_neg (by simp)]
          exact .full hi hfull rfl

/-- what C12 demands of one read call started at `pos`: no panic, the cursor moves forward and stays within the input, the
    allocation is bounded by the remaining input -/
structure Good {α : Type} (buf : List Byte) (pos : Nat) (r : Res α) : Prop where
  nocrash : r.out ≠ .crash
  mono : pos ≤ r.pos
  inb : r.pos ≤ buf.length
  alloc : r.alloc ≤ buf.length - pos

theorem map_pos {α β : Type} (f : α → β) (r : Res α) : (r.map f).pos = r.pos := by
  unfold Res.map; cases r.out <;> rfl

theorem map_alloc {α β : Type} (f : α → β) (r : Res α) : (r.map f).alloc = r.alloc := by
  unfold Res.map; cases r.out <;> rfl

theorem map_out_ok {α β : Type} (f : α → β) (r : Res α) (w : β) (h : (r.map f).out = .ok w) :
    ∃ v, r.out = .ok v ∧ w = f v := by
  unfold Res.map at h
  cases hr : r.out with
  | ok v => rw [hr] at h; exact ⟨v, rfl, by simpa using h.symm⟩
  | err e => rw [hr] at h; simp at h
  | crash => rw [hr] at h; simp at h

theorem map_out_err {α β : Type} (f : α → β) (r : Res α) (e : Err) : (r.map f).out = .err e ↔ r.out = .err e := by
  unfold Res.map
  cases hr : r.out <;> simp

theorem map_out_crash {α β : Type} (f : α → β) (r : Res α) : (r.map f).out = .crash ↔ r.out = .crash := by
  unfold Res.map
  cases hr : r.out <;> simp

theorem map_map {α β γ : Type} (f : α → β) (g : β → γ) (r : Res α) : (r.map f).map g = r.map (fun x => g (f x)) := by
  unfold Res.map
  cases r.out <;> rfl

theorem Good.map {α β : Type} {buf : List Byte} {pos : Nat} {r : Res α} (f : α → β) (g : Good buf pos r) :
    Good buf pos (r.map f) :=
  ⟨fun h => g.nocrash ((map_out_crash f r).mp h), by rw [map_pos]; exact g.mono, by rw [map_pos]; exact g.inb,
   by rw [map_alloc]; exact g.alloc⟩

def _root_.Got.Model.Codec.Op.width : Op → Option Nat
  | .bool => some 1 | .byte => some 1 | .i16 => some 2 | .i32 => some 4 | .i64 => some 8
  | _ => none

/-- the documented errors each call may return -/
def _root_.Got.Model.Codec.Op.mayFail : Op → Err → Prop
  | .bool, e | .byte, e | .i16, e | .i32, e | .i64, e => e = .NotEnoughData
  | .v7, e => e = .NotEnoughData ∨ e = .Bad7BitInt
  | .bytes, e | .str, e => e = .NotEnoughData ∨ e = .Bad7BitInt ∨ e = .NegativeSize
  | .raw n, e => n = 0 ∧ e = .InvalidArgument

/-- everything C12 says about one call -/
structure CallSpec (buf : List Byte) (pos : Nat) (op : Op) (r : Res Val) : Prop where
  good : Good buf pos r
  errs : ∀ e, r.out = .err e → op.mayFail e
  fixedFail : ∀ w e, op.width = some w → r.out = .err e → r.pos = pos ∧ e = .NotEnoughData ∧ buf.length < pos + w
  fixedOk : ∀ w v, op.width = some w → r.out = .ok v → r.pos = pos + w
  noAllocUnlessBytes : op ≠ .bytes → op ≠ .str → r.alloc = 0

theorem callSpec_of_fixed {γ : Type} {buf : List Byte} {pos : Nat} (op : Op) (w : Nat) {r : Res γ} (h : pos ≤ buf.length)
    (hw : op.width = some w) (hm : op.mayFail .NotEnoughData) (f : γ → Val)
    (hok : pos + w ≤ buf.length → ∃ v, r = ⟨.ok v, pos + w, 0⟩)
    (herr : ¬ pos + w ≤ buf.length → r = ⟨.err .NotEnoughData, pos, 0⟩) : CallSpec buf pos op (r.map f) := by
  by_cases hl : pos + w ≤ buf.length
  · obtain ⟨v, rfl⟩ := hok hl
    show CallSpec buf pos op ⟨.ok (f v), pos + w, 0⟩
    exact ⟨⟨nofun, Nat.le_add_right _ _, hl, Nat.zero_le _⟩, nofun, (fun _ _ _ he => nomatch he),
      fun w' _ hw' _ => by rw [hw] at hw'; cases hw'; rfl, fun _ _ => rfl⟩
  · rw [herr hl]
    show CallSpec buf pos op ⟨.err .NotEnoughData, pos, 0⟩
    exact ⟨⟨nofun, Nat.le_refl _, h, Nat.zero_le _⟩, fun e he => by cases he; exact hm,
      fun w' _ hw' he => by rw [hw] at hw'; cases hw'; cases he; exact ⟨rfl, rfl, by omega⟩,
      (fun _ _ _ ho => nomatch ho), fun _ _ => rfl⟩

theorem readBytes_good (buf : List Byte) (pos : Nat) (h : pos ≤ buf.length) :
    Good buf pos (readBytes buf pos) ∧
      (∀ e, (readBytes buf pos).out = .err e → e = .NotEnoughData ∨ e = .Bad7BitInt ∨ e = .NegativeSize) := by
  have hb := read7_bound buf pos h
  rcases readBytes_char buf pos h with ⟨e, p, h7, hr⟩ | ⟨size, p, h7, hc⟩
  · rw [h7] at hb
    rw [hr]
    refine ⟨⟨by simp, hb.mono, hb.inb, by simp⟩, fun e' he' => ?_⟩
    cases he'
    exact (hb.errs e rfl).imp_right Or.inl
  · rw [h7] at hb
    have hm : pos ≤ p := hb.mono
    have hi : p ≤ buf.length := hb.inb
    cases hc with
    | negative _ hr | short _ _ hr => rw [hr]; exact ⟨⟨by simp, hm, hi, Nat.zero_le _⟩, by simp⟩
    | full _ hf hr =>
      rw [hr]
      exact ⟨⟨nofun, Nat.le_trans hm (Nat.le_add_right _ _), hf,
        Nat.le_sub_of_add_le' (Nat.le_trans (Nat.add_le_add_right hm _) hf)⟩, nofun⟩

theorem callSpec_of_good {α : Type} {buf : List Byte} {pos : Nat} {op : Op} {r : Res α} (hw : op.width = none)
    (f : α → Val) (g : Good buf pos r) (he : ∀ e, r.out = .err e → op.mayFail e)
    (ha : op ≠ .bytes → op ≠ .str → r.alloc = 0) : CallSpec buf pos op (r.map f) :=
  ⟨g.map f, fun e h => he e ((map_out_err f r e).mp h), (fun _ _ h => nomatch hw.symm.trans h),
    (fun _ _ h => nomatch hw.symm.trans h), fun h1 h2 => (map_alloc f r).trans (ha h1 h2)⟩

theorem read1_spec (buf : List Byte) (pos : Nat) (op : Op) (h : pos ≤ buf.length) :
    CallSpec buf pos op (read1 buf pos op) := by
  cases op with
  | bool =>
    exact callSpec_of_fixed .bool 1 h rfl rfl Val.bool (fun hl => ⟨_, readBool_lt buf pos (by omega)⟩)
      fun hl => readBool_ge buf pos (by omega)
  | byte =>
    exact callSpec_of_fixed .byte 1 h rfl rfl Val.byte (fun hl => ⟨_, readByte_lt buf pos (by omega)⟩)
      fun hl => readByte_ge buf pos (by omega)
  | i16 =>
    exact callSpec_of_fixed .i16 2 h rfl rfl Val.i16
      (fun hl => readFixed_total 16 _ buf pos hl (by decide) (by decide))
      (readFixed_err 16 lits_iox_OctetsStream_ReadInt16 buf pos)
  | i32 =>
    exact callSpec_of_fixed .i32 4 h rfl rfl Val.i32
      (fun hl => readFixed_total 32 _ buf pos hl (by decide) (by decide))
      (readFixed_err 32 lits_iox_OctetsStream_ReadInt32 buf pos)
  | i64 =>
    exact callSpec_of_fixed .i64 8 h rfl rfl Val.i64
      (fun hl => readFixed_total 64 _ buf pos hl (by decide) (by decide))
      (readFixed_err 64 lits_iox_OctetsStream_ReadInt64 buf pos)
  | v7 =>
    have hb := read7_bound buf pos h
    exact callSpec_of_good rfl Val.v7 ⟨hb.nocrash, hb.mono, hb.inb, by rw [hb.alloc]; omega⟩ hb.errs
      fun _ _ => hb.alloc
  | bytes =>
    obtain ⟨g, he⟩ := readBytes_good buf pos h
    exact callSpec_of_good rfl Val.bytes g he fun hne => absurd rfl hne
  | str =>
    obtain ⟨g, he⟩ := readBytes_good buf pos h
    exact callSpec_of_good rfl Val.str g he fun _ hne => absurd rfl hne
  | raw n =>
    rcases Nat.eq_zero_or_pos n with hn | hn
    · refine callSpec_of_good (r := streamRead buf pos n) rfl _ ?_ ?_ ?_ <;> rw [hn, streamRead_zero]
      · exact ⟨nofun, Nat.le_refl _, h, Nat.zero_le _⟩
      · exact fun e he => ⟨rfl, by cases he; rfl⟩
      · exact fun _ _ => rfl
    · refine callSpec_of_good (r := streamRead buf pos n) rfl _ ?_ ?_ ?_ <;> rw [streamRead_pos buf pos n hn h]
      · exact ⟨nofun, Nat.le_add_right _ _, by show pos + _ ≤ _; omega, Nat.zero_le _⟩
      · exact nofun
      · exact fun _ _ => rfl

def SeqGood (buf : List Byte) : Nat → List (Res Val) → Prop
  | _, [] => True
  | pos, r :: rs => Good buf pos r ∧ SeqGood buf r.pos rs

theorem SeqGood.mem {buf : List Byte} {rs : List (Res Val)} {pos : Nat} (h : SeqGood buf pos rs) {r : Res Val}
    (hr : r ∈ rs) : ∃ p, pos ≤ p ∧ Good buf p r := by
  induction rs generalizing pos with
  | nil => cases hr
  | cons r' rs ih =>
    rcases List.mem_cons.mp hr with rfl | hr
    · exact ⟨pos, Nat.le_refl _, h.1⟩
    · obtain ⟨p, hp, g⟩ := ih h.2 hr
      exact ⟨p, Nat.le_trans h.1.mono hp, g⟩

/-- ReadBytes as it was before commit ca8102a (`make([]byte, size)` before looking at the remaining input);
    kept only to document the defect -/
def readBytesOld (buf : List Byte) (pos : Nat) : Res (List Byte) :=
  match read7 buf pos with
  | ⟨.err e, p, _⟩ => ⟨.err e, p, 0⟩
  | ⟨.crash, p, _⟩ => ⟨.crash, p, 0⟩
  | ⟨.ok size, p, _⟩ =>
    if size.slt 0#32 then ⟨.err .NegativeSize, p, 0⟩
    else if size = 0#32 then ⟨.ok [], p, 0⟩
    else
      let n := size.toInt.toNat
      match streamRead buf p n with
      | ⟨.err e, p', _⟩ => ⟨.err e, p', n⟩
      | ⟨.crash, p', _⟩ => ⟨.crash, p', n⟩
      | ⟨.ok (num, data), p', _⟩ =>
        if BitVec.ofNat 32 num ≠ size then ⟨.err .NotEnoughData, p', n⟩
        else ⟨.ok data, p', n⟩

end Got.Lemmas.Codec
