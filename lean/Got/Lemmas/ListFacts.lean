/-
Lookups in lists, in the one-directional forms the invariants use (core states them as equivalences), also in a list
grown by one element at its end; `Nodup` of such a list and injectivity read off `Nodup`; sums of natural numbers under a
pointwise bound.
-/
namespace List

variable {α β : Type}

theorem lt_length_of_getElem? {l : List α} {i : Nat} {x : α} (h : l[i]? = some x) : i < l.length :=
  (getElem?_eq_some_iff.mp h).1

theorem getElem?_append_some {l ext : List α} {i : Nat} {x : α} (h : l[i]? = some x) : (l ++ ext)[i]? = some x := by
  rw [getElem?_append_left (lt_length_of_getElem? h)]; exact h

theorem getElem?_snoc {l : List α} {x e : α} {i : Nat} (h : (l ++ [x])[i]? = some e) :
    l[i]? = some e ∨ (i = l.length ∧ e = x) := by
  rw [getElem?_append] at h
  split at h
  · exact .inl h
  · rw [getElem?_singleton] at h
    split at h
    · exact .inr ⟨by omega, (Option.some.inj h).symm⟩
    · cases h

theorem Nodup.snoc {l : List α} {x : α} (h : l.Nodup) (hx : x ∉ l) : (l ++ [x]).Nodup :=
  (perm_append_singleton x l).nodup_iff.mpr (nodup_cons.mpr ⟨hx, h⟩)

theorem Nodup.idx_eq {l : List α} (hn : l.Nodup) {i j : Nat} {x : α} (hi : l[i]? = some x) (hj : l[j]? = some x) :
    i = j :=
  (getElem?_inj (lt_length_of_getElem? hi) hn).mp (hi.trans hj.symm)

theorem Nodup.inj_of_map {f : α → β} {l : List α} (hn : (l.map f).Nodup) {a b : α} (ha : a ∈ l) (hb : b ∈ l)
    (e : f a = f b) : a = b :=
  have hp := pairwise_map.1 hn
  Pairwise.forall_of_forall_of_flip (R := fun a b => f a = f b → a = b) (fun _ _ _ => rfl)
    (hp.imp fun h e => absurd e h) (hp.imp fun h e => absurd e.symm h) ha hb e

/-- the sums compare, with the slack `f a - g a` of any one element to spare -/
theorem sum_map_le_at {l : List α} {f g : α → Nat} (hle : ∀ x ∈ l, g x ≤ f x) :
    (l.map g).sum ≤ (l.map f).sum ∧ ∀ a ∈ l, (l.map g).sum + f a ≤ (l.map f).sum + g a := by
  induction l with
  | nil => exact ⟨Nat.le_refl _, nofun⟩
  | cons x xs ih =>
    have ⟨ih1, ih2⟩ := ih fun y hy => hle y (mem_cons_of_mem _ hy)
    have hx := hle x mem_cons_self
    simp only [map_cons, sum_cons]
    refine ⟨by omega, fun a ha => ?_⟩
    rcases mem_cons.1 ha with rfl | ha
    · omega
    · have := ih2 a ha; omega

theorem sum_map_lt {l : List α} {f g : α → Nat} (hle : ∀ x ∈ l, g x ≤ f x) {a : α} (ha : a ∈ l) (hlt : g a < f a) :
    (l.map g).sum < (l.map f).sum := by
  have := (sum_map_le_at hle).2 a ha; omega

end List
