import Got.Model.MSQueueGen
import Got.Lemmas.AtomicIRSem
import Got.Lemmas.MSQueueInv
/-
Translator tie for loom.Queue (C01/C02): the labelled transition system that the generic semantics of Got/Model/AtomicIR.lean
gives to the per-thread programs `push`/`pop` that tools/srcfacts re-translates from /repo/loom/queue.go on every run
(Got/Generated/AstLoomQueue.lean) coincides, step for step, with the non-ghost part of the hand-written model
Got/Model/MSQueue.lean, under the mapping `conf` from the hand-written program counters (yield point + live locals) to IR
configurations (continuation + locals). `aux t` supplies the one local of thread `t` that is dead in the hand-written pc but
still in scope in the source (the parameter `v` of Push after the allocation; `tail` of Pop after the `head == tail` test failed).
-/
namespace Got.Lemmas.MSQueueAst
open Got.Model.AtomicIR Got.Generated.AstLoomQueue Got.Spec.Lin Got.Model.MSQueueGen
open Got.Model.MSQueue (State Pc Heap tau ThStep swing lift step_spec)


def loopOf : List Stmt → List Stmt
  | [.loop b] => b
  | [_, .loop b] => b
  | _ => []
def thenOf : Option Stmt → List Stmt
  | some (.ite _ t _) => t
  | _ => []
def elseOf : Option Stmt → List Stmt
  | some (.ite _ _ e) => e
  | _ => []

def pushB : List Stmt := loopOf push.body
def pushTail : List Item := [.pop 2, .loopEnd pushB]
def pushT1 : List Stmt := thenOf pushB[2]?
def pushT2 : List Stmt := thenOf pushT1[0]?
def pushE2 : List Stmt := elseOf pushT1[0]?
def pushT3 : List Stmt := thenOf pushT2[0]?
def popB : List Stmt := loopOf pop.body
def popTail : List Item := [.pop 0, .loopEnd popB]
def popT1 : List Stmt := thenOf popB[3]?
def popT2 : List Stmt := thenOf popT1[0]?
def popE2 : List Stmt := elseOf popT1[0]?

def ctl (l : List Stmt) (k : List Item) : List Item := l.map .stmt ++ k

/- `conf x p` = the configuration of a thread parked at `p` (`x`: the local that `p` does not carry), read off the generated
   bodies and to be re-read when they change: `l.drop i`, `thenOf l[i]?` = the statements from the one in front of which the
   thread parks; every `.pop k` closes an enclosing block, `k` = the number of locals at its entry (pushed by
   `AtomicIR.enter` for the loop: 2 in Push, `v` and the new node, 0 in Pop; by `.ite` for the `if`s: 4 resp. 3). -/
def conf (x : Nat) : Pc → Config
  | .idle => .idle
  | .crash => .crash
  | .p1 n => .run (ctl pushB pushTail) [.data x, .ptr (some n)] [.data x]
  | .p2 n tl => .run (ctl (pushB.drop 1) pushTail) [.data x, .ptr (some n), .ptr (some tl)] [.data x]
  | .p3 n tl nx => .run (ctl (pushB.drop 2) pushTail) [.data x, .ptr (some n), .ptr (some tl), .ptr nx] [.data x]
  | .p4 n tl => .run (ctl pushT2 (.pop 4 :: .pop 4 :: pushTail)) [.data x, .ptr (some n), .ptr (some tl), .ptr none] [.data x]
  | .p4h n tl y => .run (ctl pushE2 (.pop 4 :: .pop 4 :: pushTail)) [.data x, .ptr (some n), .ptr (some tl), .ptr (some y)] [.data x]
  | .p5 n tl => .run (ctl pushT3 (.pop 4 :: .pop 4 :: .pop 4 :: pushTail)) [.data x, .ptr (some n), .ptr (some tl), .ptr none] [.data x]
  | .d1 => .run (ctl popB popTail) [] []
  | .d2 hd => .run (ctl (popB.drop 1) popTail) [.ptr (some hd)] []
  | .d3 hd tl => .run (ctl (popB.drop 2) popTail) [.ptr (some hd), .ptr (some tl)] []
  | .d4 hd tl nx => .run (ctl (popB.drop 3) popTail) [.ptr (some hd), .ptr (some tl), .ptr nx] []
  | .d5h hd tl y => .run (ctl (popT2.drop 1) (.pop 3 :: .pop 3 :: popTail)) [.ptr (some hd), .ptr (some tl), .ptr (some y)] []
  | .d5 hd y v => .run (ctl (popE2.drop 1) (.pop 3 :: .pop 3 :: popTail)) [.ptr (some hd), .ptr (some x), .ptr (some y), .data v] []

/- the fields of `Mem` in their order; the queue uses the first five (`val`, `next`, `nalloc`, `head`, `tail`), the others belong to the
   wheel and the atomics and keep their initial values. -/
def memOf (s : State) : Mem := ⟨s.val, s.next, s.nalloc, some s.head, some s.tail, 0, 0, 0, fun _ => none, 0, fun _ => false, false⟩

def hev : HEv → Nat × Ev
  | .inv t (.push v) => (t, .inv 0 [.data v])
  | .inv t .pop => (t, .inv 1 [])
  | .ret t .ack => (t, .ret none)
  | .ret t (.val none) => (t, .ret (some (.ptr none)))
  | .ret t (.val (some v)) => (t, .ret (some (.data v)))

def concState (s : State) (aux : Nat → Nat) : GState :=
  { mem := memOf s, conf := fun t => conf (aux t) (s.pc t), hist := (history s.log).map hev }

theorem conf_idle_iff (x : Nat) (p : Pc) : conf x p = .idle ↔ p = .idle := by
  cases p <;> simp [conf]

theorem conf_crash_iff (x : Nat) (p : Pc) : conf x p = .crash ↔ p = .crash := by
  cases p <;> simp [conf]

theorem conf_ne_stuck (x : Nat) (p : Pc) : conf x p ≠ .stuck := by
  cases p <;> simp [conf]

theorem concState_idle_iff (s : State) (aux : Nat → Nat) (t : Nat) :
    isIdle ((concState s aux).conf t) = true ↔ s.pc t = .idle := by
  rw [← conf_idle_iff (aux t) (s.pc t)]
  show isIdle (conf (aux t) (s.pc t)) = true ↔ _
  cases conf (aux t) (s.pc t) <;> simp [isIdle]

def auxTau (s : State) (aux : Nat → Nat) (t : Nat) : Nat → Nat :=
  match s.pc t with
  | .d4 _ tl _ => Got.Spec.Lin.upd aux t tl
  | _ => aux

/-- `memOf` of a heap. -/
def memH (h : Heap) : Mem := ⟨h.val, h.next, h.nalloc, some h.head, some h.tail, 0, 0, 0, fun _ => none, 0, fun _ => false, false⟩

/-- the local that the pc reached from `p` does not carry: what `auxTau` stores for the thread, as a function of the pc alone. -/
def auxPc (x : Nat) : Pc → Nat
  | .d4 _ tl _ => tl
  | _ => x

theorem auxTau_eq (s : State) (aux : Nat → Nat) (t : Nat) :
    auxTau s aux t = Got.Spec.Lin.upd aux t (auxPc (aux t) (s.pc t)) := by
  unfold auxTau
  cases s.pc t <;> first | rfl | exact (upd_self aux t).symm

theorem concState_lift (s : State) (aux : Nat → Nat) (t x' : Nat) (o : Out) {h' : Heap} {p' : Pc} {evs : List LEv}
    (ievs : List (Nat × Ev))
    (h : o.mem = memH h' ∧ o.conf = conf x' p' ∧ (history evs).map hev = ievs ++ retEvs t o.ret) :
    GState.apply { concState s aux with hist := (concState s aux).hist ++ ievs } t o =
      concState (lift s t h' p' evs) (Got.Spec.Lin.upd aux t x') := by
  obtain ⟨hm, hc, he⟩ := h
  have hcf := apply_conf (concState s aux) t ((concState s aux).hist ++ ievs) o
    (cf' := fun u => conf (Got.Spec.Lin.upd aux t x' u) (Got.Spec.Lin.upd s.pc t p' u)) (fun _ => rfl)
    (fun u hu => by show conf _ _ = conf _ _; rw [upd_other hu, upd_other hu])
    (by rw [upd_same, upd_same]; exact hc)
  have hh : (history (s.log ++ evs)).map hev = (history s.log).map hev ++ ievs ++ retEvs t o.ret := by
    unfold history
    rw [List.filterMap_append, List.map_append, List.append_assoc]; exact congrArg _ he
  simp only [concState, GState.apply, hm] at hcf ⊢
  exact congr (congrArg (GState.mk _) (funext hcf)) hh.symm

attribute [local simp] swing conf ctl pushB pushTail pushT1 pushT2 pushE2 pushT3 popB popTail popT1 popT2 popE2
  push pop loopOf thenOf elseOf memOf memH auxPc history LEv.toH hev List.filterMap_cons startThread

/-- the tie, thread by thread. The steps out of `d4` drop `tail` from the hand-written pc while it stays in scope in the source:
    `auxPc` keeps it. -/
theorem ThStep.sim {h h' : Heap} {t : Nat} {p p' : Pc} {evs : List LEv} (hs : ThStep h t (.tau t) p h' p' evs) (x : Nat) :
    ∃ o, stepThread noPred (memH h) (conf x p) = some o ∧ o.mem = memH h' ∧ o.conf = conf (auxPc x p) p' ∧
      (history evs).map hev = retEvs t o.ret := by
  cases hs with
  | loc hl =>
    cases hl with
    | p1 | p2 | d1 | d2 => exact ⟨_, rfl, by simp [ir_sem]⟩
    | p3None h1 | p3Some h1 | p3Retry h1 | p4Retry h1 | d3Some h1 | d5Retry h1 => exact ⟨_, rfl, by simp [ir_sem, h1]⟩
    | d4Help h1 h2 | d4Crash h1 h2 | d4Take h1 h2 => subst h1; exact ⟨_, rfl, by simp [ir_sem, h2]⟩
    | d4Retry h1 => exact ⟨_, rfl, by simp [ir_sem, h1]⟩
  | link h1 => exact ⟨_, rfl, by simp [ir_sem, h1]; rfl⟩
  | obs h1 | take h1 => exact ⟨_, rfl, by simp [ir_sem, h1]⟩
  | @p4h _ tl _ | @p5 _ tl | @d5h _ tl _ =>
    by_cases h1 : h.tail = tl <;> exact ⟨_, rfl, by simp [ir_sem, h1]⟩
  | empty h1 h2 => subst h1; exact ⟨_, rfl, by simp [ir_sem, h2]⟩

theorem sim_tau (s : State) (aux : Nat → Nat) (t : Nat) :
    step prog noPred (concState s aux) (.tau t) = concState (tau s t) (auxTau s aux t) := by
  rw [auxTau_eq]
  have H := step_spec s (.tau t)
  show _ = concState (Got.Model.MSQueue.step s (.tau t)) _
  generalize Got.Model.MSQueue.step s (.tau t) = s' at H
  cases H with
  | skip hp =>
    have hc : s.pc t = .idle ∨ s.pc t = .crash := hp
    have ha : auxPc (aux t) (s.pc t) = aux t := by rcases hc with h | h <;> rw [h] <;> rfl
    rw [ha, upd_self]
    apply step_tau_halted
    show stepThread noPred _ (conf (aux t) (s.pc t)) = none
    rcases hc with h | h <;> rw [h] <;> rfl
  | move hs =>
    obtain ⟨o, (h1 : stepThread noPred (memOf s) (conf (aux t) (s.pc t)) = some o), h⟩ := ThStep.sim hs (aux t)
    exact Eq.trans (by simp only [step, concState, h1, List.append_nil]) (concState_lift s aux t _ o [] h)

def auxStep (s : State) (aux : Nat → Nat) : Got.Model.MSQueue.Act → Nat → Nat
  | .invPush t v => if s.pc t = .idle then Got.Spec.Lin.upd aux t v else aux
  | .invPop _ => aux
  | .tau t => auxTau s aux t

theorem sim_invPush (s : State) (aux : Nat → Nat) (t v : Nat) :
    step prog noPred (concState s aux) (.inv t 0 [.data v]) =
      concState (Got.Model.MSQueue.step s (.invPush t v))
        (if s.pc t = .idle then Got.Spec.Lin.upd aux t v else aux) := by
  by_cases hi : s.pc t = .idle
  · simp only [Got.Model.MSQueue.step, hi]
    exact (step_inv_idle _ _ _ _ _ (by simp only [concState, hi, conf]) rfl rfl).trans
      (concState_lift s aux t v (startThread noPred (memOf s) push [.data v]) _ (by simp [ir_sem]; rfl))
  · rw [if_neg hi, step_inv_busy _ _ _ _ _ _ (mt (conf_idle_iff _ _).1 hi)]
    simp only [Got.Model.MSQueue.step]

theorem sim_invPop (s : State) (aux : Nat → Nat) (t : Nat) :
    step prog noPred (concState s aux) (.inv t 1 []) = concState (Got.Model.MSQueue.step s (.invPop t)) aux := by
  by_cases hi : s.pc t = .idle
  · simp only [Got.Model.MSQueue.step, hi]
    conv => rhs; rw [← upd_self aux t]
    exact (step_inv_idle _ _ _ _ _ (by simp only [concState, hi, conf]) rfl rfl).trans
      (concState_lift s aux t (aux t) (startThread noPred (memOf s) pop []) _ (by simp [ir_sem]))
  · rw [step_inv_busy _ _ _ _ _ _ (mt (conf_idle_iff _ _).1 hi)]
    simp only [Got.Model.MSQueue.step]

theorem sim_step (s : State) (aux : Nat → Nat) (a : Got.Model.MSQueue.Act) :
    step prog noPred (concState s aux) (gact a) = concState (Got.Model.MSQueue.step s a) (auxStep s aux a) := by
  cases a with
  | invPush t v => exact sim_invPush s aux t v
  | invPop t => exact sim_invPop s aux t
  | tau t => exact sim_tau s aux t

theorem sim_run (acts : List Got.Model.MSQueue.Act) (s : State) (aux : Nat → Nat) :
    ∃ aux', run prog noPred (concState s aux) (acts.map gact) = concState (Got.Model.MSQueue.run s acts) aux' := by
  unfold run Got.Model.MSQueue.run
  rw [List.foldl_map]
  exact List.foldl_rel (r := fun g s => ∃ aux', g = concState s aux') ⟨aux, rfl⟩
    fun a _ _ s ⟨aux', h⟩ => ⟨_, h ▸ sim_step s aux' a⟩

theorem genRun_eq (acts : List Got.Model.MSQueue.Act) :
    ∃ aux, genRun acts = concState (Got.Model.MSQueue.run Got.Model.MSQueue.init acts) aux :=
  sim_run acts Got.Model.MSQueue.init fun _ => 0

theorem toHEv_hev (e : HEv) : toHEv (hev e) = e := by
  cases e with
  | inv t o => cases o <;> rfl
  | ret t r =>
    cases r with
    | ack => rfl
    | val v => cases v <;> rfl

theorem genRun_hist (acts : List Got.Model.MSQueue.Act) :
    genHistory (genRun acts) = history (Got.Model.MSQueue.run Got.Model.MSQueue.init acts).log := by
  obtain ⟨aux, h⟩ := genRun_eq acts
  rw [h]
  simp only [genHistory, concState, List.map_map]
  conv => rhs; rw [← List.map_id (history _)]
  apply List.map_congr_left
  intro e _
  exact toHEv_hev e

theorem solo_sim (t : Nat) : ∀ (k : Nat) (s : State) (aux : Nat → Nat),
    ∃ aux', solo prog noPred t k (concState s aux) = concState (Got.Model.MSQueue.solo t k s) aux' := by
  intro k
  induction k with
  | zero => intro s aux; exact ⟨aux, rfl⟩
  | succ k ih =>
    intro s aux
    simp only [solo, Got.Model.MSQueue.solo]
    rw [sim_tau]
    exact ih _ _

end Got.Lemmas.MSQueueAst
