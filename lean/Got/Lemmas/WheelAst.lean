import Got.Model.WheelGen
import Got.Lemmas.Wheel
import Got.Lemmas.AtomicIRSem
/-
Translator tie for loom.Wheel (C03, race part): the LTS that the AtomicIR semantics gives to the programs
`fetchWheelData` / `onTicker` regenerated from /repo/loom/wheel.go takes exactly the steps of the hand-written model
`Got.Model.Wheel.step fixed`, under the mappings `confT` / `confR` from the hand-written program counters and locals to IR
configurations.  The control parts of `confT` / `confR` are read off the generated bodies and must be re-read when these
change.
-/
namespace Got.Lemmas.WheelAst
open Got.Model.AtomicIR Got.Generated.AstLoomWheel Got.Model.WheelGen
open Got.Model.Wheel (State tickStep reqStep invokeStep fixed rangePanics bucketIndex complete)

def ctl (l : List Stmt) (k : List Item) : List Item := l.map .stmt ++ k

def loopOf : List Stmt → List Stmt
  | [_, _, _, .loop b] => b
  | _ => []

def reqB : List Stmt := loopOf fetchWheelData.body

/-- what `AtomicIR.enter` puts behind the loop body; 5 = the locals at loop entry (four parameters and the index) -/
def reqTail : List Item := [.pop 5, .loopEnd reqB]

/-- the fields of `Mem` in their order (`val next nalloc head tail cell cell32 pos slot nslots closed dbl`); the wheel uses
    `nalloc` and the last five -/
def memW (s : State) : Mem :=
  ⟨fun _ => 0, fun _ => none, s.nextChan, none, none, 0, 0, (s.pos : Int), fun i => some (s.slot i), s.n,
   fun c => (s.closedBy c).isSome, s.dblClose⟩

/-- `body.drop i`: the statements from the one in front of which the thread parks; idle at `loadPos`: a tick action
    invokes `onTicker` and performs its first access in one step -/
def confT (s : State) : Config :=
  match s.tpc with
  | .loadPos => .idle
  | .storePos => .run ((onTicker.body.drop 1).map .stmt) [.int s.n, .int s.tpos] [.int s.n]
  | .swapSlot => .run ((onTicker.body.drop 2).map .stmt) [.int s.n, .int s.tpos] [.int s.n]
  | .close => .run ((onTicker.body.drop 3).map .stmt) [.int s.n, .int s.tpos, .ptr (some s.tlast)] [.int s.n]

def confR (s : State) (d : Int) (t : Nat) : Config :=
  match s.rpc t with
  | .idle => .idle
  | .loadPos => .run (ctl reqB reqTail) (reqArgs s.n s.step d ++ [.int (s.rk t)]) (reqArgs s.n s.step d)
  | .loadSlot =>
    .run (ctl (reqB.drop 2) reqTail)
      (reqArgs s.n s.step d ++ [.int (s.rk t), .int (s.rpos t), .int (((s.rpos t + s.rk t) % s.n : Nat) : Int)])
      (reqArgs s.n s.step d)
  | .reloadPos =>
    .run (ctl (reqB.drop 3) reqTail)
      (reqArgs s.n s.step d ++ [.int (s.rk t), .int (s.rpos t), .int (((s.rpos t + s.rk t) % s.n : Nat) : Int),
        .ptr (some (s.rdata t))]) (reqArgs s.n s.step d)

/-- `aux t` supplies the requester's parameter `interval`, which is dead after the index computation -/
structure RelW (g : GState) (s : State) (aux : Nat → Int) : Prop where
  mem : g.mem = memW s
  tick : g.conf 0 = confT s
  req : ∀ t, g.conf (t + 1) = confR s (aux t) t
  ret : returned g = s.done.reverse.map (fun r => (r.tid, r.chan))

/-- `npos` and `tpos` hold in every reachable state (`good_of_inv`); `step` never changes, so `spos` is a hypothesis on the
    initial state (`genRun_rel`; NewWheel panics otherwise, `newWheelPanics`) -/
structure Good (s : State) : Prop where
  npos : 0 < s.n
  spos : 0 < s.step
  tpos : s.tpc ≠ .loadPos → s.tpos < s.n

theorem idx_toNat (a b n : Nat) : (((a : Int) + (b : Int)) % (n : Int)).toNat = (a + b) % n := by
  rw [← Int.natCast_add, ← Int.natCast_emod]; exact Int.toNat_natCast _

theorem idx_nonneg (a b n : Nat) : 0 ≤ ((a : Int) + (b : Int)) % (n : Int) := by
  rw [← Int.natCast_add, ← Int.natCast_emod]; exact Int.natCast_nonneg _

theorem tmod_nat (a b : Nat) (y : Int) : ((a : Int) + (b : Int)).tmod y = ((a : Int) + (b : Int)) % y :=
  Int.tmod_eq_emod_of_nonneg (by omega)

theorem tmod_nat1 (a : Nat) (y : Int) : ((a : Int) + 1).tmod y = ((a : Int) + 1) % y :=
  Int.tmod_eq_emod_of_nonneg (by omega)

/- `Model.Wheel.upd` and `Model.AtomicIR.upd` are two copies of one function -/
theorem updG_apply {α : Type} (f : Nat → α) (t : Nat) (v : α) (u : Nat) :
    Got.Model.AtomicIR.upd f t v u = if u = t then v else f u := rfl

theorem updW_apply {α : Type} (f : Nat → α) (t : Nat) (v : α) (u : Nat) :
    Got.Model.Wheel.upd f t v u = if u = t then v else f u := rfl

theorem upd_some (f : Nat → Nat) (i v : Nat) :
    Got.Model.AtomicIR.upd (fun j => some (f j)) i (some v) = fun j => some (Got.Model.Wheel.upd f i v j) := by
  funext j; simp only [Got.Model.AtomicIR.upd, Got.Model.Wheel.upd]; split <;> rfl

theorem upd_closed (f : Nat → Option Nat) (c v : Nat) :
    (fun j => (Got.Model.Wheel.upd f c (some v) j).isSome) = Got.Model.AtomicIR.upd (fun j => (f j).isSome) c true :=
  Got.Lemmas.Wheel.isSome_upd f c v

/-- the interval of the pending call of requester `u` after thread `t` invoked with `d` -/
def auxInvoke (s : State) (aux : Nat → Int) (t : Nat) (d : Int) : Nat → Int :=
  fun u => if u = t ∧ s.rpc t = .idle then d else aux u

def cfW (s : State) (aux : Nat → Int) : Nat → Config
  | 0 => confT s
  | u + 1 => confR s (aux u) u

/-- `hs` is the history of `g`, or that with the invocation event of the step appended (`hhs`) -/
theorem relW_apply {g : GState} {s : State} {aux : Nat → Int} (h : RelW g s aux) (s' : State) (aux' : Nat → Int)
    (tid : Nat) (hs : List (Nat × Ev)) (o : Out) (hhs : hs.filterMap retOf = g.hist.filterMap retOf)
    (hoth : ∀ u, u ≠ tid → cfW s' aux' u = cfW s aux u)
    (ho : o.mem = memW s' ∧ o.conf = cfW s' aux' tid ∧
      s'.done.reverse.map (fun r => (r.tid, r.chan)) =
        s.done.reverse.map (fun r => (r.tid, r.chan)) ++ (retEvs tid o.ret).filterMap retOf) :
    RelW (GState.apply { g with hist := hs } tid o) s' aux' := by
  obtain ⟨hm, hc, hd⟩ := ho
  have hcf := apply_conf g tid hs o (cf := cfW s aux)
    (fun u => by cases u with | zero => exact h.tick | succ v => exact h.req v) hoth hc
  refine ⟨hm, hcf 0, fun t => hcf (t + 1), ?_⟩
  have hr : g.hist.filterMap retOf = s.done.reverse.map (fun r => (r.tid, r.chan)) := h.ret
  simp only [returned, GState.apply, List.filterMap_append, hhs, hr, hd]

theorem confT_congr {s s' : State} (e : Got.Lemmas.Wheel.glob s' = Got.Lemmas.Wheel.glob s) : confT s' = confT s := by
  cases s
  cases s'
  cases e
  rfl

theorem confR_congr {s s' : State} (d : Int) {u : Nat} (hg : Got.Lemmas.Wheel.Grow s s')
    (e : Got.Lemmas.Wheel.loc s' u = Got.Lemmas.Wheel.loc s u) : confR s' d u = confR s d u := by
  simp only [Got.Lemmas.Wheel.loc, Got.Lemmas.Wheel.Loc.mk.injEq] at e
  obtain ⟨hrpc, hrk, hrpos, hrdata, -⟩ := e
  simp only [confR, hg.n, hg.step, hrpc, hrk, hrpos, hrdata]

theorem cfW_tick (s : State) (aux : Nat → Int) (u : Nat) (hu : u ≠ 0) : cfW (tickStep fixed s) aux u = cfW s aux u := by
  cases u with
  | zero => exact absurd rfl hu
  | succ v => exact confR_congr _ (Got.Lemmas.Wheel.tick_grow fixed s) (congrFun (Got.Lemmas.Wheel.tick_frame fixed s).1 v)

theorem cfW_req (s : State) (aux : Nat → Int) (t u : Nat) (hu : u ≠ t + 1) :
    cfW (reqStep fixed t s) aux u = cfW s aux u := by
  have e := Got.Lemmas.Wheel.req_glob fixed t s
  cases u with
  | zero => exact confT_congr e
  | succ v => exact confR_congr _ (.of_glob e) (Got.Lemmas.Wheel.req_loc fixed (fun h => hu (by rw [h])) s)

theorem cfW_invoke (s : State) (aux : Nat → Int) (t : Nat) (d : Int) (u : Nat) (hu : u ≠ t + 1) :
    cfW (invokeStep t d s) (auxInvoke s aux t d) u = cfW s aux u := by
  have e := (Got.Lemmas.Wheel.invoke_glob t d s).1
  cases u with
  | zero => exact confT_congr e
  | succ v =>
    have hv : ¬ v = t := fun h => hu (by rw [h])
    simp only [cfW, auxInvoke, hv, false_and, if_false]
    exact confR_congr _ (.of_glob e) (Got.Lemmas.Wheel.invoke_loc hv d s)

/- The definitions of the tie and of the hand-written steps, for `simp [ir_sem]` to run both sides of a case. -/
attribute [local simp] reqArgs cfW confT confR ctl reqB reqTail loopOf fetchWheelData onTicker memW tickStep reqStep
  complete fixed idx_toNat idx_nonneg tmod_nat tmod_nat1 Int.natCast_inj retOf

theorem tickG_idle (n : Nat) (g : GState) (h : g.conf 0 = .idle) :
    tickG n g = GState.apply { g with hist := g.hist ++ [(0, Ev.inv 1 [.int n])] } 0
      (exec noPred [.int n] stepFuel ⟨g.mem, true, none⟩ (onTicker.body.map .stmt) [.int n]) := by
  simp only [tickG, h, isIdle, if_true]
  rw [step_inv_idle noPred [.int n] prog g 0 h rfl rfl]
  have e : startThread noPred g.mem onTicker [.int n] = ⟨g.mem, .run (onTicker.body.map .stmt) [.int n] [.int n], none, none⟩ := by
    simp [ir_sem, startThread]
  rw [e, step_tau_run noPred prog _ 0 (k := onTicker.body.map .stmt) (env := [.int n]) (args := [.int n])
    (by simp only [GState.apply, updG_apply, if_true])]
  simp only [GState.apply, retEvs, List.append_nil]
  congr 1
  funext u
  simp only [Got.Model.AtomicIR.upd]
  split <;> rfl

theorem tickG_busy (n : Nat) (g : GState) {k : List Item} {env args : List Val} (h : g.conf 0 = .run k env args) :
    tickG n g = g.apply 0 (exec noPred args stepFuel ⟨g.mem, true, none⟩ k env) := by
  simp only [tickG, h, isIdle, Bool.false_eq_true, if_false]
  exact step_tau_run noPred prog g 0 h

theorem simW_tick (g : GState) (s : State) (aux : Nat → Int) (h : RelW g s aux) (hg : Good s) :
    RelW (tickG s.n g) (tickStep fixed s) aux := by
  have ht := h.tick
  have hm := h.mem
  have hn : s.n ≠ 0 := Nat.ne_of_gt hg.npos
  cases hp : s.tpc with
  | loadPos =>
    rw [tickG_idle s.n g (by rw [ht, confT, hp])]
    exact relW_apply h _ aux 0 _ _ (by simp) (cfW_tick s aux) (by simp [ir_sem, hp, hm])
  | storePos =>
    rw [tickG_busy s.n g (by rw [ht, confT, hp])]
    exact relW_apply h _ aux 0 g.hist _ rfl (cfW_tick s aux) (by simp [ir_sem, hp, hm, hn])
  | swapSlot =>
    have hlt : s.tpos < s.n := hg.tpos (by rw [hp]; simp)
    rw [tickG_busy s.n g (by rw [ht, confT, hp])]
    exact relW_apply h _ aux 0 g.hist _ rfl (cfW_tick s aux) (by simp [ir_sem, hp, hm, hlt, upd_some])
  | close =>
    rw [tickG_busy s.n g (by rw [ht, confT, hp])]
    exact relW_apply h _ aux 0 g.hist _ rfl (cfW_tick s aux) (by
      simp [ir_sem, hp, hm]
      exact (upd_closed s.closedBy s.tlast (s.cls + 1)).symm)

theorem simW_req (g : GState) (s : State) (aux : Nat → Int) (t : Nat) (h : RelW g s aux) (hg : Good s) :
    RelW (reqG g t) (reqStep fixed t s) aux := by
  have hrt := h.req t
  have hm := h.mem
  have hn : s.n ≠ 0 := Nat.ne_of_gt hg.npos
  have hmod : (s.rpos t + s.rk t) % s.n < s.n := Nat.mod_lt _ hg.npos
  show RelW (step prog noPred g (.tau (t + 1))) _ _
  cases hp : s.rpc t with
  | idle =>
    simp only [confR, hp] at hrt
    have e := step_tau_halted noPred prog g (t + 1) (by rw [hrt]; rfl)
    have e2 : reqStep fixed t s = s := by simp only [reqStep, hp]
    rw [e, e2]; exact h
  | loadPos =>
    rw [step_tau_run noPred prog g (t + 1) (by rw [hrt, confR, hp])]
    exact relW_apply h _ aux (t + 1) g.hist _ rfl (cfW_req s aux t) (by simp [ir_sem, hp, hm, hn])
  | loadSlot =>
    rw [step_tau_run noPred prog g (t + 1) (by rw [hrt, confR, hp])]
    exact relW_apply h _ aux (t + 1) g.hist _ rfl (cfW_req s aux t) (by simp [ir_sem, hp, hm, hmod])
  | reloadPos =>
    rw [step_tau_run noPred prog g (t + 1) (by rw [hrt, confR, hp])]
    by_cases he : s.rpos t = s.pos <;>
      exact relW_apply h _ aux (t + 1) g.hist _ rfl (cfW_req s aux t) (by simp [ir_sem, hp, hm, he])

theorem bucketIndex_cast (step : Nat) (d : Int) (hd : 0 ≤ d) :
    ((bucketIndex step d : Nat) : Int) = if 0 < d.tdiv step then d.tdiv step - 1 else d.tdiv step := by
  rw [Int.tdiv_eq_ediv_of_nonneg hd]
  have : 0 ≤ d / (step : Int) := Int.ediv_nonneg hd (by omega)
  unfold bucketIndex
  simp only []
  split
  · rw [if_pos (by omega)]; omega
  · rw [if_neg (by omega)]; omega

theorem simW_invoke (g : GState) (s : State) (aux : Nat → Int) (t : Nat) (d : Int) (h : RelW g s aux) (hg : Good s) :
    RelW (invokeG s.n s.step g t d) (invokeStep t d s) (auxInvoke s aux t d) := by
  have hm := h.mem
  have hrt := h.req t
  have hs : s.step ≠ 0 := Nat.ne_of_gt hg.spos
  by_cases hp : s.rpc t = .idle
  · simp only [confR, hp] at hrt
    unfold invokeG
    rw [step_inv_idle noPred _ prog g (t + 1) hrt rfl rfl]
    by_cases h1 : d < 0
    · have hpan : rangePanics s.step s.n d = true := by simp [rangePanics, h1]
      exact relW_apply h _ _ (t + 1) _ _ (by simp) (cfW_invoke s aux t d)
        (by simp [ir_sem, startThread, hp, hm, invokeStep, hpan, h1])
    · by_cases h2 : (s.step : Int) * (s.n : Int) ≤ d
      · have hpan : rangePanics s.step s.n d = true := by simp [rangePanics, h2]
        exact relW_apply h _ _ (t + 1) _ _ (by simp) (cfW_invoke s aux t d)
          (by simp [ir_sem, startThread, hp, hm, invokeStep, hpan, h1, h2])
      · have hpan : rangePanics s.step s.n d = false := by simp [rangePanics, h1, h2]
        have hd : 0 ≤ d := Int.not_lt.1 h1
        have hb := bucketIndex_cast s.step d hd
        by_cases hq : 0 < d.tdiv s.step <;>
          exact relW_apply h _ _ (t + 1) _ _ (by simp) (cfW_invoke s aux t d)
            (by simp [ir_sem, startThread, hp, hm, invokeStep, hpan, h1, h2, hs, hq, hb, auxInvoke])
  · have e : invokeG s.n s.step g t d = g :=
      step_inv_busy noPred _ prog g (t + 1) 0 (by rw [hrt]; cases hq : s.rpc t <;> simp [confR, hq] <;> exact absurd hq hp)
    have e2 : invokeStep t d s = s := by simp only [invokeStep]
    have e3 : auxInvoke s aux t d = aux := by funext u; simp only [auxInvoke, hp, and_false, if_false]
    rw [e, e2, e3]; exact h

def auxStep (s : State) (aux : Nat → Int) : Got.Model.Wheel.Act → Nat → Int
  | .tick => aux
  | .invoke t d => auxInvoke s aux t d
  | .reset t base arg => auxInvoke s aux t (Got.Model.Wheel.resetInterval s.step base arg)
  | .req _ => aux

theorem simW_step (g : GState) (s : State) (aux : Nat → Int) (a : Got.Model.Wheel.Act) (h : RelW g s aux) (hg : Good s) :
    RelW (gstep s.n s.step g a) (Got.Model.Wheel.step fixed s a) (auxStep s aux a) := by
  cases a with
  | tick => exact simW_tick g s aux h hg
  | invoke t _ | reset t _ _ => exact simW_invoke g s aux t _ h hg
  | req t => exact simW_req g s aux t h hg

theorem good_of_inv {s : State} (h : Got.Lemmas.Wheel.Inv s) (hs : 0 < s.step) : Good s :=
  ⟨h.t.npos, hs, fun hne => by rw [h.t.tpos_eq hne]; exact Nat.mod_lt _ h.t.npos⟩

theorem init_rel (n stepNs : Nat) : RelW (genInit n) (Got.Model.Wheel.init n stepNs) (fun _ => 0) :=
  ⟨rfl, rfl, fun _ => rfl, rfl⟩

/-- every run of the hand-written model from NewWheel(step, n) is, action for action, the run of the generated LTS;
    `Inv` rides along because `simW_step` needs `Good` of every state on the way -/
theorem genRun_rel (n stepNs : Nat) (hn : 0 < n) (hs : 0 < stepNs) (acts : List Got.Model.Wheel.Act) :
    ∃ aux, RelW (genRun n stepNs acts) (Got.Model.Wheel.run fixed (Got.Model.Wheel.init n stepNs) acts) aux :=
  (List.foldl_rel (l := acts)
    (r := fun g s => (∃ aux, RelW g s aux) ∧ Got.Lemmas.Wheel.Inv s ∧ s.n = n ∧ s.step = stepNs)
    ⟨⟨_, init_rel n stepNs⟩, Got.Lemmas.Wheel.inv_init n stepNs hn, rfl, rfl⟩
    fun a _ g s ⟨⟨aux, h⟩, hi, h1, h2⟩ =>
      have hf := Got.Lemmas.Wheel.step_frame s a
      ⟨⟨_, h2 ▸ h1 ▸ simW_step g s aux a h (good_of_inv hi (h2 ▸ hs))⟩, Got.Lemmas.Wheel.inv_step hi a,
        hf.n.trans h1, hf.step.trans h2⟩).1

end Got.Lemmas.WheelAst
