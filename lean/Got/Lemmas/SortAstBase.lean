import Got.Model.SortAstWorld
import Got.Lemmas.Eventually
import Got.Lemmas.EnvFrame
/-
Proof kit for the translator tie of C15: one composition rule per statement form, a `Seg` where the statement falls
through and a `Runs` where it leaves (`break`, `return`) or its loop may, so that a refinement proof is a symbolic execution
of the generated term along the model's recursion.  A condition enters a rule by its value
(`hc : evalC W env c w = (b, w')`), an assigned expression by `eval env e`; operands hold naturals below `B62`, where Go's
`int` arithmetic is that of `Nat` (`eval_add`, `eval_sub`, …).  `X_runs`: the statements of X interpreted;
`X_run` (SortBounds): the footprint `Run` of the model's X.
-/
namespace Got.Lemmas.SortAst
open Got.Model.MiniGoSort Got.Model.Sort Got.Model.SortAst

variable {σ : Type}

def Runs (W : World σ) (P : String → Option Fn) (p : List Stmt) (env : Env) (w : σ) (r : Res σ) : Prop :=
  ∃ f0, ∀ f, f0 ≤ f → exec W P f p env w = some r

/-- a call of `fn` with the (already wrapped) arguments `args` returns `vs` and the world `w'` -/
def FnRuns (W : World σ) (P : String → Option Fn) (fn : Fn) (args : List Int) (w : σ) (vs : List Int) (w' : σ) : Prop :=
  Runs W P fn.body args.toArray w (.ret vs w') ∨ (vs = [] ∧ ∃ e, Runs W P fn.body args.toArray w (.cont e w'))

variable {W : World σ} {P : String → Option Fn}

theorem Runs.nil {env : Env} {w : σ} : Runs W P [] env w (.cont env w) := Evt.always fun _ => rfl

theorem Runs.brk {rest : List Stmt} {env : Env} {w : σ} : Runs W P (.brk :: rest) env w (.brk env w) :=
  Evt.always fun _ => rfl

theorem Runs.ret {es : List Expr} {rest : List Stmt} {env : Env} {w : σ} :
    Runs W P (.ret es :: rest) env w (.ret (es.map (eval env)) w) :=
  Evt.always fun _ => rfl

theorem Runs.step {p p' : List Stmt} {env env' : Env} {w w' : σ} {r : Res σ}
    (hs : ∀ f, exec W P (f + 1) p env w = exec W P f p' env' w') (h : Runs W P p' env' w' r) : Runs W P p env w r :=
  Evt.succ h fun g e => (hs g).trans e

theorem Runs.ite_leave {c : Cond} {t e rest : List Stmt} {env : Env} {w w1 : σ} {b : Bool} {r : Res σ}
    (hc : evalC W env c w = (b, w1)) (hb : Runs W P (if b then t else e) env w1 r)
    (hr : ∀ env' w', r ≠ .cont env' w') : Runs W P (.ite c t e :: rest) env w r :=
  Evt.succ hb fun g eb => by
    dsimp only [exec]
    rw [hc, eb]
    cases r with
    | cont env' w' => exact absurd rfl (hr env' w')
    | _ => rfl

theorem Runs.loop_iter {c : Cond} {body post rest : List Stmt} {env env' env'' : Env} {w w1 w' w'' : σ} {r : Res σ}
    (hc : evalC W env c w = (true, w1)) (hb : Runs W P body env w1 (.cont env' w'))
    (hp : Runs W P post env' w' (.cont env'' w'')) (h : Runs W P (.loop c body post :: rest) env'' w'' r) :
    Runs W P (.loop c body post :: rest) env w r :=
  Evt.succ (Evt.and hb (Evt.and hp h)) fun g ⟨eb, ep, er⟩ => by
    dsimp only [exec]; rw [hc, if_pos rfl, eb]; dsimp only; rw [ep]; exact er

theorem Runs.loop_ret {c : Cond} {body post rest : List Stmt} {env : Env} {w w1 w' : σ} {vs : List Int}
    (hc : evalC W env c w = (true, w1)) (hb : Runs W P body env w1 (.ret vs w')) :
    Runs W P (.loop c body post :: rest) env w (.ret vs w') :=
  Evt.succ hb fun g eb => by dsimp only [exec]; rw [hc, if_pos rfl, eb]

/-- how the body of a function without results ends: by `return` or by falling off its end, in the world `S` -/
def Ends (r : Res σ) (S : σ) : Prop := r = .ret [] S ∨ ∃ e, r = .cont e S

theorem FnRuns.of_ends {fn : Fn} {args : List Int} {w S : σ} {r : Res σ}
    (hr : Runs W P fn.body args.toArray w r) (he : Ends r S) : FnRuns W P fn args w [] S := by
  rcases he with rfl | ⟨e, rfl⟩
  · exact Or.inl hr
  · exact Or.inr ⟨rfl, e, hr⟩

theorem run_of_FnRuns {fn : Fn} {args : List Int} {w w' : σ} {vs : List Int}
    (hnp : fn.nparams = args.length) (hnr : vs.length = fn.nresults)
    (h : FnRuns W P fn (args.map wrap) w vs w') :
    ∃ f0, ∀ f, f0 ≤ f → fn.run W P f args w = some (vs, w') := by
  unfold Fn.run
  rcases h with hb | ⟨rfl, e, hb⟩
  · exact Evt.mono hb fun f eb => by rw [if_pos hnp, eb]; exact if_pos hnr
  · exact Evt.mono hb fun f eb => by rw [if_pos hnp, eb]; exact if_pos hnr.symm

/-- `pre` runs from `(env, w)` and falls through its end in `(env', w')`, whatever follows: in this continuation form no
    fuel-monotonicity or append lemma about `exec` is needed.  A rule for a statement that falls through is stated once, as
    a `Seg`; applied to a continuation (`Seg.loop_done hc _ _ h`) it is the rule for `Runs`. -/
def Seg (W : World σ) (P : String → Option Fn) (pre : List Stmt) (env : Env) (w : σ) (env' : Env) (w' : σ) : Prop :=
  ∀ rest r, Runs W P rest env' w' r → Runs W P (pre ++ rest) env w r

theorem Seg.nil {env : Env} {w : σ} : Seg W P [] env w env w := fun _ _ h => h

theorem Seg.trans {p1 p2 : List Stmt} {e e1 e2 : Env} {w w1 w2 : σ}
    (h1 : Seg W P p1 e w e1 w1) (h2 : Seg W P p2 e1 w1 e2 w2) : Seg W P (p1 ++ p2) e w e2 w2 := by
  intro rest r h
  rw [List.append_assoc]
  exact h1 _ _ (h2 _ _ h)

theorem Seg.run {p : List Stmt} {e e1 : Env} {w w1 : σ} (h : Seg W P p e w e1 w1) : Runs W P p e w (.cont e1 w1) := by
  have := h [] _ Runs.nil
  rwa [List.append_nil] at this

/-- for a single statement, `[s] ++ rest` is `s :: rest` -/
theorem Seg.single {s : Stmt} {env env' : Env} {w w' : σ}
    (h : ∀ rest r, Runs W P rest env' w' r → Runs W P (s :: rest) env w r) : Seg W P [s] env w env' w' := h

theorem Seg.set {x : Nat} {e : Expr} {env : Env} {w : σ} {v : Int} (hv : eval env e = v) :
    Seg W P [.set x e] env w (env.set x v) w :=
  .single fun _ _ h => Runs.step (fun _ => rfl) (hv ▸ h)

theorem Seg.set2 {x y : Nat} {e1 e2 : Expr} {env : Env} {w : σ} {v1 v2 : Int} (h1 : eval env e1 = v1)
    (h2 : eval env e2 = v2) : Seg W P [.set2 x y e1 e2] env w ((env.set x v1).set y v2) w :=
  .single fun _ _ h => Runs.step (fun _ => by dsimp only [exec]; rw [h1, h2]) h

theorem Seg.setB {x : Nat} {c : Cond} {env : Env} {w w1 : σ} {b : Bool} (hc : evalC W env c w = (b, w1)) :
    Seg W P [.setB x c] env w (env.set x (if b then 1 else 0)) w1 :=
  .single fun _ _ h => Runs.step (fun _ => by dsimp only [exec]; rw [hc]) h

theorem Seg.swap {a b : Expr} {env : Env} {w : σ} :
    Seg W P [.swap a b] env w env (W.swap w (eval env a) (eval env b)) :=
  .single fun _ _ h => Runs.step (fun _ => rfl) h

theorem Seg.ite {c : Cond} {t e : List Stmt} {env env' : Env} {w w1 w' : σ} {b : Bool}
    (hc : evalC W env c w = (b, w1)) (hb : Seg W P (if b then t else e) env w1 env' w') :
    Seg W P [.ite c t e] env w env' w' :=
  .single fun _ _ h => Evt.succ (Evt.and hb.run h) fun g ⟨eb, er⟩ => by dsimp only [exec]; rw [hc, eb]; exact er

theorem Seg.loop_done {c : Cond} {body post : List Stmt} {env : Env} {w w1 : σ} (hc : evalC W env c w = (false, w1)) :
    Seg W P [.loop c body post] env w env w1 :=
  .single fun _ _ h => Runs.step (fun _ => by dsimp only [exec]; rw [hc]; rfl) h

/-- `Seg.loop_done` with the condition's value and world as projections -/
theorem Seg.loop_exit {c : Cond} {body post : List Stmt} {env : Env} {w : σ} (hc : (evalC W env c w).1 = false) :
    Seg W P [.loop c body post] env w env (evalC W env c w).2 :=
  Seg.loop_done (Prod.ext hc rfl)

theorem Seg.loop_iter {c : Cond} {body post : List Stmt} {env env' env'' env3 : Env} {w w1 w' w'' w3 : σ}
    (hc : evalC W env c w = (true, w1)) (hb : Seg W P body env w1 env' w')
    (hp : Seg W P post env' w' env'' w'') (h : Seg W P [.loop c body post] env'' w'' env3 w3) :
    Seg W P [.loop c body post] env w env3 w3 :=
  fun rest r hr => Runs.loop_iter hc hb.run hp.run (h rest r hr)

theorem Seg.loop_brk {c : Cond} {body post : List Stmt} {env env' : Env} {w w1 w' : σ}
    (hc : evalC W env c w = (true, w1)) (hb : Runs W P body env w1 (.brk env' w')) :
    Seg W P [.loop c body post] env w env' w' :=
  .single fun _ _ h => Evt.succ (Evt.and hb h) fun g ⟨eb, er⟩ => by dsimp only [exec]; rw [hc, if_pos rfl, eb]; exact er

theorem Seg.call {g : String} {fn : Fn} {args : List Expr} {res : List Nat} {env : Env} {w w' : σ} {as vs : List Int}
    (hP : P g = some fn) (hnp : fn.nparams = args.length) (hnr : fn.nresults = res.length)
    (has : args.map (eval env) = as) (hf : FnRuns W P fn as w vs w') (hvs : vs.length = res.length) :
    Seg W P [.call g args res] env w (env.setMany res vs) w' :=
  .single fun _ _ h => by
    subst has
    rcases hf with hb | ⟨rfl, e, hb⟩
    · exact Evt.succ (Evt.and hb h) fun k ⟨eb, er⟩ => by
        dsimp only [exec]; rw [hP]; dsimp only; rw [if_pos ⟨hnp, hnr⟩, eb]; dsimp only; rw [if_pos hvs]; exact er
    · obtain rfl : res = [] := List.length_eq_zero_iff.mp hvs.symm
      exact Evt.succ (Evt.and hb h) fun k ⟨eb, er⟩ => by
        dsimp only [exec]; rw [hP]; dsimp only; rw [if_pos ⟨hnp, hnr⟩, eb]; exact er

theorem Seg.call0 {g : String} {fn : Fn} {args : List Expr} {env : Env} {w w' : σ} {as : List Int} (hP : P g = some fn)
    (hnp : fn.nparams = args.length) (hnr : fn.nresults = 0) (has : args.map (eval env) = as)
    (hf : FnRuns W P fn as w [] w') : Seg W P [.call g args []] env w env w' :=
  Seg.call (res := []) hP hnp hnr has hf rfl

/-- Bound on every index the sort code handles.  That slice lengths are below 2^62 is an assumption of the translator
    ties (a hypothesis of each; SliceBy passes `0 .. length`).  2^62 and not 2^63, because the code forms `lo + hi`
    (doPivot_func), `2*root + 1` and `first + child + 1` (siftDown_func): these stay below 2^63, so `wrap` is the
    identity on them and Go's `int` arithmetic is that of `Nat`. -/
abbrev B62 : Nat := 4611686018427387904

theorem wrap_eq {x : Int} (h1 : -9223372036854775808 ≤ x) (h2 : x < 9223372036854775808) : wrap x = x := by
  unfold wrap; omega

theorem wrap_nat {n : Nat} (h : n < 9223372036854775808) : wrap (n : Int) = n :=
  wrap_eq (Int.le_trans (by decide) (Int.natCast_nonneg n)) (Int.ofNat_lt.mpr h)

/-- Go's truncated `(j - 1) / 2` is the model's natural-number `(j - 1) / 2` (also for `j = 0`: `(-1) / 2 = 0`) -/
theorem tdiv_half (j : Nat) : Int.tdiv ((j : Int) - 1) ((2 : Nat) : Int) = (((j - 1) / 2 : Nat) : Int) := by
  cases j with
  | zero => rfl
  | succ n =>
    rw [Int.tdiv_eq_ediv_of_nonneg (by omega)]
    omega

theorem idx_eq {x : Int} (h1 : 0 ≤ x) (h2 : x < 18446744073709551616) : idx x = x.toNat := by
  unfold idx; omega

theorem idx_natCast {n : Nat} (h : n < 18446744073709551616) : idx (n : Int) = n :=
  idx_eq (Int.natCast_nonneg n) (Int.ofNat_lt.mpr h)

theorem idx_nat {n : Nat} (h : n < B62) : idx (n : Int) = n := idx_natCast (Nat.lt_trans h (by decide))

theorem map_wrap_nat : ∀ {ns : List Nat}, (∀ n ∈ ns, n < B62) →
    (ns.map fun n : Nat => (n : Int)).map wrap = ns.map fun n : Nat => (n : Int)
  | [], _ => rfl
  | n :: ns, h => by
    rw [List.map_cons, List.map_cons, map_wrap_nat fun k hk => h k (List.mem_cons_of_mem n hk),
      wrap_nat (Nat.lt_trans (h n List.mem_cons_self) (by decide))]

theorem forall_lt_cons {a b : Nat} {l : List Nat} (h : a < b) (ht : ∀ n ∈ l, n < b) : ∀ n ∈ a :: l, n < b :=
  List.forall_mem_cons.2 ⟨h, ht⟩

theorem run_of_FnRuns_nat {fn : Fn} {ns : List Nat} {w w' : σ} {vs : List Int}
    (hnp : fn.nparams = ns.length) (hnr : vs.length = fn.nresults) (hb : ∀ n ∈ ns, n < B62)
    (h : FnRuns W P fn (ns.map fun n : Nat => (n : Int)) w vs w') :
    ∃ f0, ∀ f, f0 ≤ f → fn.run W P f (ns.map fun n : Nat => (n : Int)) w = some (vs, w') :=
  run_of_FnRuns (hnp.trans (List.length_map _).symm) hnr ((map_wrap_nat hb).symm ▸ h)

theorem eval_var {env : Env} {x : Nat} {v : Int} (h : env.get x = v) : eval env (.var x) = v := h

/-- `Frame.get` as the value of `.var i`, the form the `eval_*` rules take an operand in -/
theorem _root_.Got.Model.MiniGoSort.Frame.var {vs : List Int} {env : Env} (h : Frame vs env) (i : Nat) {v : Int}
    (hv : vs[i]? = some v) : eval env (.var i) = v :=
  h.get i hv

theorem eval_lit {env : Env} (n : Nat) (h : n < 9223372036854775808 := by decide) :
    eval env (.lit (n : Int)) = (n : Int) :=
  wrap_nat h

theorem eval_add {env : Env} {a b : Expr} {m n : Nat} (ha : eval env a = (m : Int)) (hb : eval env b = (n : Int))
    (h : m + n < 9223372036854775808) : eval env (.add a b) = ((m + n : Nat) : Int) := by
  rw [eval, ha, hb, ← Int.natCast_add, wrap_nat h]

theorem eval_add1 {env : Env} {x n : Nat} (h : env.get x = (n : Int)) (hb : n < B62) :
    eval env (.add (.var x) (.lit 1)) = ((n + 1 : Nat) : Int) :=
  eval_add (eval_var h) (eval_lit 1) (Nat.lt_trans (Nat.succ_lt_succ hb) (by decide))

theorem eval_sub_int {env : Env} {a b : Expr} {m n : Nat} (ha : eval env a = (m : Int)) (hb : eval env b = (n : Int))
    (hm : m < B62) (hn : n < B62) : eval env (.sub a b) = (m : Int) - (n : Int) := by
  unfold B62 at hm hn
  rw [eval, ha, hb, wrap_eq (by omega) (by omega)]

theorem eval_sub {env : Env} {a b : Expr} {m n : Nat} (ha : eval env a = (m : Int)) (hb : eval env b = (n : Int))
    (h : n ≤ m) (hm : m < B62) : eval env (.sub a b) = ((m - n : Nat) : Int) := by
  rw [eval_sub_int ha hb hm (Nat.lt_of_le_of_lt h hm)]
  omega

theorem eval_mul {env : Env} {a b : Expr} {m n : Nat} (ha : eval env a = (m : Int)) (hb : eval env b = (n : Int))
    (h : m * n < 9223372036854775808) : eval env (.mul a b) = ((m * n : Nat) : Int) := by
  rw [eval, ha, hb, ← Int.natCast_mul, wrap_nat h]

theorem eval_sub1 {env : Env} {x n : Nat} (h : env.get x = (n : Int)) (hb : n < B62) (h1 : 1 ≤ n) :
    eval env (.sub (.var x) (.lit 1)) = ((n - 1 : Nat) : Int) :=
  eval_sub (eval_var h) (eval_lit 1) h1 hb

theorem eval_divC {env : Env} {a : Expr} {m k : Nat} (ha : eval env a = (m : Int)) (hm : m < B62) :
    eval env (.divC a k) = ((m / k : Nat) : Int) := by
  rw [eval, ha, ← Int.ofNat_tdiv, wrap_nat (Nat.lt_of_le_of_lt (Nat.div_le_self m k) (Nat.lt_trans hm (by decide)))]

theorem map_eval3 {env : Env} {e1 e2 e3 : Expr} {v1 v2 v3 : Int} (h1 : eval env e1 = v1) (h2 : eval env e2 = v2)
    (h3 : eval env e3 = v3) : List.map (eval env) [e1, e2, e3] = [v1, v2, v3] := by
  rw [List.map, List.map, List.map, List.map, h1, h2, h3]

theorem map_eval2 {env : Env} {e1 e2 : Expr} {v1 v2 : Int} (h1 : eval env e1 = v1) (h2 : eval env e2 = v2) :
    List.map (eval env) [e1, e2] = [v1, v2] := by
  rw [List.map, List.map, List.map, h1, h2]

/- A comparison enters a rule by the decided proposition: `decide_eq_true h` where it holds, `decide_eq_false h` where it does
not, `rfl` where the value stays `decide …` (a `bool` local) or is computed. -/

theorem evalC_le {env : Env} {a b : Expr} {i j : Int} (w : σ) (ha : eval env a = i) (hb : eval env b = j) ⦃r : Bool⦄
    (h : decide (i ≤ j) = r) : evalC W env (.le a b) w = (r, w) := by
  rw [evalC, ha, hb, h]

theorem evalC_lt_nat {env : Env} {a b : Expr} {m n : Nat} (w : σ) (ha : eval env a = (m : Int))
    (hb : eval env b = (n : Int)) ⦃r : Bool⦄ (h : decide (m < n) = r) : evalC W env (.lt a b) w = (r, w) := by
  rw [evalC, ha, hb, decide_eq_decide.mpr Int.ofNat_lt, h]

theorem evalC_le_nat {env : Env} {a b : Expr} {m n : Nat} (w : σ) (ha : eval env a = (m : Int))
    (hb : eval env b = (n : Int)) ⦃r : Bool⦄ (h : decide (m ≤ n) = r) : evalC W env (.le a b) w = (r, w) :=
  evalC_le w ha hb ((decide_eq_decide.mpr Int.ofNat_le).trans h)

theorem evalC_eq_nat {env : Env} {a b : Expr} {m n : Nat} (w : σ) (ha : eval env a = (m : Int))
    (hb : eval env b = (n : Int)) ⦃r : Bool⦄ (h : decide (m = n) = r) : evalC W env (.eq a b) w = (r, w) := by
  rw [evalC, ha, hb, decide_eq_decide.mpr Int.ofNat_inj, h]

theorem evalC_and_false {env : Env} {a b : Cond} {w w1 : σ} (ha : evalC W env a w = (false, w1)) :
    evalC W env (.and a b) w = (false, w1) := by
  simp only [evalC, ha, Bool.false_eq_true, if_false]

theorem evalC_and_true {env : Env} {a b : Cond} {w w1 : σ} (ha : evalC W env a w = (true, w1)) :
    evalC W env (.and a b) w = evalC W env b w1 := by
  simp only [evalC, ha, if_true]

theorem evalC_and_pure {env : Env} {a b : Cond} {w : σ} {p q : Bool} (ha : evalC W env a w = (p, w))
    (hb : evalC W env b w = (q, w)) : evalC W env (.and a b) w = (p && q, w) := by
  cases p
  · exact evalC_and_false ha
  · exact (evalC_and_true ha).trans hb

theorem evalC_bvar {env : Env} {x : Nat} {p : Bool} (w : σ) (h : env.get x = if p then 1 else 0) :
    evalC W env (.bvar x) w = (p, w) := by
  rw [evalC, h]
  cases p <;> rfl

theorem evalC_not {env : Env} {a : Cond} {w w1 : σ} {r : Bool} (ha : evalC W env a w = (r, w1)) :
    evalC W env (.not a) w = (!r, w1) := by
  simp only [evalC, ha]

section world
variable {K V : Type} {less : LessFn K V}

theorem evalC_less {env : Env} {e1 e2 : Expr} {i j : Nat} (s : St K V)
    (h1 : eval env e1 = (i : Int)) (h2 : eval env e2 = (j : Int)) (hi : i < B62) (hj : j < B62) :
    evalC (sortWorld less) env (.less e1 e2) s = (less s i j, s.note i j (less s i j)) := by
  simp only [evalC, sortWorld, h1, h2, idx_nat hi, idx_nat hj]

theorem evalC_notLess {env : Env} {e1 e2 : Expr} {i j : Nat} (s : St K V)
    (h1 : eval env e1 = (i : Int)) (h2 : eval env e2 = (j : Int)) (hi : i < B62) (hj : j < B62) :
    evalC (sortWorld less) env (.not (.less e1 e2)) s = (!less s i j, s.note i j (less s i j)) :=
  evalC_not (evalC_less s h1 h2 hi hj)

theorem swap_eq {env : Env} {e1 e2 : Expr} {i j : Nat} (s : St K V)
    (h1 : eval env e1 = (i : Int)) (h2 : eval env e2 = (j : Int)) (hi : i < B62) (hj : j < B62) :
    (sortWorld less).swap s (eval env e1) (eval env e2) = s.swap i j := by
  simp only [sortWorld, h1, h2, idx_nat hi, idx_nat hj]

theorem Seg.swapAt {P : String → Option Fn} {env : Env} {e1 e2 : Expr} {i j : Nat} (s : St K V)
    (h1 : eval env e1 = (i : Int)) (h2 : eval env e2 = (j : Int)) (hi : i < B62) (hj : j < B62) :
    Seg (sortWorld less) P [.swap e1 e2] env s env (s.swap i j) :=
  swap_eq (less := less) s h1 h2 hi hj ▸ Seg.swap

end world

theorem Env.get_set_eq (env : Env) (x : Nat) (v : Int) : (env.set x v).get x = v := by
  rw [Env.get_set, if_pos rfl]

theorem Env.get_set_ne (env : Env) {x y : Nat} (v : Int) (h : y ≠ x) : (env.set x v).get y = env.get y := by
  rw [Env.get_set, if_neg h]

theorem get_mk2 (a b : Int) : Env.get #[a, b] 0 = a ∧ Env.get #[a, b] 1 = b :=
  ⟨rfl, rfl⟩

theorem get_mk3 (a b c : Int) : Env.get #[a, b, c] 0 = a ∧ Env.get #[a, b, c] 1 = b ∧ Env.get #[a, b, c] 2 = c :=
  ⟨rfl, rfl, rfl⟩

end Got.Lemmas.SortAst
