import Got.Model.AntsLive
import Got.Lemmas.AntsSlots
/- ants model: which transitions are enabled. `Stuck` = no internal transition is enabled; the scan of the candidates
   `internalActs` decides it (`scan_stuck`), so the files that import this one argue from `Stuck` and never about membership in
   the candidate lists. The scan is the first half of `quiescent` (the clock guard of `runMP`, `runH`: C08) and of `idle`, which
   decides `Quiescent` (C07). -/
namespace Got.Model.Ants

def Supp (s : State) : Prop := ∀ k, k ∉ s.tasks → s.task k = {}

theorem supp_init : Supp init := fun _ _ => rfl

theorem tstep_default_send {c : Cfg} {now qlen : Nat} {act : Act} {t' : Task}
    (h : TStep c now qlen {} act t') : ∃ k o, act = .send k o := by
  cases h
  case send => exact ⟨_, _, rfl⟩
  all_goals simp_all

theorem supp_step {c : Cfg} {s s2 : State} {act : Act} (hs : Supp s) (h : step c s act = some s2) : Supp s2 := by
  intro k hk
  rw [step_tasks h] at hk
  have hsub : k ∉ s.tasks := by
    split at hk
    · exact fun hm => hk (List.mem_append_left _ hm)
    · exact hk
  rcases step_task_cases h k with e | ⟨rfl, ht⟩
  · rw [e]; exact hs k hsub
  · rw [hs _ hsub] at ht
    obtain ⟨k', o, rfl⟩ := tstep_default_send ht
    exact absurd (by simp [Act.isSend, Act.task]) hk

theorem Supp.mem {s : State} (hs : Supp s) {k : Nat} (h : s.task k ≠ {}) : k ∈ s.tasks :=
  Classical.byContradiction fun hn => h (hs k hn)

theorem mem_of_pc {s : State} (hs : Supp s) {k : Nat} (h : (s.task k).pc ≠ .none) : k ∈ s.tasks :=
  hs.mem fun e => h (congrArg Task.pc e)

theorem mem_of_cl {s : State} (hs : Supp s) {k a : Nat} (h : ((s.task k).at_ a).pc ≠ .none) : k ∈ s.tasks :=
  hs.mem fun e => h (congrArg (fun t => (t.at_ a).pc) e)

theorem step_mem {c : Cfg} {s s2 : State} {act : Act} (hsup : Supp s) (hc : act.isClock = false)
    (hs : act.isSend = false) (h : step c s act = some s2) : act.task ∈ s.tasks := by
  apply Classical.byContradiction
  intro hn
  have ht := step_self hc h
  rw [hsup _ hn] at ht
  obtain ⟨k, o, rfl⟩ := tstep_default_send ht
  cases hs

theorem plain_internal {act : Act} (h : act.plain = true) : act.internal = true := by
  cases act <;> first | rfl | cases h

theorem Act.not_env {act : Act} (h : act.internal = true) : act.isSend = false ∧ act.isClock = false := by
  cases act <;> first | exact ⟨rfl, rfl⟩ | cases h

theorem enabled_of_plain {c : Cfg} {s : State} {act : Act} {t' : Task} (hpl : act.plain = true)
    (ht : TStep c s.now s.taskQ.length (s.task act.task) act t') : ∃ act s2, act.internal = true ∧ Step c s act s2 :=
  ⟨act, _, plain_internal hpl, .plain hpl ht⟩

/-- dispatcher / client stages whose next step needs nothing but the task's own record -/
def TPc.free : TPc → Bool
  | .sendTest | .discardCb | .loopTest | .hook3 | .hook2 | .decide | .writeDE | .cancel | .errTest | .onError
  | .wgDone => true
  | _ => false

theorem free_enabled (c : Cfg) (s : State) (k : Nat) (hp : (s.task k).pc.free = true) :
    ∃ act s2, act.internal = true ∧ Step c s act s2 := by
  cases hpc : (s.task k).pc <;> simp only [hpc, TPc.free, Bool.false_eq_true] at hp
  case sendTest =>
    by_cases hx : ((s.task k).discard && s.taskQ.length == c.N) = true
    · exact enabled_of_plain rfl (.busyFull (k := k) hpc hx)
    · exact enabled_of_plain rfl (.busyFree (k := k) hpc hx)
  case discardCb => exact enabled_of_plain rfl (.discardCb (k := k) hpc)
  case loopTest =>
    by_cases hx : (s.task k).att < (s.task k).R
    · exact enabled_of_plain rfl (.begin (k := k) hpc hx)
    · exact enabled_of_plain rfl (.giveUp (k := k) hpc hx)
  case hook3 => exact enabled_of_plain rfl (.hook3 (k := k) hpc)
  case hook2 =>
    by_cases hx : c.old = true
    · exact enabled_of_plain rfl (.hook2Old (k := k) hpc hx)
    · exact enabled_of_plain rfl (.hook2 (k := k) hpc hx)
  case decide =>
    by_cases hx : ((s.task k).at_ (s.task k).cur).decided = 0
    · exact enabled_of_plain rfl (.decideWin (k := k) hpc hx)
    · exact enabled_of_plain rfl (.decideLose (k := k) hpc hx)
  case writeDE => exact enabled_of_plain rfl (.writeDE (k := k) hpc)
  case cancel => exact enabled_of_plain rfl (.cancel (k := k) hpc)
  case errTest =>
    by_cases hx : (s.task k).err = .nil
    · exact enabled_of_plain rfl (.errNil (k := k) hpc hx)
    · exact enabled_of_plain rfl (.errRetry (k := k) hpc hx)
  case onError => exact enabled_of_plain rfl (.onError (k := k) hpc)
  case wgDone => exact enabled_of_plain rfl (.wgDone (k := k) hpc)

/-- stages in which an inner worker holds the closure and is not inside the handler -/
def CPc.busy : CPc → Bool
  | .taken _ | .returned _ _ _ | .hook1 _ _ _ | .cas _ _ _ | .hook4 _ _ _ | .write _ _ _ | .closing _ => true
  | _ => false

theorem busy_enabled (c : Cfg) (s : State) {k a : Nat} (hp : ((s.task k).at_ a).pc.busy = true) :
    ∃ act s2, act.internal = true ∧ Step c s act s2 := by
  cases hpc : ((s.task k).at_ a).pc <;> simp only [hpc, CPc.busy, Bool.false_eq_true] at hp
  case taken => exact ⟨_, _, rfl, .wStart (hon := true) (.wStart hpc)⟩
  case returned =>
    by_cases hx : ((s.task k).at_ a).ctxDone = true
    · exact enabled_of_plain rfl (.checkDone (k := k) hpc hx)
    · exact enabled_of_plain rfl (.checkLive (k := k) hpc hx)
  case hook1 =>
    by_cases hx : c.old = true
    · exact enabled_of_plain rfl (.hook1Old (k := k) hpc hx)
    · exact enabled_of_plain rfl (.hook1 (k := k) hpc hx)
  case cas =>
    by_cases hx : ((s.task k).at_ a).decided = 0
    · exact enabled_of_plain rfl (.casWin (k := k) hpc hx)
    · exact enabled_of_plain rfl (.casLose (k := k) hpc hx)
  case hook4 => exact enabled_of_plain rfl (.hook4 (k := k) hpc)
  case write => exact enabled_of_plain rfl (.wWrite (k := k) hpc)
  case closing => exact ⟨_, _, rfl, .wClose (.wClose hpc) (by rw [hpc]; rfl)⟩

/-- no goroutine of the pool, no client inside `Send` and no due context timer can take a step (the first conjunct of `Quiescent`) -/
def Stuck (c : Cfg) (s : State) : Prop := ∀ act, act.internal = true → step c s act = none

theorem Stuck.not_step {c : Cfg} {s s2 : State} (hq : Stuck c s) {act : Act} (hi : act.internal = true) :
    ¬Step c s act s2 := fun h => nomatch (hq act hi).symm.trans h.to_step

theorem Stuck.free {c : Cfg} {s : State} (hq : Stuck c s) (k : Nat) : (s.task k).pc.free = false := by
  cases hf : (s.task k).pc.free
  · rfl
  · obtain ⟨_, _, hi, hs⟩ := free_enabled c s k hf
    exact absurd hs (hq.not_step hi)

theorem Stuck.busy {c : Cfg} {s : State} (hq : Stuck c s) (k a : Nat) : ((s.task k).at_ a).pc.busy = false := by
  cases hf : ((s.task k).at_ a).pc.busy
  · rfl
  · obtain ⟨_, _, hi, hs⟩ := busy_enabled c s hf
    exact absurd hs (hq.not_step hi)

theorem not_quiescent_cases {c : Cfg} {s : State} (hq : ¬ Quiescent c s) :
    (∃ act s1, act.internal = true ∧ step c s act = some s1) ∨
    (∃ k a w hon, ((s.task k).at_ a).pc = .running w hon) := by
  apply Classical.byContradiction
  intro hn
  apply hq
  constructor
  · intro act hi
    cases hs : step c s act with
    | none => rfl
    | some s1 => exact absurd (Or.inl ⟨act, s1, hi, hs⟩) hn
  · intro k a w hon hp
    exact hn (Or.inr ⟨k, a, w, hon, hp⟩)

theorem taskActs_internal {c : Cfg} {s : State} {k : Nat} {act : Act} (h : act ∈ taskActs c s k) :
    act.internal = true := by
  simp only [taskActs, List.mem_append, List.mem_flatMap, List.mem_range] at h
  rcases h with h | ⟨a, _, h | h⟩
  · cases hp : (s.task k).pc <;> simp [hp] at h <;>
      first
        | (subst h; rfl)
        | (rcases h with h | h <;> subst h <;> rfl)
  · split at h
    · simp at h; subst h; rfl
    · simp at h
  · cases hp : ((s.task k).at_ a).pc <;> simp [hp] at h
    all_goals first
      | (subst h; rfl)
      | (obtain ⟨w, _, h⟩ := h; subst h; rfl)

/-- the `match` is the one inside `taskActs`, written out so that `hp` can be substituted in it; likewise in `cl_mem` -/
theorem own_mem {c : Cfg} {s : State} {k : Nat} {p : TPc} {act : Act} (hp : (s.task k).pc = p)
    (h : act ∈ (match p with
      | .sendTest => [Act.busyTest k] | .discardCb => [.discardCb k] | .enq => [.enq k] | .queued => [.take k]
      | .loopTest => [.loopTest k] | .sendCl => [.sendCl k] | .hook3 => [.hook3 k]
      | .select => [.selDone k, .selCtx k] | .hook2 => [.hook2 k] | .decide => [.decide k]
      | .writeDE => [.writeDE k] | .waitDone => [.waitDone k] | .cancel => [.cancel k] | .errTest => [.errTest k]
      | .onError => [.onError k] | .wgDone => [.wgDone k]
      | _ => ([] : List Act))) : act ∈ taskActs c s k := by
  simp only [taskActs, List.mem_append]
  exact Or.inl (hp ▸ h)

theorem cl_mem {c : Cfg} {s : State} {k a : Nat} {p : CPc} {act : Act} (ok : TaskOK (s.task k))
    (hp : ((s.task k).at_ a).pc = p) (hne : p ≠ .none)
    (h : act ∈ (match p with
     | .queued => (List.range c.N).map fun w => Act.wTake k a w
     | .taken _ => [.wStart k a true]
     | .returned _ _ _ => [.wCheck k a]
     | .hook1 _ _ _ => [.hook1 k a]
     | .cas _ _ _ => [.wCas k a]
     | .hook4 _ _ _ => [.hook4 k a]
     | .write _ _ _ => [.wWrite k a]
     | .closing _ => [.wClose k a]
     | _ => ([] : List Act))) : act ∈ taskActs c s k := by
  simp only [taskActs, List.mem_append, List.mem_flatMap, List.mem_range]
  exact Or.inr ⟨a, lt_of_pc ok hp hne, Or.inr (hp ▸ h)⟩

/-- the candidate examined by `internalActs` for a given internal transition (the handler's behaviour flag of `wStart`
    does not matter for enabledness) -/
def Act.cand : Act → Act
  | .wStart k a _ => .wStart k a true
  | x => x

theorem cand_mem {c : Cfg} {s : State} {act : Act} {t' : Task} (ok : TaskOK (s.task act.task))
    (hi : act.internal = true) (hw : ∀ k a w, act = .wTake k a w → w < c.N)
    (ht : TStep c s.now s.taskQ.length (s.task act.task) act t') : act.cand ∈ taskActs c s act.task := by
  cases ht
  case send | wEnd => cases hi
  case fire hg =>
    simp only [Act.task] at hg
    simp only [taskActs, List.mem_append, List.mem_flatMap, List.mem_range]
    exact Or.inr ⟨_, hg.1, Or.inl (by simp [hg.2.1, hg.2.2, Act.cand, Act.task])⟩
  case wTake hp =>
    exact cl_mem ok hp nofun (by simp only [List.mem_map, List.mem_range]; exact ⟨_, hw _ _ _ rfl, rfl⟩)
  case wStart hp | checkDone hp _ | checkLive hp _ | hook1Old _ hp | hook1 _ hp | casWin hp _ | casLose hp _ | hook4 hp
      | wWrite hp | wClose hp =>
    exact cl_mem ok hp nofun (.head _)
  case busyFull hp _ | busyFree hp _ | discardCb hp | enq hp | take hp | begin hp _ | giveUp hp _ | hook3 hp
      | hook2Old _ hp | hook2 _ hp | decideWin hp _ | decideLose hp _ | writeDE hp | cancel hp | errNil hp _
      | errRetry hp _ | onError hp | wgDone hp =>
    exact own_mem hp (.head _)
  case sendCl hp | selDoneOld _ hp | selDone _ hp | waitDone hp => exact own_mem hp.1 (.head _)
  case selCtx hp => exact own_mem hp.1 (.tail _ (.head _))

theorem cand_enabled {c : Cfg} {s s2 : State} {act : Act} (hinv : Inv s) (hsup : Supp s) (hi : act.internal = true)
    (h : step c s act = some s2) : act.cand ∈ internalActs c s ∧ step c s act.cand ≠ none := by
  obtain ⟨hsend, hck⟩ := Act.not_env hi
  refine ⟨?_, ?_⟩
  · simp only [internalActs, List.mem_flatMap]
    refine ⟨act.task, step_mem hsup hck hsend h,
      cand_mem (hinv _) hi ?_ (step_self hck h)⟩
    rintro k a w rfl
    cases Step.of_step h with
    | plain hp => cases hp
    | wTake _ _ hw => exact hw
  · cases act <;> simp only [Act.cand] <;> (try (rw [h]; simp))
    cases Step.of_step h with
    | plain hp => cases hp
    | wStart ht =>
      cases ht with | wStart hp =>
      rw [(Step.wStart (hon := true) (.wStart hp)).to_step]
      exact nofun

theorem scan_stuck {c : Cfg} {s : State} (hinv : Inv s) (hsup : Supp s) :
    (internalActs c s).all (fun a => (step c s a).isNone) = true ↔ Stuck c s := by
  rw [List.all_eq_true]
  constructor
  · intro hi act hint
    cases hst : step c s act with
    | none => rfl
    | some s2 =>
      obtain ⟨hm, hne⟩ := cand_enabled hinv hsup hint hst
      exact absurd (Option.isNone_iff_eq_none.1 (hi _ hm)) hne
  · intro hq a ha
    simp only [internalActs, List.mem_flatMap] at ha
    obtain ⟨k, _, hm⟩ := ha
    rw [hq a (taskActs_internal hm)]; rfl

theorem quiescent_stuck {c : Cfg} {s : State} (hinv : Inv s) (hsup : Supp s) (hq : quiescent c s = true) : Stuck c s := by
  simp only [quiescent, Bool.and_eq_true] at hq
  exact (scan_stuck hinv hsup).1 hq.1

end Got.Model.Ants
