import Got.Lemmas.SortOrder
import Got.Lemmas.SortBounds
namespace Got.Lemmas.Sort
open Got.Model.Sort

variable {K V : Type} {lt : K → K → Bool}

/-- `I`: `[a, i]` is in order except that the key at `j` has not been compared with those before it -/
theorem insInner_sorted (sw : StrictWeak lt) (a i j : Nat) (s : St K V) (hi : i < s.keys.size) (hj : j ≤ i)
    (I : ∀ p q, a ≤ p → p < q → q ≤ i → q ≠ j → KLe lt s.keys p q) :
    ∀ p q, a ≤ p → p < q → q ≤ i → KLe lt (insInner (stdLess lt) a j s).keys p q := by
  fun_induction insInner (stdLess lt) a j s with
  | case1 s => exact fun p q h1 h2 h3 => I p q h1 h2 h3 (by omega)
  | case2 j s h r s1 hr ih =>
    have hu : j + 1 < s.keys.size := by omega
    have hv : j < s.keys.size := by omega
    refine ih (by rw [swap_keys, Array.size_swapIfInBounds]; exact hi) (by omega) fun p q h1 h2 h3 hq => KLe.swap hu hv ?_
    -- the transposed places are still in order, and the right one is not `j + 1`, unless they are `j + 1`, `j` themselves
    by_cases hq1 : q = j + 1
    · subst hq1
      rw [tr_left]
      by_cases hp : p = j
      · subst hp; rw [tr_right]; exact KLe.of_stdLess sw hr
      · rw [tr_of_ne (by omega) hp]; exact I p j h1 (by omega) (by omega) (by omega)
    · rw [tr_of_ne hq1 hq]
      by_cases hp1 : p = j + 1
      · subst hp1; rw [tr_left]; exact I j q (by omega) (by omega) h3 hq1
      · by_cases hp : p = j
        · subst hp; rw [tr_right]; exact I (p + 1) q (by omega) (by omega) h3 hq1
        · rw [tr_of_ne hp1 hp]; exact I p q h1 h2 h3 hq1
  | case3 j s h r s1 hr =>
    have hle : KLe lt s.keys j (j + 1) := KLe.of_stdLess_false (by simpa using hr)
    have hv : j < s.keys.size := by omega
    intro p q h1 h2 h3
    by_cases hq : q = j + 1
    · subst hq
      by_cases hp : p = j
      · subst hp; exact hle
      · exact (I p j h1 (by omega) (by omega) (by omega)).trans sw hv hle
    · exact I p q h1 h2 h3 hq
  | case4 j s h => exact fun p q h1 h2 h3 => I p q h1 h2 h3 (by omega)

theorem insOuter_sorted (sw : StrictWeak lt) (a b i : Nat) (s : St K V) (hb : b ≤ s.keys.size) (hai : a ≤ i)
    (hS : ∀ p q, a ≤ p → p < q → q < i → KLe lt s.keys p q) :
    ∀ p q, a ≤ p → p < q → q < b → KLe lt (insOuter (stdLess lt) a b i s).keys p q := by
  fun_induction insOuter (stdLess lt) a b i s with
  | case1 i s h ih =>
    have hsz := (insInner_run (stdLess lt) a i s).steps.keys_size
    refine ih (by omega) (by omega) fun p q h1 h2 h3 => ?_
    exact insInner_sorted sw a i i s (by omega) (Nat.le_refl _)
      (fun p q h1 h2 h3 hq => hS p q h1 h2 (Nat.lt_of_le_of_ne h3 hq)) p q h1 h2 (Nat.le_of_lt_succ h3)
  | case2 i s h => exact fun p q h1 h2 h3 => hS p q h1 h2 (by omega)

theorem insertionSort_sorted (sw : StrictWeak lt) (a b : Nat) (s : St K V) (hb : b ≤ s.keys.size) :
    SortedOn lt (insertionSort (stdLess lt) a b s).keys a b :=
  sortedOn_iff.2 (insOuter_sorted sw a b (a + 1) s hb (by omega) (fun p q h1 h2 h3 => by omega))

theorem smallSort_sorted (sw : StrictWeak lt) (a b : Nat) (s : St K V) (hb : b ≤ s.keys.size) :
    SortedOn lt (smallSort (stdLess lt) a b s).keys a b := by
  unfold smallSort
  split
  · have hsz := (gapPass_run (stdLess lt) a b (a + gapInit) s (by rw [gapInit_eq]; omega)).steps.keys_size
    exact insertionSort_sorted sw a b _ (by omega)
  · intro i j x y h1 h2 h3; omega

end Got.Lemmas.Sort
