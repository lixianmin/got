import Got.Lemmas.Ants
/- ants model: `TaskOK` under the transitions of the client and the dispatcher, one lemma for each phase of a task (before
   the first attempt `ok_fresh`, a new attempt `ok_begin`, inside the attempt `ok_move` or, the attempt's record kept, `ok_body`, after it `ok_post`); the global
   invariant `Inv` and what it gives for tasks that are over -/
namespace Got.Model.Ants

theorem no_write {t : Task} (ok : TaskOK t) (h : t.pc.waiting = false) : ∀ a, (t.at_ a).pc.isWrite = false := by
  intro a
  cases hw : (t.at_ a).pc.isWrite
  · rfl
  · have := (ok.writeW a hw).2; rw [h] at this; exact absurd this (by simp)

theorem TaskOK.past_outcome {t : Task} (ok : TaskOK t) {a : Nat} (ha : a + 1 < t.att) :
    ∃ p, (t.at_ a).outcome = some p ∧ p.2 ≠ .nil := by
  obtain ⟨h0, _, h1⟩ := ok.past a ha
  have hle := (ok.atts a).dec_le
  by_cases hd : (t.at_ a).decided = 1
  · obtain ⟨v, e, hv, he⟩ := h1 hd
    exact ⟨(v, e), by simp [Att.outcome, hd, hv], he⟩
  · have : (t.at_ a).decided = 2 := by omega
    exact ⟨(0, .de), by simp [Att.outcome, this], by simp⟩

theorem CPc.fin_of_afterCas {p : CPc} (h : p.afterCas = true) (hw : p.isWrite = false) : p.fin = true := by
  cases p <;> first | rfl | (cases h; done) | (cases hw; done)

/-- a new attempt begins: context.WithTimeout, fresh doneChan / decided flag -/
theorem ok_begin {t : Task} (ok : TaskOK t) (hp : t.pc = .loopTest) (hlt : t.att < t.R) (d b : Nat) (cd : Bool) :
    TaskOK { (t.setAt t.att { deadline := d, beginAt := b, ctxDone := cd }) with pc := .sendCl, att := t.att + 1 } := by
  have hnw := no_write ok (by rw [hp]; rfl)
  have hx : upd t.at_ t.att { deadline := d, beginAt := b, ctxDone := cd } t.att = _ := upd_same _ _ _
  have hd : (upd t.at_ t.att { deadline := d, beginAt := b, ctxDone := cd } t.att).decided = 0 := by rw [hx]
  have hpc : (upd t.at_ t.att { deadline := d, beginAt := b, ctxDone := cd } t.att).pc = .none := by rw [hx]
  have hnw' := upd_forall (P := fun _ (y : Att) => y.pc.isWrite = false) (i := t.att)
    (v := { deadline := d, beginAt := b, ctxDone := cd }) rfl fun a _ => hnw a
  refine
    { r_pos := ok.r_pos, att_le := hlt, atts := upd_forall (P := fun _ (y : Att) => AttOK y) (attOK_fresh d b cd) fun a _ => ok.atts a,
      beyond := upd_forall (P := fun a (y : Att) => t.att + 1 ≤ a → y = {}) (fun h => absurd h (by omega))
        (fun a _ h => ok.beyond a (by omega)),
      inv_eq := ?_, pre0 := nofun, att_pos := fun _ _ => Nat.succ_pos _,
      writeW := fun a h => (nomatch (hnw' a).symm.trans h), past := ?_, sendCl := fun _ => ⟨hpc, hd⟩,
      dec0 := fun _ _ => rfl, dec2 := fun _ h => absurd (hd.symm.trans h) (by decide), wDE := nofun, wDone := nofun,
      pub1 := fun _ h => absurd (hd.symm.trans h) (by decide), pub2 := fun _ h => absurd (hd.symm.trans h) (by decide),
      ctxd := fun _ => nofun, errLoop := nofun, errOn := nofun, errFin := nofun, onErrD := nofun, onErrF := nofun,
      onErr0 := fun _ _ => ok.onErr0 (by rw [hp]; nofun) (by rw [hp]; rfl), gotD := nofun }
  · show t.inv = sumStarts (upd t.at_ t.att _) (t.att + 1)
    simp only [sumStarts, upd_same]
    rw [sum_upd_ge (S := sumStarts) (g := Att.starts) (fun _ => rfl) (fun _ _ => rfl) _ _ _ _ (Nat.le_refl _)]
    have := ok.inv_eq
    simpa using this
  · intro a ha
    have ha' : a + 1 < t.att + 1 := ha
    have hne : a ≠ t.att := by omega
    simp only [setAt_at_, upd_other hne]
    by_cases hlast : a + 1 < t.att
    · exact ok.past a hlast
    · -- `past` for the attempt that was current and becomes past: at `loopTest` it is decided (`dec0`) and its context done
      -- (`ctxd`); if its closure won, that closure is past its write, so the pair it returned is the published one (`pub1`),
      -- whose error is not nil since the loop goes on (`errLoop`)
      have hatt : 1 ≤ t.att := by omega
      have hc : t.cur = a := Task.cur_eq (by omega)
      have ax := ok.atts a
      have h0 := ok.dec0 hatt
      have hctx := ok.ctxd hatt (by simp [hp, TPc.post])
      have hpub := ok.pub1 hatt
      have herr := ok.errLoop hp hatt
      rw [hc] at h0 hctx hpub
      refine ⟨?_, hctx, ?_⟩
      · intro h; have := h0 h; simp [hp, TPc.preDecide] at this
      · intro h1
        have hac := (ax.of_dec1 h1).2.2
        exact ⟨t.result, t.err, hpub h1 (CPc.fin_of_afterCas hac (hnw a)), herr⟩

theorem ok_move {t : Task} (ok : TaskOK t) (hq : t.pc.inAttempt = true) {p : TPc} (hp : p.inAttempt = true) (x : Att)
    (r : Val) (e : Err) (hA : AttOK x) (hS : x.starts = (t.at_ t.cur).starts)
    (hW : x.pc.isWrite = true → p.waiting = true)
    (hC : CurOK t.pc (t.at_ t.cur) t.result t.err → CurOK p x r e) :
    TaskOK { t.setAt t.cur x with pc := p, result := r, err := e } := by
  have hatt := att_pos_of_inAttempt ok hq
  have hc := Task.cur_succ hatt
  exact ok_step ok t.cur x p r e t.inv (by omega) (.inr ⟨hc, hq, hp⟩) hA (by rw [hS]) (fun h => ⟨hc, hW h⟩)
    (fun h => absurd h (by omega)) (fun _ => hC) (.inl ⟨hc, hp⟩)

theorem ok_body {t : Task} (ok : TaskOK t) (hq : t.pc.inAttempt = true) {p : TPc} (hp : p.inAttempt = true) (r : Val)
    (e : Err) (hW : (t.at_ t.cur).pc.isWrite = true → p.waiting = true)
    (hC : CurOK t.pc (t.at_ t.cur) t.result t.err → CurOK p (t.at_ t.cur) r e) :
    TaskOK { t with pc := p, result := r, err := e } := by
  simpa only [Task.setAt, upd_self] using ok_move ok hq hp _ r e (ok.atts _) rfl hW hC

/-- before the first attempt `TaskOK` says only that `1 ≤ R`, that no attempt record has been touched, and what `onError` has
    been called with -/
theorem ok_fresh {t t' : Task} (ok : TaskOK t) (hp : t.pc.pre = true) (hp' : t'.pc.pre = true ∨ t'.pc = .loopTest)
    (hR : 1 ≤ t'.R) (hatt : t'.att = t.att) (hat : t'.at_ = t.at_) (hinv : t'.inv = t.inv)
    (hD : t'.pc = .discarded → t'.onErr.map Prod.fst = if t'.hasCb then [Err.discard] else [])
    (h0 : t'.pc ≠ .discarded → t'.onErr = []) : TaskOK t' := by
  have h0a : t'.att = 0 := hatt.trans (ok.pre0 hp)
  have hdef : ∀ a, t'.at_ a = {} := fun a => by rw [hat]; exact ok.beyond a (by rw [ok.pre0 hp]; exact Nat.zero_le _)
  have hne : ∀ r : TPc, r.pre = false → r ≠ .loopTest → t'.pc ≠ r := by
    rintro r h1 h2 rfl
    rcases hp' with h | h
    · rw [h1] at h; cases h
    · exact h2 h
  have hfin : t'.pc.fin = false := by
    rcases hp' with h | h
    · cases hq : t'.pc <;> rw [hq] at h <;> first | rfl | cases h
    · rw [h]; rfl
  exact
    { r_pos := hR, att_le := by omega, atts := fun a => (by rw [hdef]; exact attOK_default), beyond := fun a _ => hdef a,
      inv_eq := (by rw [hinv, hat, hatt]; exact ok.inv_eq), pre0 := fun _ => h0a,
      att_pos := fun h1 h2 => hp'.elim (fun h => by rw [h1] at h; cases h) (fun h => absurd h h2),
      writeW := fun a h => (by rw [hdef] at h; cases h), past := fun a h => by omega,
      sendCl := fun h => absurd h (hne _ rfl nofun), dec0 := fun h => by omega, dec2 := fun h => by omega,
      wDE := fun h => absurd h (hne _ rfl nofun), wDone := fun h => absurd h (hne _ rfl nofun),
      pub1 := fun h => by omega, pub2 := fun h => by omega, ctxd := fun h => by omega, errLoop := fun _ h => by omega,
      errOn := fun h => absurd h (hne _ rfl nofun), errFin := fun h => (by rw [hfin] at h; cases h), onErrD := hD,
      onErrF := fun h => (by rw [hfin] at h; cases h), onErr0 := fun h _ => h0 h,
      gotD := fun h => absurd h (hne _ rfl nofun) }

theorem TPc.post_tests {p : TPc} (h : p.post = true) :
    p.pre = false ∧ p.waiting = false ∧ p.preDecide = false ∧ p ≠ .sendCl ∧ p ≠ .writeDE ∧ p ≠ .waitDone ∧
      p ≠ .discarded := by
  cases p <;> first | (cases h; done) | exact ⟨rfl, rfl, rfl, nofun, nofun, nofun, nofun⟩

/-- the hypotheses are what `TaskOK` says of the outcome at the new stage; what it says of the attempts carries over -/
theorem ok_post {t : Task} (ok : TaskOK t) (hp : t.pc.post = true) {p : TPc} (hp' : p.post = true)
    (l : List (Err × Nat)) (g : Option (Val × Err)) (d : Nat) (h1 : p ≠ .loopTest → 1 ≤ t.att)
    (hL : p = .loopTest → t.err ≠ .nil) (hO : p = .onError → t.err ≠ .nil ∧ t.att = t.R)
    (hF : p.fin = true →
      (t.err = .nil ∨ t.att = t.R) ∧ l.map Prod.fst = if t.err ≠ .nil ∧ t.hasCb then [t.err] else [])
    (h0 : p.fin = false → l = []) (hG : p = .done → g = some (t.result, t.err)) :
    TaskOK { t with pc := p, onErr := l, got := g, doneAt := d } :=
  have ⟨_, a2, a3, _, a5, _, _⟩ := TPc.post_tests hp
  have ⟨b1, _, b3, b4, b5, b6, b7⟩ := TPc.post_tests hp'
  { r_pos := ok.r_pos, att_le := ok.att_le, atts := ok.atts, beyond := ok.beyond, inv_eq := ok.inv_eq,
    pre0 := fun h => (nomatch b1.symm.trans h), att_pos := fun _ h => h1 h,
    writeW := fun a h => (nomatch a2.symm.trans (ok.writeW a h).2), past := ok.past, sendCl := fun h => absurd h b4,
    dec0 := fun h h' => (nomatch a3.symm.trans (ok.dec0 h h')), dec2 := fun _ _ => ⟨b3, b6⟩,
    wDE := fun h => absurd h b5, wDone := fun h => absurd h b6, pub1 := ok.pub1,
    pub2 := fun h h' _ => ok.pub2 h h' a5, ctxd := fun h _ => ok.ctxd h hp, errLoop := fun h _ => hL h, errOn := hO,
    errFin := fun h => (hF h).1, onErrD := fun h => absurd h b7, onErrF := fun h => (hF h).2, onErr0 := fun _ => h0,
    gotD := hG }

theorem TStep.ok {c : Cfg} (hc : c.old = false) {now qlen : Nat} {t t' : Task} {act : Act} (ok : TaskOK t)
    (h : TStep c now qlen t act t') : TaskOK t' := by
  cases ha : act.att? with
  | some a => exact ok_closure hc ok ha h
  | none =>
  cases h <;> try (cases ha; done)
  case send hp =>
    exact ok_fresh ok (by rw [hp]; rfl) (.inl rfl) (effR_pos _) rfl rfl rfl nofun
      fun _ => ok.onErr0 (by rw [hp]; nofun) (by rw [hp]; rfl)
  case busyFull hp _ | busyFree hp _ | enq hp =>
    exact ok_fresh ok (by rw [hp]; rfl) (.inl rfl) ok.r_pos rfl rfl rfl nofun
      fun _ => ok.onErr0 (by rw [hp]; nofun) (by rw [hp]; rfl)
  case take hp =>
    exact ok_fresh ok (by rw [hp]; rfl) (.inr rfl) ok.r_pos rfl rfl rfl nofun
      fun _ => ok.onErr0 (by rw [hp]; nofun) (by rw [hp]; rfl)
  case discardCb hp =>
    refine ok_fresh ok (by rw [hp]; rfl) (.inl rfl) ok.r_pos rfl rfl rfl (fun _ => ?_) (fun h => absurd rfl h)
    show List.map Prod.fst (if t.hasCb then t.onErr ++ [(Err.discard, now)] else t.onErr) = _
    rw [ok.onErr0 (by rw [hp]; nofun) (by rw [hp]; rfl)]
    split <;> rfl
  case begin hp hlt => exact ok_begin ok hp hlt _ _ _
  case sendCl hp =>
    have hz := (ok.sendCl hp.1).2
    have ax := ok.atts t.cur
    refine ok_move ok (by rw [hp.1]; rfl) (p := .hook3) rfl _ t.result t.err ?_ rfl nofun fun _ => ?_
    · simp_all only [cpc_tests, reduceCtorEq]
    · simp [CurOK, TPc.preDecide, TPc.post, hz, CPc.fin]
  case hook3 hp | selDone hp _ | selCtx hp | hook2 hp _ =>
    -- `CurOK` says the same at the stages from `hook3` to `decide`
    refine ok_body ok (by simp only [hp]; rfl) rfl _ _ (fun _ => rfl) fun hcu => ?_
    simp only [hp] at hcu
    pc_eval at hcu ⊢
    exact hcu
  case decideWin hp hz =>
    have ax := ok.atts t.cur
    have hnw : ¬(t.at_ t.cur).pc.isWrite = true := fun hw => by have := ax.dec1_of_write hw; omega
    refine ok_move ok (by rw [hp]; rfl) (p := .writeDE) rfl _ t.result t.err ?_ rfl (fun h => absurd h hnw) fun _ => ?_
    · exact ⟨ax.closed_iff, ax.ret_of_pair, ax.sawLive_of_live, fun h => absurd h (Nat.succ_ne_self 1),
        fun h => absurd h hnw, Nat.le_refl 2, ax.starts_eq⟩
    · simp [CurOK, TPc.preDecide, TPc.post]
  case decideLose hp hd =>
    -- `decided` is 1 since it is neither 0 nor 2
    have hle := (ok.atts t.cur).dec_le
    refine ok_body ok (by rw [hp]; rfl) (p := .waitDone) rfl _ _ (fun _ => rfl) fun hcu => ?_
    simp only [hp] at hcu
    pc_eval at hcu hd hle ⊢
    have h2 : ¬(t.at_ (t.att - 1)).decided = 2 := hcu.1
    exact ⟨hd, h2, by omega, hcu.2⟩
  case writeDE hp =>
    refine ok_body ok (by rw [hp]; rfl) (p := .cancel) rfl _ _
      (fun h => by have := (ok.writeW _ h).2; rw [hp] at this; cases this) fun hcu => ?_
    simp only [hp] at hcu
    pc_eval at hcu ⊢
    simp_all
  case waitDone hp =>
    refine ok_body ok (by rw [hp.1]; rfl) (p := .cancel) rfl _ _
      (fun h => by rw [(ok.atts t.cur).closed_iff.1 hp.2] at h; cases h) fun hcu => ?_
    simp only [hp.1] at hcu
    pc_eval at hcu ⊢
    simp_all
  case cancel hp =>
    refine ok_move ok (by rw [hp]; rfl) (p := .errTest) rfl _ t.result t.err (ok.atts _) rfl
      (fun h => by have := (ok.writeW _ h).2; rw [hp] at this; cases this) fun hcu => ?_
    simp only [hp] at hcu
    pc_eval at hcu ⊢
    simp_all
  case errNil hp he =>
    refine ok_post ok (by rw [hp]; rfl) (p := .wgDone) rfl t.onErr t.got t.doneAt
      (fun _ => ok.att_pos (by rw [hp]; rfl) (by rw [hp]; nofun)) nofun nofun (fun _ => ⟨.inl he, ?_⟩) nofun nofun
    rw [ok.onErr0 (by rw [hp]; nofun) (by rw [hp]; rfl), he]; rfl
  case errRetry hp hne =>
    exact ok_post ok (by rw [hp]; rfl) (p := .loopTest) rfl t.onErr t.got t.doneAt (fun h => absurd rfl h) (fun _ => hne)
      nofun nofun (fun _ => ok.onErr0 (by rw [hp]; nofun) (by rw [hp]; rfl)) nofun
  case giveUp hp hn =>
    have := ok.att_le
    have := ok.r_pos
    exact ok_post ok (by rw [hp]; rfl) (p := .onError) rfl t.onErr t.got t.doneAt (fun _ => by omega) nofun
      (fun _ => ⟨ok.errLoop hp (by omega), by omega⟩) nofun (fun _ => ok.onErr0 (by rw [hp]; nofun) (by rw [hp]; rfl)) nofun
  case onError hp =>
    have ⟨he, hR⟩ := ok.errOn hp
    refine ok_post ok (by rw [hp]; rfl) (p := .wgDone) rfl _ t.got t.doneAt (fun _ => by have := ok.r_pos; omega) nofun
      nofun (fun _ => ⟨.inr hR, ?_⟩) nofun nofun
    rw [ok.onErr0 (by rw [hp]; nofun) (by rw [hp]; rfl)]
    split <;> simp [*]
  case wgDone hp =>
    exact ok_post ok (by rw [hp]; rfl) (p := .done) rfl t.onErr _ _ (fun _ => ok.att_pos (by rw [hp]; rfl) (by rw [hp]; nofun))
      nofun nofun (fun _ => ⟨ok.errFin (by rw [hp]; rfl), ok.onErrF (by rw [hp]; rfl)⟩) nofun fun _ => rfl
  case selDoneOld | hook2Old => exact absurd ‹c.old = true› (by simp [hc])

theorem step_task {c : Cfg} {s s2 : State} {act : Act} (h : step c s act = some s2) :
    (∃ t, act = .advance t ∧ s2.task = s.task) ∨
    (∃ t', tstep c s.now s.taskQ.length (s.task act.task) act = some t' ∧ s2.task = upd s.task act.task t') := by
  cases act
  case advance t =>
    left
    simp only [step] at h
    split at h
    · cases h; exact ⟨t, rfl, rfl⟩
    · cases h
  all_goals
    right
    simp only [step] at h
    split at h
    · cases h
    · rename_i t' ht
      refine ⟨t', ht, ?_⟩
      (repeat' split at h) <;> first | (cases h; rfl) | cases h

theorem step_task_cases {c : Cfg} {s s2 : State} {act : Act} (h : step c s act = some s2) (k : Nat) :
    s2.task k = s.task k ∨ (k = act.task ∧ TStep c s.now s.taskQ.length (s.task k) act (s2.task k)) := by
  rcases step_task h with ⟨_, _, e⟩ | ⟨t', ht, e⟩
  · rw [e]; exact .inl rfl
  · rw [e]
    by_cases hk : k = act.task
    · subst hk; rw [upd_same]; exact .inr ⟨rfl, .of_tstep ht⟩
    · rw [upd_other hk]; exact .inl rfl

def Inv (s : State) : Prop := ∀ k, TaskOK (s.task k)

theorem inv_init : Inv init := fun _ => taskOK_default

theorem inv_step {c : Cfg} (hc : c.old = false) {s s2 : State} {act : Act} (hi : Inv s)
    (h : step c s act = some s2) : Inv s2 := by
  intro k
  rcases step_task_cases h k with e | ⟨_, ht⟩
  · rw [e]; exact hi k
  · exact ht.ok hc (hi k)

theorem run_inv {c : Cfg} {P : State → Prop} (hstep : ∀ s s2 act, P s → step c s act = some s2 → P s2)
    {acts : List Act} {s s2 : State} (hp : P s) (h : run c s acts = some s2) : P s2 := by
  induction acts generalizing s with
  | nil => cases h; exact hp
  | cons a rest ih =>
    simp only [run] at h
    split at h
    · cases h
    · exact ih (hstep _ _ _ hp ‹_›) h

theorem inv_run {c : Cfg} (hc : c.old = false) {acts : List Act} {s s2 : State} (hi : Inv s)
    (h : run c s acts = some s2) : Inv s2 :=
  run_inv (fun _ _ _ hp hs => inv_step hc hp hs) hi h

theorem inv_reachable {c : Cfg} (hc : c.old = false) {s : State} (h : Reachable c s) : Inv s := by
  obtain ⟨acts, ha⟩ := h
  exact inv_run hc inv_init ha

/-- what a client sees of a task: the stage, what `Get2` and the error callback show, and the number of attempts -/
def Task.shown (t : Task) := (t.pc, t.result, t.err, t.onErr, t.att)

theorem tstep_frozen {c : Cfg} {now qlen : Nat} {t t' : Task} {act : Act} (ok : TaskOK t)
    (hp : t.pc = .done ∨ t.pc = .discarded) (h : TStep c now qlen t act t') : t'.shown = t.shown := by
  have hnw := no_write ok (by rcases hp with hp | hp <;> rw [hp] <;> rfl)
  cases h
  case wWrite a _ _ _ hq => have := hnw a; rw [hq] at this; cases this
  case fire | wTake | wStart | wEnd | checkDone | checkLive | hook1Old | hook1 | casWin | casLose | hook4 | wClose => rfl
  -- the task's own transitions start from other stages
  all_goals rcases hp with hp | hp <;> simp_all only [reduceCtorEq, false_and]

theorem step_frozen {c : Cfg} {s s2 : State} {act : Act} (hi : Inv s) (k : Nat)
    (hp : (s.task k).pc = .done ∨ (s.task k).pc = .discarded) (h : step c s act = some s2) :
    (s2.task k).shown = (s.task k).shown := by
  rcases step_task_cases h k with e | ⟨_, ht⟩
  · rw [e]
  · exact tstep_frozen (hi k) hp ht

theorem run_frozen {c : Cfg} (hc : c.old = false) {acts : List Act} {s s2 : State} (hi : Inv s) (k : Nat)
    (hp : (s.task k).pc = .done ∨ (s.task k).pc = .discarded) (h : run c s acts = some s2) :
    (s2.task k).shown = (s.task k).shown :=
  (run_inv (P := fun s' => Inv s' ∧ (s'.task k).shown = (s.task k).shown)
    (fun s' _ _ ⟨hi', f⟩ hs =>
      have e : (s'.task k).pc = (s.task k).pc := congrArg Prod.fst f
      ⟨inv_step hc hi' hs, (step_frozen hi' k (e ▸ hp) hs).trans f⟩)
    ⟨hi, rfl⟩ h).2

end Got.Model.Ants
