import Got.Model.AtomicsGen
import Got.Lemmas.Atomics
import Got.Lemmas.AtomicIRSem
/-
Translator tie for loom.Mutex.TryLock (C17): every step of the joint system `Mx` of Got/Model/AtomicsGen.lean (generated
TryLock threads; the hand-written sync.Mutex steps `EnvAct` as environment) keeps `RelM`.  `confM` maps the hand-written program
counters of TryLock to configurations of the regenerated `tryLock` body, which has no block around a parking point, so no
`.pop` item: `drop 1` = parked in front of the load, `drop 4` = in front of the second CAS (to be re-read when the body is
regenerated).
-/
namespace Got.Lemmas.AtomicsAst
open Got.Model.AtomicIR Got.Generated.AstLoomAtomics Got.Model.AtomicsGen
open Got.Lemmas.Atomics (upd_other)
open Got.Model.Atomics (Word TPc MSt stepM runM initM mLocked mStarving mWoken)

def confM : TPc → Config
  | .idle => .idle
  | .cas1 => .run (tryLock.body.map .stmt) [] []
  | .load => .run ((tryLock.body.drop 1).map .stmt) [] []
  | .cas2 old => .run ((tryLock.body.drop 4).map .stmt) [.i32 old, .i32 (old ||| 1#32)] []

structure RelM (g : GState) (s : MSt) : Prop where
  word : g.mem.cell32 = s.word
  conf : ∀ t, g.conf t = confM (s.pc t)
  res : ∀ t, lastRetB g.hist t = s.res t

theorem lastRetB_snoc (h : List (Nat × Ev)) (e : Nat × Ev) (t : Nat) :
    lastRetB (h ++ [e]) t =
      if e.1 = t then retB e.2 (lastRetB h t) else lastRetB h t := by
  simp [lastRetB, List.foldl_append]

theorem mask_eq : mLocked ||| mStarving ||| mWoken = 7#32 := by decide
theorem mLocked_one : mLocked = 1#32 := Got.Lemmas.Atomics.mLocked_eq

theorem relM_apply (g : GState) (s s' : MSt) (t : Nat) (hs : List (Nat × Ev)) (o : Out) (h : RelM g s)
    (hh : ∀ u, lastRetB hs u = s.res u)
    (ho : o.mem.cell32 = s'.word ∧ o.conf = confM (s'.pc t) ∧ s'.pc = Got.Model.Atomics.upd s.pc t (s'.pc t) ∧
      ((o.ret = none ∧ s'.res = s.res) ∨
        ∃ b, o.ret = some (some (.bool b)) ∧ s'.res = Got.Model.Atomics.upd s.res t (some b))) :
    RelM (GState.apply { g with hist := hs } t o) s' := by
  obtain ⟨hw, hconf, hpc, hres⟩ := ho
  refine ⟨hw, apply_conf g t hs o h.conf (fun u hu => by rw [hpc, upd_other hu]) hconf, fun u => ?_⟩
  simp only [GState.apply]
  rcases hres with ⟨hr, hs'⟩ | ⟨b, hr, hs'⟩
  · rw [hr, hs', retEvs, List.append_nil]; exact hh u
  · rw [hr, hs', retEvs, lastRetB_snoc, hh u]
    simp only [retB, Got.Model.Atomics.upd]
    by_cases hu : u = t
    · rw [if_pos hu.symm, if_pos hu]
    · rw [if_neg (Ne.symm hu), if_neg hu]

theorem confM_idle_iff (p : TPc) : confM p = .idle ↔ p = .idle := by
  cases p <;> simp [confM]

attribute [local simp] confM tryLock stepM tauM startThread Got.Lemmas.Atomics.mLocked_eq
  Got.Lemmas.Atomics.mStarving_eq Got.Lemmas.Atomics.mWoken_eq

theorem simM_invoke (g : GState) (s : MSt) (t : Nat) (h : RelM g s) :
    RelM (step mutexProg noPred g (.inv t 0 [])) (stepM s (.tryStart t)) := by
  have ht := h.conf t
  by_cases hp : s.pc t = .idle
  · rw [hp] at ht
    rw [step_inv_idle noPred _ mutexProg g t ht rfl rfl]
    exact relM_apply g s _ t _ _ h (fun u => by simp only [lastRetB_snoc, retB, h.res u, ite_self])
      (by simp [ir_sem, hp, h.word])
  · have e2 : stepM s (.tryStart t) = s := by simp only [stepM]
    rw [step_inv_busy noPred _ mutexProg g t _ (by rw [ht]; exact mt (confM_idle_iff _).1 hp), e2]; exact h

theorem simM_tau (g : GState) (s : MSt) (t : Nat) (h : RelM g s) :
    RelM (step mutexProg noPred g (.tau t)) (stepM s (tauM s t)) := by
  have ht := h.conf t
  have hw := h.word
  cases hp : s.pc t with
  | idle =>
    rw [hp] at ht
    have e2 : stepM s (tauM s t) = s := by simp [hp]
    rw [step_tau_halted noPred mutexProg g t (by rw [ht]; rfl), e2]; exact h
  | cas1 =>
    rw [step_tau_run noPred mutexProg g t (by rw [ht, hp, confM])]
    by_cases h0 : s.word = 0#32 <;> exact relM_apply g s _ t g.hist _ h h.res (by simp [ir_sem, hp, hw, h0])
  | load =>
    rw [step_tau_run noPred mutexProg g t (by rw [ht, hp, confM])]
    by_cases hm : s.word &&& 7#32 = 0#32 <;> exact relM_apply g s _ t g.hist _ h h.res (by simp [ir_sem, hp, hw, hm])
  | cas2 old =>
    rw [step_tau_run noPred mutexProg g t (by rw [ht, hp, confM])]
    by_cases hv : s.word = old <;> exact relM_apply g s _ t g.hist _ h h.res (by simp [ir_sem, hp, hw, hv])

theorem env_pc_res (s : MSt) (e : EnvAct) : (stepM s e.toM).pc = s.pc ∧ (stepM s e.toM).res = s.res := by
  have m := Got.Lemmas.Atomics.stepM_move s e.toM
  generalize stepM s e.toM = s' at m ⊢
  rcases m with rfl | m
  · exact ⟨rfl, rfl⟩
  · cases e <;> cases m <;> exact ⟨rfl, rfl⟩

theorem simM_env (g : GState) (s : MSt) (e : EnvAct) (h : RelM g s) :
    RelM { g with mem := { g.mem with cell32 := (stepM s e.toM).word } } (stepM s e.toM) := by
  obtain ⟨hpc, hres⟩ := env_pc_res s e
  exact ⟨rfl, fun t => by rw [hpc]; exact h.conf t, fun t => by rw [hres]; exact h.res t⟩

theorem mxInit_rel (w : Word) : RelM (mxInit w) (initM w) := ⟨rfl, fun _ => rfl, fun _ => rfl⟩

theorem mxStep_rel (x : Mx) (a : MxAct) (h : RelM x.g x.s) : RelM (mxStep x a).g (mxStep x a).s := by
  cases a with
  | invoke t => exact simM_invoke x.g x.s t h
  | tau t => exact simM_tau x.g x.s t h
  | env e => exact simM_env x.g x.s e h

/-- the hand-written action a joint step performs in state `s` -/
def mxAct (s : Got.Model.Atomics.MSt) : MxAct → Got.Model.Atomics.MAct
  | .invoke t => .tryStart t
  | .tau t => tauM s t
  | .env e => e.toM

theorem mxRun_rel (w : Word) (acts : List MxAct) :
    RelM (mxRun w acts).g (mxRun w acts).s ∧ ∃ macts, (mxRun w acts).s = runM (initM w) macts :=
  ⟨Got.Lemmas.Lts.foldl_inv (P := fun x : Mx => RelM x.g x.s) mxStep_rel acts (mxInit_rel w),
    _, Got.Lemmas.Lts.foldl_sim (R := fun (x : Mx) s => x.s = s) mxAct (fun x _ a e => by cases e; cases a <;> rfl) acts rfl⟩

/-- Count(): for every state word the translated source returns `count w` (as an `int`) -/
theorem count_gen (w : Word) :
    ∃ r : BitVec 64, (countRun w).hist = [(0, Ev.inv 1 []), (0, Ev.ret (some (.i64 r)))] ∧
      r.toInt = Got.Model.Atomics.count w := by
  have run : (countRun w).hist =
      [(0, Ev.inv 1 []), (0, Ev.ret (some (.i64 ((w.sshiftRight 3 + (w &&& 1#32)).signExtend 64))))] := by
    simp [ir_sem, countRun, mxInit, mutexProg, step, stepThread, GState.apply, count, Got.Model.AtomicIR.upd]
  refine ⟨_, run, ?_⟩
  rw [BitVec.toInt_signExtend_of_le (by decide)]
  simp [Got.Model.Atomics.count, Got.Lemmas.Atomics.mShift_eq]

end Got.Lemmas.AtomicsAst
