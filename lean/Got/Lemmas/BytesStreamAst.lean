import Got.Lemmas.CodecAst
import Got.Lemmas.BytesStream
import Got.Model.BytesStreamAst
/-
Translator tie of C13 (iox.OctetsStream): interpreting the generated term of a method in a state `⟨buf, pos, alloc⟩` with
`pos ≤ len buf` returns the encoding of the result of the model `Got.Model.Bytes.Stream` and ends in the model's state.
`mdl buf pos` is the model's stream with the same bytes (the model holds bytes as `Nat`, the embedding as `BitVec 8`),
`conc s a` goes back.  A primed theorem is about a term that `CodecAst` ties to the codec model: same term, result here.
-/
namespace Got.Lemmas.BytesStreamAst
open Got.Model.MiniGoBytes Got.Generated.AstIox Got.Lemmas.CodecAst
open Got.Model.Bytes (Stream wrap64)
open Got.Model.BytesStreamAst (astCall outState astRun)

def mdl (buf : List Byte) (pos : Nat) : Stream := ⟨buf.map BitVec.toNat, pos⟩

/-- `a` = ghost allocation counter, untouched by these methods -/
def conc (s : Stream) (a : Nat) : St := ⟨s.buf.map (BitVec.ofNat 8), (s.pos : Int), a⟩

theorem map_ofNat_toNat (l : List Byte) : l.map (BitVec.ofNat 8 ∘ BitVec.toNat) = l :=
  List.map_id'' (fun b => (BitVec.ofNat_toNat 8 b).trans (BitVec.setWidth_eq b)) l

theorem conc_mdl (buf : List Byte) (pos a : Nat) : conc (mdl buf pos) a = ⟨buf, pos, a⟩ := by
  simp [conc, mdl, map_ofNat_toNat]

theorem mdl_conc_inv (buf : List Byte) (pos a : Nat) :
    mdl (conc (mdl buf pos) a).buffer (conc (mdl buf pos) a).position.toNat = mdl buf pos := by
  simp [conc_mdl]

def cvS : Stream.Err → Option Err
  | .nil => none
  | .invalidArgument => some .InvalidArgument
  | .notEnoughData => some .NotEnoughData

/-- what the translated `Bytes()` returns for the model's `bytes?` (`none` = Go panic: slice bounds out of range) -/
def bytesOut (st : St) : Option (List Nat) → Out
  | some bs => .ret [.bytes (bs.map (BitVec.ofNat 8))] [] st
  | none => .panic

theorem s_bytes_ast (buf : List Byte) (pos a : Nat) (fuel : Nat) (hf : 2 ≤ fuel) :
    run table "OctetsStream.Bytes" fuel [] ⟨buf, pos, a⟩ = some (bytesOut ⟨buf, pos, a⟩ (mdl buf pos).bytes?) := by
  refine (run_table (fn := OctetsStream_Bytes) 2 hf _ _ rfl).trans ?_
  simp only [OctetsStream_Bytes]
  have hn : ¬ ((pos : Int) < 0) := by omega
  by_cases h : pos ≤ buf.length
  · have h1 : ¬ ((buf.length : Int) < (pos : Int)) := by omega
    ast_eval [hn, h1]
    simp [mdl, Stream.bytes?, h, bytesOut, ← List.map_drop, map_ofNat_toNat]
  · have h1 : (buf.length : Int) < (pos : Int) := by omega
    ast_eval [hn, h1]
    simp [mdl, Stream.bytes?, h, bytesOut]

theorem bytes_ast_ok (buf : List Byte) (pos a : Nat) (fuel : Nat) (hf : 2 ≤ fuel) (hp : pos ≤ buf.length) :
    run table "OctetsStream.Bytes" fuel [] ⟨buf, pos, a⟩ = some (.ret [.bytes (buf.drop pos)] [] ⟨buf, pos, a⟩) := by
  rw [s_bytes_ast buf pos a fuel hf, mdl, Stream.bytes?, List.length_map, if_pos hp, bytesOut, ← List.map_drop,
    List.map_map, map_ofNat_toNat]

/-- a method without results that ends in the model's stream `s` -/
def unitOut (s : Stream) (a : Nat) : Out := .ret [] [] (conc s a)

theorem s_reset_ast (buf : List Byte) (pos a : Nat) (fuel : Nat) (hf : 4 ≤ fuel) :
    run table "OctetsStream.Reset" fuel [] ⟨buf, pos, a⟩ = some (unitOut (mdl buf pos).reset a) := by
  refine (run_table (fn := OctetsStream_Reset) 4 hf _ _ rfl).trans ?_
  simp only [OctetsStream_Reset]
  have h0 : ¬ ((buf.length : Int) < 0) := by omega
  ast_eval [Val.sliceTo, sliceList, h0]
  simp [unitOut, conc, Stream.reset]

theorem s_len_ast (buf : List Byte) (pos a : Nat) (fuel : Nat) (hf : 2 ≤ fuel) :
    run table "OctetsStream.Len" fuel [] ⟨buf, pos, a⟩ = some (.ret [.int (mdl buf pos).len] [] ⟨buf, pos, a⟩) := by
  refine (run_table (fn := OctetsStream_Len) 2 hf _ _ rfl).trans ?_
  simp only [OctetsStream_Len]
  ast_eval
  simp [mdl, Stream.len]

theorem s_position_ast (buf : List Byte) (pos a : Nat) (fuel : Nat) (hf : 2 ≤ fuel) :
    run table "OctetsStream.Position" fuel [] ⟨buf, pos, a⟩ =
      some (.ret [.int (mdl buf pos).position] [] ⟨buf, pos, a⟩) := by
  refine (run_table (fn := OctetsStream_Position) 2 hf _ _ rfl).trans ?_
  simp only [OctetsStream_Position]
  ast_eval
  simp [mdl, Stream.position]

theorem copyInto_tidy (buf : List Byte) (pos : Nat) (h : pos ≤ buf.length) :
    (copyInto buf (buf.drop pos)).length = buf.length ∧
    (copyInto buf (buf.drop pos)).take (buf.length - pos) = buf.drop pos := by
  unfold copyInto
  have hl : (buf.drop pos).length = buf.length - pos := List.length_drop
  have ht : (buf.drop pos).take buf.length = buf.drop pos := List.take_of_length_le (by omega)
  rw [ht]
  refine ⟨by simp only [List.length_append, List.length_drop]; omega, ?_⟩
  rw [List.take_append_of_le_length (by omega), List.take_of_length_le (by omega)]

theorem mdl_tidy (buf : List Byte) (pos : Nat) : (mdl buf pos).tidy = mdl (buf.drop pos) 0 := by
  rw [Got.Lemmas.Bytes.stream_tidy_eq, mdl, mdl, List.map_drop]

theorem s_tidy_ast (buf : List Byte) (pos a : Nat) (fuel : Nat) (hf : 8 ≤ fuel) (hp : pos ≤ buf.length) :
    run table "OctetsStream.Tidy" fuel [] ⟨buf, pos, a⟩ = some (unitOut (mdl buf pos).tidy a) := by
  refine (run_table (fn := OctetsStream_Tidy) 8 hf _ _ rfl).trans ?_
  rw [mdl_tidy buf pos]
  simp only [OctetsStream_Tidy, unitOut, conc_mdl]
  by_cases h : 0 < pos
  · have h1 : (0 : Int) < (pos : Int) := by omega
    have hn : ¬ ((pos : Int) < 0 ∨ (buf.length : Int) < (pos : Int)) := by omega
    obtain ⟨hl, ht⟩ := copyInto_tidy buf pos hp
    have h2 : ¬ ((buf.length : Int) - (pos : Int) < 0 ∨
        (buf.length : Int) < (buf.length : Int) - (pos : Int)) := by omega
    have h3 : ((buf.length : Int) - (pos : Int)).toNat = buf.length - pos := by omega
    ast_eval [h1, hn, Val.sliceTo, sliceList, hl, h2, h3, ht, List.drop_zero]
    rfl
  · have h0 : pos = 0 := by omega
    subst h0
    ast_eval [Int.natCast_zero, Int.lt_irrefl, List.drop_zero]

/-- a writer: result `nil`, the slice parameter (if any) unchanged, the model's state -/
def wOut (outs : List (Option (List Byte))) (s : Stream) (a : Nat) : Out := .ret [.err none] outs (conc s a)

theorem writeOut_mdl (buf : List Byte) (pos a : Nat) (bs : List Byte) (pay : List Nat) (hpay : bs.map BitVec.toNat = pay) :
    writeOut ⟨buf, pos, a⟩ bs = wOut [none] ((mdl buf pos).append pay) a := by
  subst hpay
  simp [writeOut, wOut, conc, mdl, Stream.append, map_ofNat_toNat]

theorem s_write_ast' (buf data : List Byte) (pos a : Nat) (fuel : Nat) (hf : 5 ≤ fuel) :
    run table "OctetsStream.Write" fuel [.bytes data] ⟨buf, pos, a⟩ =
      some (wOut [some data] ((mdl buf pos).write (data.map BitVec.toNat)) a) := by
  rw [s_write_ast data _ fuel hf, Got.Lemmas.Codec.writeRaw_eq, Got.Lemmas.Bytes.write_eq_append]
  simp [wOut, conc, mdl, Stream.append, map_ofNat_toNat]

theorem s_writeByte_ast' (buf : List Byte) (b : Byte) (pos a : Nat) (fuel : Nat) (hf : 3 ≤ fuel) :
    run table "OctetsStream.WriteByte" fuel [.bv 8 false b] ⟨buf, pos, a⟩ =
      some (wOut [none] ((mdl buf pos).append [b.toNat]) a) := by
  rw [s_writeByte_ast b _ fuel hf, writeOut_mdl buf pos a _ _ rfl]
  rfl

def byteOut (a : Nat) : Stream × Stream.Out → Out
  | (s, .byte b e) => .ret [.bv 8 false (BitVec.ofNat 8 b), .err (cvS e)] [] (conc s a)
  | _ => .panic

theorem mdl_readByte_lt (buf : List Byte) (pos : Nat) (h : pos < buf.length) :
    (mdl buf pos).readByte = (mdl buf (pos + 1), .byte buf[pos].toNat .nil) := by
  have h1 : ¬ (pos ≥ (buf.map BitVec.toNat).length) := by simp; omega
  simp only [Stream.readByte, mdl, h1, if_false]
  simp [List.getD_eq_getElem?_getD, h]

theorem mdl_readByte_ge (buf : List Byte) (pos : Nat) (h : buf.length ≤ pos) :
    (mdl buf pos).readByte = (mdl buf pos, .byte 0 .notEnoughData) := by
  have h1 : pos ≥ (buf.map BitVec.toNat).length := by simp; omega
  simp only [Stream.readByte, mdl, h1, if_true]

theorem s_readByte_ast' (buf : List Byte) (pos a : Nat) (fuel : Nat) (hf : 5 ≤ fuel) :
    run table "OctetsStream.ReadByte" fuel [] ⟨buf, pos, a⟩ = some (byteOut a (mdl buf pos).readByte) := by
  rw [s_readByte_ast buf pos a fuel hf]
  by_cases h : pos < buf.length
  · rw [Got.Lemmas.Codec.readByte_lt buf pos h, mdl_readByte_lt buf pos h]
    simp [byteOut, readOut, conc_mdl, cvS]
  · rw [Got.Lemmas.Codec.readByte_ge buf pos (by omega), mdl_readByte_ge buf pos (by omega)]
    simp [byteOut, readOut, conc_mdl, cvS, cv]

/-! Seek: `num` is an `int64` in the Go code.  The embedding holds it as `BitVec 64` (addition wraps, `<` is the signed
comparison `slt`), the model as an `Int` re-normalised by `wrap64`. -/

theorem toInt_ofInt64 (o : Int) (h : -(2 ^ 63 : Int) ≤ o ∧ o < 2 ^ 63) : (BitVec.ofInt 64 o).toInt = o :=
  BitVec.toInt_ofInt_eq_self (by decide) h.1 h.2

theorem add_toInt_wrap (x o : BitVec 64) (num : Int) (hx : x.toInt = num) :
    (x + o).toInt = wrap64 (num + o.toInt) := by
  rw [BitVec.toInt_add, hx]
  unfold wrap64 Int.bmod
  simp only [Int.reducePow, Nat.reducePow, Int.cast_ofNat_Int] at *
  omega

theorem eq_ofNat_of_toInt (v : BitVec 64) (N : Int) (h : v.toInt = N) (h0 : 0 ≤ N) : v = BitVec.ofNat 64 N.toNat := by
  rw [← BitVec.ofInt_toInt (x := v), h, ← BitVec.ofInt_natCast]
  congr 1
  omega

/-- the model's `go num` inside `seek` -/
def goM (buf : List Byte) (pos : Nat) (num o : Int) : Stream × Stream.Out :=
  if wrap64 (num + o) < 0 ∨ wrap64 (num + o) > (buf.length : Int) then (mdl buf pos, .seek 0 .invalidArgument)
  else (mdl buf (wrap64 (num + o)).toNat, .seek (wrap64 (num + o)).toNat .nil)

theorem mdl_seek (buf : List Byte) (pos : Nat) (o w : Int) :
    (mdl buf pos).seek o w =
      if w = 0 then (if o < 0 then (mdl buf pos, .seek 0 .invalidArgument) else goM buf pos 0 o)
      else if w = 1 then goM buf pos pos o
      else if w = 2 then goM buf pos buf.length o
      else (mdl buf pos, .seek 0 .invalidArgument) := by
  unfold Stream.seek goM mdl
  simp only [List.length_map]

def seekOut (a : Nat) : Stream × Stream.Out → Out
  | (s, .seek r e) => .ret [.bv 64 true (BitVec.ofNat 64 r), .err (cvS e)] [none, none] (conc s a)
  | _ => .panic

/-- the statements of `Seek` after the `switch whence` (`num += offset` … `return num, nil`) -/
def seekTail : List Stmt := OctetsStream_Seek.body.drop 2

/-- `a1` (`whence`) is read only by the `return`s, which report the parameters' slices (`outsOf`: it is no slice) -/
theorem seek_tail_ast (buf : List Byte) (pos a : Nat) (env : Env) (x o : BitVec 64) (num : Nat) (w : Int) (f : Nat)
    (hx : x.toInt = num) (hL : (buf.length : Int) < 2 ^ 63)
    (hv0 : env.lookup "v0" = some (.bv 64 true x)) (ha0 : env.lookup "a0" = some (.bv 64 true o))
    (ha1 : env.lookup "a1" = some (.int w)) :
    finish ["a0", "a1"] (exec table ["a0", "a1"] (f + 6) seekTail env ⟨buf, pos, a⟩) =
      some (seekOut a (goM buf pos num o.toInt)) := by
  have hv : (x + o).toInt = wrap64 ((num : Int) + o.toInt) := add_toInt_wrap x o num hx
  have hlen : (BitVec.ofInt 64 (buf.length : Int)).toInt = buf.length := toInt_ofInt64 _ ⟨by omega, hL⟩
  have hz : (0#64 : BitVec 64).toInt = 0 := by decide
  simp only [seekTail, OctetsStream_Seek, List.drop]
  unfold goM
  generalize wrap64 ((num : Int) + o.toInt) = N at hv
  by_cases h1 : N < 0
  · rw [if_pos (Or.inl h1)]
    ast_eval [hv0, ha0, ha1, BitVec.slt, hv, hlen, hz, h1]
    simp [seekOut, conc_mdl, cvS]
  · by_cases h2 : (buf.length : Int) < N
    · rw [if_pos (Or.inr h2)]
      ast_eval [hv0, ha0, ha1, BitVec.slt, hv, hlen, hz, h1, h2]
      simp [seekOut, conc_mdl, cvS]
    · rw [if_neg (not_or.2 ⟨h1, h2⟩)]
      have hN : ((N.toNat : Nat) : Int) = N := Int.toNat_of_nonneg (Int.not_lt.mp h1)
      ast_eval [hv0, ha0, ha1, BitVec.slt, hv, hlen, hz, h1, h2]
      simp [seekOut, conc_mdl, cvS, hN, ← eq_ofNat_of_toInt (x + o) N hv (Int.not_lt.mp h1)]

theorem s_seek_ast (buf : List Byte) (pos a : Nat) (o : BitVec 64) (w : Int) (fuel : Nat) (hf : 16 ≤ fuel)
    (hp : pos ≤ buf.length) (hL : (buf.length : Int) < 2 ^ 63) :
    run table "OctetsStream.Seek" fuel [.bv 64 true o, .int w] ⟨buf, pos, a⟩ =
      some (seekOut a ((mdl buf pos).seek o.toInt w)) := by
  refine (run_table (fn := OctetsStream_Seek) 16 hf _ _ rfl).trans ?_
  rw [mdl_seek, ← List.take_append_drop 2 OctetsStream_Seek.body]
  simp only [OctetsStream_Seek, List.take, List.cons_append, List.nil_append]
  change finish _ (exec _ _ _ (_ :: _ :: seekTail) _ _) = _
  have hz : (0#64 : BitVec 64).toInt = 0 := by decide
  -- the `switch`: an early return, or `num` set to 0 / position / length, each a non-negative int64
  by_cases hw0 : w = 0
  · subst hw0
    rw [if_pos rfl]
    by_cases hneg : o.toInt < 0
    · rw [if_pos hneg]
      ast_eval [BitVec.slt, hz, hneg]
      simp [seekOut, conc_mdl, cvS]
    · rw [if_neg hneg]
      ast_eval [BitVec.slt, hz, hneg]
      exact seek_tail_ast buf pos a _ 0#64 o 0 0 _ hz hL rfl rfl rfl
  · rw [if_neg hw0]
    by_cases hw1 : w = 1
    · subst hw1
      rw [if_pos rfl]
      ast_eval [BitVec.slt, hz, Int.reduceEq]
      exact seek_tail_ast buf pos a _ _ o pos 1 _ (toInt_ofInt64 pos (by omega)) hL rfl rfl rfl
    · rw [if_neg hw1]
      by_cases hw2 : w = 2
      · subst hw2
        rw [if_pos rfl]
        ast_eval [BitVec.slt, hz, Int.reduceEq]
        exact seek_tail_ast buf pos a _ _ o buf.length 2 _ (toInt_ofInt64 _ ⟨by omega, hL⟩) hL rfl rfl rfl
      · rw [if_neg hw2]
        ast_eval [hw0, hw1, hw2]
        simp [seekOut, conc_mdl, cvS]

theorem mdl_read_zero (buf : List Byte) (pos : Nat) : (mdl buf pos).read 0 = (mdl buf pos, .read [] .invalidArgument) := by
  simp [Stream.read]

theorem mdl_read (buf : List Byte) (pos k : Nat) (hk : k ≠ 0) (h : pos ≤ buf.length) :
    (mdl buf pos).read k = (mdl buf (pos + min k (buf.length - pos)),
      .read (((buf.drop pos).take (min k (buf.length - pos))).map BitVec.toNat) .nil) := by
  have hrel : Got.Spec.Bytes.StreamRel (mdl buf pos) _ :=
    Got.Lemmas.Bytes.Rep.self (by rw [mdl, List.length_map]; exact h)
  rw [Got.Lemmas.Bytes.stream_read_eq hrel hk, List.take_eq_take_min (i := k)]
  simp only [Got.Spec.Bytes.Ghost.unread, mdl, List.length_drop, List.length_map, List.map_take, List.map_drop]

/-- the translated `Read(dst)`: through the slice parameter the caller gets `dst` with the data copied over its first bytes -/
def readOut' (a : Nat) (dst : List Byte) : Stream × Stream.Out → Out
  | (s, .read data e) =>
    .ret [.int data.length, .err (cvS e)] [some (data.map (BitVec.ofNat 8) ++ dst.drop data.length)] (conc s a)
  | _ => .panic

theorem copyInto_read (buf dst : List Byte) (pos n : Nat) (hn : n ≤ dst.length) (hpn : pos + n ≤ buf.length) :
    copyInto dst ((buf.take (pos + n)).drop pos) = (buf.drop pos).take n ++ dst.drop n := by
  have e : (buf.take (pos + n)).drop pos = (buf.drop pos).take n := by
    rw [List.drop_take]; congr 1; omega
  have hl : ((buf.drop pos).take n).length = n := by
    rw [List.length_take, List.length_drop]; omega
  unfold copyInto
  rw [e, hl, List.take_of_length_le (by omega)]

/-- the statements of `Read` after the size has been clamped (`copy`, `position +=`, `return`) -/
def readTail : List Stmt := OctetsStream_Read.body.drop 5

theorem read_tail_ast (buf dst : List Byte) (pos a n f : Nat) (env : Env) (N : Int) (hN : N = n) (hn : n ≤ dst.length)
    (hpn : pos + n ≤ buf.length) (hv0 : env.lookup "v0" = some (.int N))
    (ha0 : env.lookup "a0" = some (.bytes dst)) :
    finish ["a0"] (exec table ["a0"] (f + 4) readTail env ⟨buf, pos, a⟩) =
      some (readOut' a dst (mdl buf (pos + n), .read (((buf.drop pos).take n).map BitVec.toNat) .nil)) := by
  subst hN
  have h4 : ¬ ((pos : Int) < 0 ∨ (pos : Int) + (n : Int) < (pos : Int) ∨
      (buf.length : Int) < (pos : Int) + (n : Int)) := by omega
  have h5 : ((pos : Int) + (n : Int)).toNat = pos + n := by omega
  simp only [readTail, OctetsStream_Read, List.drop]
  ast_eval [hv0, ha0, Val.slice, sliceList, h4, h5, copyInto_read buf dst pos n hn hpn]
  simp [readOut', conc_mdl, cvS, map_ofNat_toNat]
  omega

theorem s_read_ast (buf dst : List Byte) (pos a : Nat) (fuel : Nat) (hf : 14 ≤ fuel) (hp : pos ≤ buf.length) :
    run table "OctetsStream.Read" fuel [.bytes dst] ⟨buf, pos, a⟩ =
      some (readOut' a dst ((mdl buf pos).read dst.length)) := by
  refine (run_table (fn := OctetsStream_Read) 14 hf _ _ rfl).trans ?_
  rw [← List.take_append_drop 5 OctetsStream_Read.body]
  simp only [OctetsStream_Read, List.take, List.cons_append, List.nil_append]
  change finish _ (exec _ _ _ (_ :: _ :: _ :: _ :: _ :: readTail) _ _) = _
  by_cases hk : dst.length = 0
  · have hd : dst = [] := List.eq_nil_of_length_eq_zero hk
    subst hd
    rw [List.length_nil, mdl_read_zero]
    ast_eval [Int.natCast_zero, Int.reduceEq]
    simp [readOut', conc_mdl, cvS]
  · have hk' : ¬ ((dst.length : Int) = 0) := by omega
    rw [mdl_read buf pos _ hk hp]
    by_cases he : pos = buf.length
    · subst he
      ast_eval [hk', Int.sub_self]
      simp [readOut', conc_mdl, cvS]
    · have hr : ¬ ((buf.length : Int) - (pos : Int) = 0) := by omega
      -- `if readSize > remainSize { readSize = remainSize }`
      by_cases hlt : buf.length - pos < dst.length
      · have h3 : (buf.length : Int) - (pos : Int) < (dst.length : Int) := by omega
        rw [Nat.min_eq_right (Nat.le_of_lt hlt)]
        ast_eval [hk', hr, h3]
        exact read_tail_ast buf dst pos a _ _ _ _ (Int.ofNat_sub hp).symm (Nat.le_of_lt hlt) (Nat.le_of_eq (Nat.add_sub_cancel' hp)) rfl rfl
      · have h3 : ¬ ((buf.length : Int) - (pos : Int) < (dst.length : Int)) := by omega
        rw [Nat.min_eq_left (Nat.le_of_not_lt hlt)]
        ast_eval [hk', hr, h3]
        exact read_tail_ast buf dst pos a _ _ _ _ rfl (Nat.le_refl _) (Nat.add_le_of_le_sub' hp (Nat.le_of_not_lt hlt)) rfl rfl

/-! The generated terms of WriteBool and WriteInt16/32/64 are tied to the codec model in `CodecAst`; the bridges show that the
codec model's bytes are this model's `payload` (`leBytes`: `byte(d >> s)` computed on the `Int` the op carries) for every
argument in the range of the Go type. -/
section fixed
open Got.Model.Codec (writeBool writeFixed)

theorem setWidth8_toNat {w : Nat} (h : 8 ≤ w) (y : BitVec w) : ((y.setWidth 8).toNat : Int) = y.toInt % 256 := by
  have hd : (256 : Int) ∣ ((2 ^ w : Nat) : Int) := Int.natCast_dvd_natCast.2 (Nat.pow_dvd_pow 2 h)
  rw [BitVec.toNat_setWidth, BitVec.toInt_eq_toNat_bmod, ← Int.emod_emod_of_dvd _ hd, Int.bmod_emod,
    Int.emod_emod_of_dvd _ hd]
  rfl

theorem setWidth8_ofInt {w : Nat} (h8 : 8 ≤ w) {d : Int} (h : -2 ^ (w - 1) ≤ d ∧ d < 2 ^ (w - 1)) (s : Nat) :
    (((BitVec.ofInt w d).sshiftRight s).setWidth 8).toNat = Stream.byteOf d s := by
  rw [Stream.byteOf, ← Int.toNat_natCast (BitVec.toNat _), setWidth8_toNat h8, BitVec.toInt_sshiftRight,
    BitVec.toInt_ofInt_eq_self (by omega) h.1 h.2]

theorem writeBool_bridge (b : Bool) :
    (writeBool b).map BitVec.toNat = (Stream.Op.writeBool b).payload.getD [] := by
  cases b <;> rfl

theorem writeFixed_bridge {w : Nat} (h8 : 8 ≤ w) (shifts : List Int) {d : Int} (h : -2 ^ (w - 1) ≤ d ∧ d < 2 ^ (w - 1)) :
    (writeFixed shifts (BitVec.ofInt w d)).map BitVec.toNat = Stream.leBytes shifts d := by
  rw [writeFixed, Stream.leBytes, List.map_cons, List.map_map, ← setWidth8_ofInt h8 h 0, BitVec.sshiftRight_zero]
  exact congrArg _ (List.map_congr_left fun s _ => setWidth8_ofInt h8 h s.toNat)

end fixed

open Got.Lemmas.Bytes (StreamOpSize streamSizes)

/-- the values the Go parameter types can hold -/
def AstDom : Stream.Op → Prop
  | .write p => ∀ b ∈ p, b < 256
  | .writeByte b => b < 256
  | .seek o _ => -(2 ^ 63 : Int) ≤ o ∧ o < 2 ^ 63
  | .writeInt16 d => -(2 ^ 15 : Int) ≤ d ∧ d < 2 ^ 15
  | .writeInt32 d => -(2 ^ 31 : Int) ≤ d ∧ d < 2 ^ 31
  | .writeInt64 d => -(2 ^ 63 : Int) ≤ d ∧ d < 2 ^ 63
  | .writeBool _ => True
  | .read _ => True
  | .readByte => True
  | .tidy => True
  | .reset => True

instance : DecidablePred AstDom := fun op => by
  cases op <;> unfold AstDom <;> infer_instance

/-- the Go-level outcome that encodes the model's result of `op` -/
def encOut (a : Nat) (op : Stream.Op) (r : Stream × Stream.Out) : Out :=
  match op with
  | .write p => wOut [some (p.map (BitVec.ofNat 8))] r.1 a
  | .writeByte _ => wOut [none] r.1 a
  | .read k => readOut' a (List.replicate k 0) r
  | .readByte => byteOut a r
  | .tidy => unitOut r.1 a
  | .reset => unitOut r.1 a
  | .seek _ _ => seekOut a r
  | _ => wOut [none] r.1 a

def encRun (a : Nat) : Stream → List Stream.Op → List Out
  | _, [] => []
  | s, op :: ops => encOut a op (s.step op) :: encRun a (s.step op).1 ops

theorem map_toNat_ofNat (p : List Nat) (h : ∀ b ∈ p, b < 256) : (p.map (BitVec.ofNat 8)).map BitVec.toNat = p := by
  rw [List.map_map]
  exact (List.map_congr_left fun b hb => (BitVec.toNat_ofNat b 8).trans (Nat.mod_eq_of_lt (h b hb))).trans (List.map_id p)

theorem AstDom.valid {op : Stream.Op} (h : AstDom op) : Got.Spec.Bytes.StreamOpValid op := by
  cases op with
  | seek o w => exact h
  | _ => trivial

theorem mdl_seek_cases (buf : List Byte) (pos : Nat) (o w : Int) (hp : pos ≤ buf.length)
    (ho : -(2 ^ 63 : Int) ≤ o ∧ o < 2 ^ 63) (hL : (buf.length : Int) < 2 ^ 63) :
    (∃ pos', pos' ≤ buf.length ∧ (mdl buf pos).seek o w = (mdl buf pos', .seek pos' .nil)) ∨
    (mdl buf pos).seek o w = (mdl buf pos, .seek 0 .invalidArgument) := by
  have hlen : (mdl buf pos).buf.length = buf.length := List.length_map _
  have hrel : Got.Spec.Bytes.StreamRel (mdl buf pos) _ := Got.Lemmas.Bytes.Rep.self (hlen ▸ hp)
  rw [Got.Lemmas.Bytes.stream_seek_eq hrel w ho (by rw [hlen]; exact hL)]
  split
  · next hok => exact Or.inl ⟨_, hlen ▸ Got.Lemmas.Bytes.Rep.off_le (Got.Lemmas.Bytes.Rep.seek hrel hok), rfl⟩
  · exact Or.inr rfl

/-- the interpreted generated term of the method of `op` returns the encoding of the model's result and ends in the model's
    state, which is valid again -/
def StepOk (fuel : Nat) (buf : List Byte) (pos a : Nat) (op : Stream.Op) : Prop :=
  ∃ (buf' : List Byte) (pos' : Nat), astCall fuel ⟨buf, pos, a⟩ op = some (encOut a op ((mdl buf pos).step op)) ∧
    outState (encOut a op ((mdl buf pos).step op)) = some ⟨buf', pos', a⟩ ∧
    ((mdl buf pos).step op).1 = mdl buf' pos' ∧ pos' ≤ buf'.length ∧
    buf'.length ≤ buf.length + StreamOpSize op

theorem StepOk.intro {fuel : Nat} {buf : List Byte} {pos a : Nat} {op : Stream.Op} (buf' : List Byte) (pos' : Nat)
    (out : Stream.Out) (hcall : astCall fuel ⟨buf, pos, a⟩ op = some (encOut a op ((mdl buf pos).step op)))
    (hstep : (mdl buf pos).step op = (mdl buf' pos', out))
    (hst : outState (encOut a op (mdl buf' pos', out)) = some (conc (mdl buf' pos') a))
    (hp' : pos' ≤ buf'.length) (hlen : buf'.length ≤ buf.length + StreamOpSize op) : StepOk fuel buf pos a op :=
  ⟨buf', pos', hcall, by rw [hstep, hst, conc_mdl], by rw [hstep], hp', hlen⟩

theorem StepOk.writer {fuel : Nat} {buf : List Byte} {pos a : Nat} (hp : pos ≤ buf.length) (op : Stream.Op)
    (outs : List (Option (List Byte))) (bs : List Byte) (hpay : bs.map BitVec.toNat = op.payload.getD [])
    (hstep : (mdl buf pos).step op = ((mdl buf pos).append (op.payload.getD []), .err .nil))
    (henc : ∀ r, encOut a op r = wOut outs r.1 a)
    (hcall : astCall fuel ⟨buf, pos, a⟩ op = some (wOut outs ((mdl buf pos).append (bs.map BitVec.toNat)) a)) :
    StepOk fuel buf pos a op := by
  have happ : (mdl buf pos).append (op.payload.getD []) = mdl (buf ++ bs) pos := by
    rw [← hpay, mdl, mdl, Stream.append, List.map_append]
  refine .intro (buf ++ bs) pos (.err .nil) ?_ (by rw [hstep, happ]) (by rw [henc]; rfl)
    (Nat.le_trans hp (by simp)) ?_
  · rw [hstep, henc, hcall, hpay]
  · rw [StreamOpSize, ← hpay, List.length_append, List.length_map]
    exact Nat.le_refl _

/-- 16 is the largest of the per-method fuel bounds, that of `Seek` -/
theorem ast_step (fuel : Nat) (hf : 16 ≤ fuel) (buf : List Byte) (pos a : Nat) (hp : pos ≤ buf.length)
    (op : Stream.Op) (hop : AstDom op) (hL : ((buf.length + StreamOpSize op : Nat) : Int) < 2 ^ 63) :
    StepOk fuel buf pos a op := by
  have hL0 : (buf.length : Int) < 2 ^ 63 := by omega
  cases op with
  | write p =>
    exact .writer hp _ [some (p.map (BitVec.ofNat 8))] (p.map (BitVec.ofNat 8)) (map_toNat_ofNat p hop)
      (by rw [Stream.step, Got.Lemmas.Bytes.write_eq_append]; rfl) (fun _ => rfl)
      (by rw [astCall, s_write_ast' buf _ pos a fuel (Nat.le_trans (by decide) hf), Got.Lemmas.Bytes.write_eq_append])
  | writeByte b =>
    exact .writer hp _ [none] [BitVec.ofNat 8 b] (map_toNat_ofNat [b] (by simpa [AstDom] using hop)) rfl (fun _ => rfl)
      (by rw [astCall, s_writeByte_ast' buf _ pos a fuel (Nat.le_trans (by decide) hf)]; rfl)
  | writeBool b =>
    exact .writer hp _ [none] _ (writeBool_bridge b) rfl (fun _ => rfl)
      (by rw [astCall, s_writeBool_ast b _ fuel (Nat.le_trans (by decide) hf), writeOut_mdl buf pos a _ _ rfl])
  | writeInt16 d =>
    exact .writer hp _ [none] (Got.Model.Codec.writeInt16 _) (writeFixed_bridge (w := 16) (by decide) _ hop) rfl (fun _ => rfl)
      (by rw [astCall, s_writeInt16_ast _ _ fuel (Nat.le_trans (by decide) hf), writeOut_mdl buf pos a _ _ rfl])
  | writeInt32 d =>
    exact .writer hp _ [none] (Got.Model.Codec.writeInt32 _) (writeFixed_bridge (w := 32) (by decide) _ hop) rfl (fun _ => rfl)
      (by rw [astCall, s_writeInt32_ast _ _ fuel (Nat.le_trans (by decide) hf), writeOut_mdl buf pos a _ _ rfl])
  | writeInt64 d =>
    exact .writer hp _ [none] (Got.Model.Codec.writeInt64 _) (writeFixed_bridge (w := 64) (by decide) _ hop) rfl (fun _ => rfl)
      (by rw [astCall, s_writeInt64_ast _ _ fuel (Nat.le_trans (by decide) hf), writeOut_mdl buf pos a _ _ rfl])
  | read k =>
    have hcall : astCall fuel ⟨buf, pos, a⟩ (.read k) = some (encOut a (.read k) ((mdl buf pos).step (.read k))) := by
      have := s_read_ast buf (List.replicate k 0) pos a fuel (Nat.le_trans (by decide) hf) hp
      rwa [List.length_replicate] at this
    by_cases hk : k = 0
    · subst hk
      exact .intro buf pos _ hcall (mdl_read_zero buf pos) rfl hp (Nat.le_add_right _ _)
    · exact .intro buf _ _ hcall (mdl_read buf pos k hk hp) rfl (by omega) (Nat.le_add_right _ _)
  | readByte =>
    have hcall := s_readByte_ast' buf pos a fuel (Nat.le_trans (by decide) hf)
    by_cases h : pos < buf.length
    · exact .intro buf _ _ hcall (mdl_readByte_lt buf pos h) rfl h (Nat.le_add_right _ _)
    · exact .intro buf pos _ hcall (mdl_readByte_ge buf pos (by omega)) rfl hp (Nat.le_add_right _ _)
  | tidy =>
    exact .intro _ 0 .unit (s_tidy_ast buf pos a fuel (Nat.le_trans (by decide) hf) hp) (congrArg (·, Stream.Out.unit) (mdl_tidy buf pos)) rfl
      (Nat.zero_le _) (by rw [List.length_drop]; omega)
  | reset =>
    exact .intro [] 0 .unit (s_reset_ast buf pos a fuel (Nat.le_trans (by decide) hf)) rfl rfl (Nat.le_refl _) (Nat.zero_le _)
  | seek o w =>
    have hcall := s_seek_ast buf pos a (BitVec.ofInt 64 o) w fuel hf hp hL0
    rw [toInt_ofInt64 o hop] at hcall
    rcases mdl_seek_cases buf pos o w hp hop hL0 with ⟨p, hple, hs⟩ | hs
    · exact .intro buf p _ hcall hs rfl hple (Nat.le_add_right _ _)
    · exact .intro buf pos _ hcall hs rfl hp (Nat.le_add_right _ _)

theorem ast_run (fuel : Nat) (hf : 16 ≤ fuel) (ops : List Stream.Op) :
    ∀ (buf : List Byte) (pos a : Nat), pos ≤ buf.length → (∀ op ∈ ops, AstDom op) →
      ((buf.length + streamSizes ops : Nat) : Int) < 2 ^ 63 →
      ∃ (buf' : List Byte) (pos' : Nat),
        astRun fuel ⟨buf, pos, a⟩ ops = some (⟨buf', pos', a⟩, encRun a (mdl buf pos) ops) ∧
        ((mdl buf pos).run ops).1 = mdl buf' pos' ∧ pos' ≤ buf'.length := by
  induction ops with
  | nil => intro buf pos a hp _ _; exact ⟨buf, pos, rfl, rfl, hp⟩
  | cons op ops ih =>
    intro buf pos a hp hdom hL
    rw [Got.Lemmas.Bytes.streamSizes_cons] at hL
    obtain ⟨buf1, pos1, hcall, hst, hmdl, hp1, hlen1⟩ :=
      ast_step fuel hf buf pos a hp op (hdom op (by simp)) (by omega)
    obtain ⟨buf', pos', hrun, hfin, hp'⟩ := ih buf1 pos1 a hp1 (fun o ho => hdom o (by simp [ho])) (by omega)
    refine ⟨buf', pos', ?_, ?_, hp'⟩
    · simp only [astRun, hcall, Option.bind_some, hst, encRun, hmdl, hrun, Option.map_some]
    · simp only [Stream.run, hmdl, hfin]

end Got.Lemmas.BytesStreamAst
