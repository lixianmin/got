import Got.Lemmas.CodecRead
/-
What the round trips of C11 rest on.  `wire` writes the wire format of typed values with the specification encoders only;
it and `Val.valid` are words of the C11 statements.
-/
namespace Got.Lemmas.Codec
open Got.Model.Codec Got.Spec.Codec

theorem drop_mid (pre bs rest : List Byte) : (pre ++ bs ++ rest).drop pre.length = bs ++ rest := by
  rw [List.append_assoc, List.drop_left]

/-- what a continuation `k` of the decoder must do on the rest of a LEB128 string whose next digit goes to shift `i` -/
def DecodesAt (buf rest : List Byte) (i : Nat) (k : BitVec 32 → Nat → Res (BitVec 32)) : Prop :=
  ∀ (num : BitVec 32) (pos m : Nat), m < 2 ^ (32 - i) → buf.drop pos = leb128 m ++ rest →
    k num pos = ⟨.ok (num ||| (BitVec.ofNat 32 m <<< i)), pos + (leb128 m).length, 0⟩

theorem step7_leb (buf rest : List Byte) (i : Nat) (k : BitVec 32 → Nat → Res (BitVec 32)) (hi : i + 7 ≤ 32)
    (hk : DecodesAt buf rest (i + 7) k) :
    DecodesAt buf rest i (fun n p => step7 buf i n p k) := by
  intro num pos m hm hd
  show step7 buf i num pos k = _
  by_cases h : m < 128
  · rw [leb128_lt m h] at hd ⊢
    have hv : (BitVec.ofNat 8 m).toNat = m := by
      rw [BitVec.toNat_ofNat]; exact Nat.mod_eq_of_lt (Nat.lt_trans h (by decide))
    have hb : BitVec.ofNat 8 m ≤ 127#8 := BitVec.le_def.2 (by rw [hv]; exact Nat.le_of_lt_succ h)
    rw [step7_of_drop hd, if_pos hb, and_mask_byte, hv, Nat.mod_eq_of_lt h]
    rfl
  · rw [leb128_ge m h] at hd ⊢
    have hv : (BitVec.ofNat 8 (m % 128 + 128)).toNat = m % 128 + 128 := by
      rw [BitVec.toNat_ofNat]; exact Nat.mod_eq_of_lt (Nat.add_lt_add_right (Nat.mod_lt m (by decide)) 128)
    have hb : ¬ BitVec.ofNat 8 (m % 128 + 128) ≤ 127#8 := fun hle => by
      have := BitVec.le_def.1 hle
      rw [hv] at this
      exact absurd (Nat.le_trans (Nat.le_add_left 128 _) this) (by decide)
    rw [step7_of_drop hd, if_neg hb, and_mask_byte, hv, Nat.add_mod_right, Nat.mod_mod]
    have hm' : m / 128 < 2 ^ (32 - (i + 7)) := by
      have e : 2 ^ (32 - i) = 2 ^ (32 - (i + 7)) * 128 := by
        rw [show 32 - i = (32 - (i + 7)) + 7 by omega, Nat.pow_add]
      rw [e] at hm
      exact Nat.div_lt_of_lt_mul (by rw [Nat.mul_comm]; exact hm)
    rw [hk _ (pos + 1) (m / 128) hm' (drop_succ_of_drop hd), BitVec.or_assoc, or_shift_split]
    simp only [List.length_cons]
    congr 1
    rw [Nat.add_assoc, Nat.add_comm 1]

theorem last7_leb (buf rest : List Byte) : DecodesAt buf rest 28 (fun n p => last7 buf n p) := by
  intro num pos m hm hd
  show last7 buf num pos = _
  have hm16 : m < 16 := hm
  have hv : (BitVec.ofNat 8 m).toNat = m := by
    rw [BitVec.toNat_ofNat]; exact Nat.mod_eq_of_lt (Nat.lt_trans hm16 (by decide))
  rw [leb128_lt m (Nat.lt_trans hm16 (by decide))] at hd ⊢
  have hb : ¬ BitVec.ofNat 8 m > 15#8 := fun hgt => by
    have := BitVec.lt_def.1 hgt
    rw [hv] at this
    exact absurd this (Nat.not_lt.2 (Nat.le_of_lt_succ hm16))
  have : (BitVec.ofNat 8 m).setWidth 32 = BitVec.ofNat 32 m :=
    BitVec.eq_of_toNat_eq (by rw [BitVec.toNat_setWidth, hv, BitVec.toNat_ofNat])
  rw [last7_of_drop hd, if_neg hb, this]
  rfl

theorem read7_leb (pre rest : List Byte) (n : Nat) (hn : n < 2 ^ 32) :
    read7 (pre ++ leb128 n ++ rest) pre.length
      = ⟨.ok (BitVec.ofNat 32 n), pre.length + (leb128 n).length, 0⟩ := by
  rw [read7_eq]
  have h := step7_leb _ rest 0 _ (by decide) (step7_leb _ rest 7 _ (by decide) (step7_leb _ rest 14 _ (by decide)
    (step7_leb _ rest 21 _ (by decide) (last7_leb (pre ++ leb128 n ++ rest) rest)))) 0#32 pre.length n
    (by simpa using hn) (drop_mid _ _ _)
  simp only [] at h
  rw [h]
  simp

theorem read7_leb_toNat (pre rest : List Byte) (d : BitVec 32) :
    read7 (pre ++ leb128 d.toNat ++ rest) pre.length = ⟨.ok d, pre.length + (leb128 d.toNat).length, 0⟩ := by
  rw [read7_leb pre rest d.toNat d.isLt, BitVec.ofNat_toNat, BitVec.setWidth_eq]

theorem toInt_ofNat_small (n : Nat) (h : n < 2 ^ 31) : (BitVec.ofNat 32 n).toInt = (n : Int) :=
  (BitVec.toInt_ofNat' n).trans (Int.bmod_eq_of_le (by omega) (by omega))

theorem rt_bytes (l : List Byte) (hl : l.length < 2 ^ 31) (pre rest : List Byte) :
    readBytes (pre ++ (leb128 l.length ++ l) ++ rest) pre.length
      = ⟨.ok l, pre.length + (leb128 l.length ++ l).length, l.length⟩ := by
  have hmod : l.length % 2 ^ 32 = l.length := Nat.mod_eq_of_lt (Nat.lt_trans hl (by decide))
  have hbuf : pre ++ (leb128 l.length ++ l) ++ rest = pre ++ leb128 l.length ++ (l ++ rest) := by simp
  rw [hbuf]
  have h7 := read7_leb pre (l ++ rest) l.length (Nat.lt_trans hl (by decide))
  have hpos : pre.length ≤ (pre ++ leb128 l.length ++ (l ++ rest)).length := by simp
  have hsize : (BitVec.ofNat 32 l.length).toNat = l.length := hmod
  have hint := toInt_ofNat_small l.length hl
  rcases readBytes_char _ _ hpos with ⟨e, p, h7', _⟩ | ⟨size, p, h7', hc⟩
  · rw [h7] at h7'; simp at h7'
  · rw [h7] at h7'
    simp only [Res.mk.injEq, Out.ok.injEq] at h7'
    obtain ⟨hs, hp, _⟩ := h7'
    subst hs hp
    have hdrop : (pre ++ leb128 l.length ++ (l ++ rest)).drop (pre.length + (leb128 l.length).length) = l ++ rest := by
      rw [← List.length_append, List.drop_left]
    cases hc with
    | negative h _ => rw [hint] at h; omega
    | short _ h _ =>
      rw [hsize] at h
      simp only [List.length_append] at h
      omega
    | full _ _ hr =>
      rw [hr, hsize, hdrop, List.take_left]
      simp only [List.length_append, Nat.add_assoc]

/-- the values the codec can carry: a length prefix is an `int32`, and `Read` rejects empty buffers by contract -/
def _root_.Got.Model.Codec.Val.valid : Val → Prop
  | .bytes l => l.length < 2 ^ 31
  | .str l => l.length < 2 ^ 31
  | .raw l => 0 < l.length
  | _ => True

/-- documented wire format of one typed value (.NET BinaryWriter compatible) -/
def wire : Val → List Byte
  | .bool b => leBytes 1 (if b then 1 else 0)
  | .byte b => leBytes 1 b.toNat
  | .i16 d => leBytes 2 (twoCompl 16 d.toInt)
  | .i32 d => leBytes 4 (twoCompl 32 d.toInt)
  | .i64 d => leBytes 8 (twoCompl 64 d.toInt)
  | .v7 d => leb128 (twoCompl 32 d.toInt)
  | .bytes l => prefixed l
  | .str l => prefixed l
  | .raw l => l

theorem map_of_eq_ok {α : Type} (f : α → Val) {r : Res α} {x : α} {p a : Nat} (h : r = ⟨.ok x, p, a⟩) :
    (r.map f).out = .ok (f x) ∧ (r.map f).pos = p := by
  subst h; exact ⟨rfl, rfl⟩

theorem decode_cons {buf : List Byte} {pos p : Nat} {o : Op} {os : List Op} {v : Val} {vs : List Val} {q : Nat}
    (ho : (read1 buf pos o).out = .ok v) (hp : (read1 buf pos o).pos = p) (hd : decode buf p os = some (vs, q)) :
    decode buf pos (o :: os) = some (v :: vs, q) := by
  rcases hr : read1 buf pos o with ⟨o', p', a⟩
  rw [hr] at ho hp
  simp only at ho hp
  subst ho hp
  simp only [decode, hr, hd]

theorem leBytes_one_byte (b : Byte) : leBytes 1 b.toNat = [b] := by
  simp only [leBytes, ofNat8_mod]
  rw [BitVec.ofNat_toNat, BitVec.setWidth_eq]

theorem encode1_wire (v : Val) (hv : v.valid) : encode1 v = some (wire v) := by
  cases v with
  | bool b => cases b <;> rfl
  | byte b => simp only [encode1, wire, writeByte, leBytes_one_byte]
  | i16 d => simp only [encode1, wire, twoCompl_toInt, writeInt16_wire]
  | i32 d => simp only [encode1, wire, twoCompl_toInt, writeInt32_wire]
  | i64 d => simp only [encode1, wire, twoCompl_toInt, writeInt64_wire]
  | v7 d => simp only [encode1, wire, twoCompl_toInt, write7_eq]
  | bytes l | str l => exact writeBytes_lt l hv
  | raw l => simp only [encode1, wire, writeRaw_eq]

end Got.Lemmas.Codec
