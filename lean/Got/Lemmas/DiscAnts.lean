import Got.Model.AntsEvents
import Got.Lemmas.AntsInv
import Got.Lemmas.Discipline
/- C18 for ants (taskCallback.result / err): for every execution of the current code (`c.old = false`: any pool size, Send stream,
   handler behaviour, interleaving and timing) extended with client Get2/Get1/Err calls, the `result/err` trace of task `k`
   (Got/Model/AntsEvents.lean) is accepted by the publication-discipline monitor, hence race free (`accepts_raceFree`).
   Negative controls: the schedules `rawActs`, `oldTornActs`, `oldWriteWriteActs` are executions of the model (`raw_run_ok`, `old_torn_run_ok`, `old_write_write_run_ok`); that the monitor
   rejects their traces is `C18_ants_controls` (Props/C18.lean). -/

namespace Got.Lemmas.DiscAnts
open Got.Model.Ants Got.Model.AntsEvents Got.Model.Discipline Got.Lemmas.Discipline

/-- the current attempt, if decided for the closure, is over (the closure has closed `doneChan`) -/
def Settled (t : Task) : Prop := (t.at_ t.cur).decided = 1 → (t.at_ t.cur).pc = .closed

/-- `t` = record of task `k`, `m` = monitor state.
  s1  the closure that won the flag is closed before the dispatcher leaves its waiting stages
  d1  the dispatcher is current (ordered after every access) except while the inner worker owns the attempt's outcome
      (decided = 1 and the dispatcher has not yet received from doneChan) and after Done
  While the dispatcher waits:
  d2  after the hand-over of an undecided attempt's closure, the channel object carries "after every access"
  d3  the inner worker holding the closure of an attempt the dispatcher did not win is current (it acquired the hand-over;
      it stays current as the CAS winner, through its write, until close)
  d4  after the winner's write and close(doneChan), doneObj carries the write
  d5  after Done the WaitGroup object carries the last write
  Before the first attempt the record read is the untouched `t.at_ 0`. -/
structure DInv (k : Nat) (t : Task) (m : Mon) : Prop where
  s1 : t.pc.waiting = false → Settled t
  d1 : t.pc ≠ .done → ((t.at_ t.cur).decided ≠ 1 ∨ t.pc.waiting = false) → m.acur dispT = true ∧ m.wcur dispT = true
  d2 : (t.at_ t.cur).decided = 0 → (t.at_ t.cur).pc = .queued → t.pc.waiting = true →
        m.carA (clObj k t.cur) = true ∧ m.carW (clObj k t.cur) = true
  d3 : (t.at_ t.cur).decided ≠ 2 → (t.at_ t.cur).pc.slot?.isSome = true → t.pc.waiting = true →
        m.acur (innT t.cur) = true ∧ m.wcur (innT t.cur) = true
  d4 : (t.at_ t.cur).decided = 1 → (t.at_ t.cur).pc = .closed → t.pc.waiting = true →
        m.carA (doneObj k t.cur) = true ∧ m.carW (doneObj k t.cur) = true
  d5 : t.pc = .done → m.carW (wgObj k) = true

theorem dinv_init (k : Nat) : DInv k {} Mon.init := by
  constructor <;> simp [Mon.init, Task.cur, Settled]

theorem acq_cur {m : Mon} {t a : Nat} (h : m.carA a = true ∧ m.carW a = true) :
    (acqM m t a).acur t = true ∧ (acqM m t a).wcur t = true := ⟨acq_getA m t a h.1, acq_get m t a h.2⟩
theorem rel_car {m : Mon} {t a : Nat} (h : m.acur t = true ∧ m.wcur t = true) :
    (relM m t a).carA a = true ∧ (relM m t a).carW a = true := ⟨rel_putA m t a h.1, rel_put m t a h.2⟩

/-- outside the dispatcher's wait `DInv` asks only that the attempt be settled and that one party be ordered after the last
    access: the dispatcher, after `wg.Done` the WaitGroup object -/
theorem dinv_rest {k : Nat} {t : Task} {m : Mon} (hw : t.pc.waiting = false) (hs : Settled t)
    (hc : t.pc ≠ .done → m.acur dispT = true ∧ m.wcur dispT = true) (hg : t.pc = .done → m.carW (wgObj k) = true) :
    DInv k t m := by
  have hn {p : Prop} (h : t.pc.waiting = true) : p := by rw [hw] at h; cases h
  exact ⟨fun _ => hs, fun h _ => hc h, fun _ _ => hn, fun _ _ => hn, fun _ _ => hn, hg⟩

/-- the hypotheses list all that `DInv` reads of the task; the monitor only learns -/
theorem dinv_same {k : Nat} {t t' : Task} {m m' : Mon} (hd : DInv k t m) (hl : Le m m')
    (hw : t'.pc.waiting = t.pc.waiting) (hdn : t'.pc = .done ↔ t.pc = .done)
    (hatt : t'.att = t.att) (hdec : (t'.at_ t.cur).decided = (t.at_ t.cur).decided)
    (hq : (t'.at_ t.cur).pc = .queued ↔ (t.at_ t.cur).pc = .queued)
    (hcl : (t'.at_ t.cur).pc = .closed ↔ (t.at_ t.cur).pc = .closed)
    (hh : (t'.at_ t.cur).pc.slot?.isSome = (t.at_ t.cur).pc.slot?.isSome) : DInv k t' m' := by
  have hc : t'.cur = t.cur := by simp [Task.cur, hatt]
  constructor
  · rw [Settled, hc, hdec, hw]; exact fun h h2 => hcl.2 (hd.s1 h h2)
  · rw [hc, hdec, hw]; intro h1 h2; exact (hd.d1 (fun e => h1 (hdn.2 e)) h2).imp (hl.acur _) (hl.wcur _)
  · rw [hc, hdec, hw]; intro h2 h3 h4; exact (hd.d2 h2 (hq.1 h3) h4).imp (hl.carA _) (hl.carW _)
  · rw [hc, hdec, hh, hw]; intro h2 h3 h4; exact (hd.d3 h2 h3 h4).imp (hl.acur _) (hl.wcur _)
  · rw [hc, hdec, hw]; intro h2 h3 h4; exact (hd.d4 h2 (hcl.1 h3) h4).imp (hl.carA _) (hl.carW _)
  · intro h; exact hl.carW _ (hd.d5 (hdn.1 h))

theorem dinv_setAt {k : Nat} {t t' : Task} {m m' : Mon} (hd : DInv k t m) (hl : Le m m') {a : Nat} {x : Att}
    (hpc : t'.pc = t.pc) (hatt : t'.att = t.att) (hat : t'.at_ = upd t.at_ a x)
    (hx : a ≠ t.cur ∨ (x.decided = (t.at_ a).decided ∧ (x.pc = .queued ↔ (t.at_ a).pc = .queued) ∧
      (x.pc = .closed ↔ (t.at_ a).pc = .closed) ∧ x.pc.slot?.isSome = (t.at_ a).pc.slot?.isSome)) :
    DInv k t' m' := by
  by_cases h : t.cur = a
  · subst h
    obtain hx | ⟨h1, h2, h3, h4⟩ := hx
    · exact absurd rfl hx
    · refine dinv_same hd hl (by rw [hpc]) (by rw [hpc]) hatt ?_ ?_ ?_ ?_ <;> rw [hat, upd_same] <;>
        assumption
  · refine dinv_same hd hl (by rw [hpc]) (by rw [hpc]) hatt ?_ ?_ ?_ ?_ <;> rw [hat, upd_other h]

theorem dinv_tstep {c : Cfg} (hc : c.old = false) {k now qlen : Nat} {t t' : Task} {m : Mon} {act : Act}
    (ok : TaskOK t) (hd : DInv k t m) (h : TStep c now qlen t act t') :
    ∃ m', m.run (tev k t act) = some m' ∧ DInv k t' m' := by
  have hle := (ok.atts t.cur).dec_le
  cases h
  case hook1Old | selDoneOld | hook2Old => exact absurd ‹c.old = true› (by simp [hc])
  -- closure transitions that touch neither `decided` nor the queued / closed / held status, and emit no event
  case fire => exact ⟨m, rfl, dinv_setAt hd (.refl _) rfl rfl rfl (.inr ⟨rfl, .rfl, .rfl, rfl⟩)⟩
  case wStart hp | wEnd hp | checkDone hp _ | checkLive hp _ | hook1 hp _ | hook4 hp =>
    refine ⟨m, rfl, dinv_setAt hd (.refl _) rfl rfl rfl (.inr ⟨rfl, ?_, ?_, ?_⟩)⟩ <;> simp only [hp, reduceCtorEq, CPc.slot?]
  -- the inner worker receives the closure: it acquires what the dispatcher released with it
  case wTake a _ hq =>
    have hl := le_acq m (innT a) (clObj k a)
    refine ⟨_, run_acq _ _ _, ?_⟩
    by_cases hac : a = t.cur
    · subst hac
      have h1' : (t.at_ t.cur).decided ≠ 1 := fun h1 => by
        have := ((ok.atts t.cur).of_dec1 h1).2.2; rw [hq] at this; cases this
      constructor <;> simp only [setAt_cur, setAt_at_, upd_same, setAt_pc, Settled]
      · exact fun _ h1 => absurd h1 h1'
      · exact fun h1 h2 => (hd.d1 h1 h2).imp (hl.acur _) (hl.wcur _)
      · exact fun _ h3 => nomatch h3
      · exact fun h2 _ hw => acq_cur (hd.d2 (by omega) hq hw)
      · exact fun _ h3 => nomatch h3
      · exact fun h => hl.carW _ (hd.d5 h)
    · exact dinv_setAt hd hl rfl rfl rfl (.inl hac)
  -- `close(doneChan)` releases what the inner worker knows
  case wClose a _ hq =>
    have hl := le_rel m (innT a) (doneObj k a)
    refine ⟨_, run_rel _ _ _, ?_⟩
    by_cases hac : a = t.cur
    · subst hac
      constructor <;> simp only [setAt_cur, setAt_at_, upd_same, setAt_pc, Settled]
      · exact fun _ _ => trivial
      · exact fun h1 h2 => (hd.d1 h1 h2).imp (hl.acur _) (hl.wcur _)
      · exact fun _ h3 => nomatch h3
      · exact fun _ h3 => nomatch h3
      · exact fun h2 _ hw => rel_car (hd.d3 (by omega) (by rw [hq]; rfl) hw)
      · exact fun h => hl.carW _ (hd.d5 h)
    · exact dinv_setAt hd hl rfl rfl rfl (.inl hac)
  -- the CAS winner publishes: it is the current attempt's closure, and current since it acquired the hand-over
  case wWrite a _ _ _ hq =>
    obtain ⟨hac, hwt⟩ := ok.writeW a (by rw [hq]; rfl)
    obtain rfl : a = t.cur := (Task.cur_eq hac).symm
    have hdec : (t.at_ t.cur).decided = 1 := (ok.atts t.cur).dec1_of_write (by rw [hq]; rfl)
    refine ⟨wrM (innT t.cur), run_wr m _ (hd.d3 (by omega) (by rw [hq]; rfl) hwt).1, ?_⟩
    constructor <;> simp only [Task.cur, setAt_att, setAt_at_, upd_same, setAt_pc, Settled]
    · exact fun hw => nomatch hw.symm.trans hwt
    · exact fun _ h2 => h2.elim (absurd hdec) fun h => by rw [hwt] at h; cases h
    · exact fun h2 => absurd (hdec.symm.trans h2) (by decide)
    · exact fun _ _ _ => by simp [wrM]
    · exact fun _ h3 => nomatch h3
    · exact fun h => by rw [h] at hwt; cases hwt
  -- the closure wins the flag: the attempt is undecided, hence current, and the dispatcher is still waiting
  case casWin a _ _ _ hq hz =>
    have hlt := lt_of_pc ok hq nofun
    obtain rfl : a = t.cur := by
      have : ¬ a + 1 < t.att := fun hh => (ok.past a hh).1 hz
      exact (Task.cur_eq (by omega)).symm
    have hwt : t.pc.waiting = true :=
      TPc.waiting_of_preDecide (ok.dec0 (by omega) hz) (fun hs => by have := (ok.sendCl hs).1; rw [hq] at this; cases this)
    have hl := le_acq_rel m (innT t.cur) (decObj k t.cur)
    refine ⟨_, (congrArg m.run (if_pos hz)).trans (run_acq_rel _ _ _), ?_⟩
    constructor <;> simp only [setAt_cur, setAt_at_, upd_same, setAt_pc, Settled]
    · exact fun hw => nomatch hw.symm.trans hwt
    · exact fun _ h2 => h2.elim (absurd rfl) fun h => by rw [hwt] at h; cases h
    · exact fun h2 => nomatch h2
    · exact fun _ _ _ => (hd.d3 (by omega) (by rw [hq]; rfl) hwt).imp (hl.acur _) (hl.wcur _)
    · exact fun _ h3 => nomatch h3
    · exact fun h => hl.carW _ (hd.d5 h)
  case casLose a _ _ _ hq hz =>
    have hl := le_acq m (innT a) (decObj k a)
    refine ⟨_, (congrArg m.run (if_neg hz)).trans (run_acq _ _ _), ?_⟩
    by_cases hac : a = t.cur
    · subst hac
      constructor <;> simp only [setAt_cur, setAt_at_, upd_same, setAt_pc, Settled]
      · exact fun hw h1 => nomatch (hd.s1 hw h1).symm.trans hq
      · exact fun h1 h2 => (hd.d1 h1 h2).imp (hl.acur _) (hl.wcur _)
      · exact fun _ h3 => nomatch h3
      · exact fun h2 _ hw => (hd.d3 h2 (by rw [hq]; rfl) hw).imp (hl.acur _) (hl.wcur _)
      · exact fun _ h3 => nomatch h3
      · exact fun h => hl.carW _ (hd.d5 h)
    · exact dinv_setAt hd hl rfl rfl rfl (.inl hac)
  -- before the first attempt, after the last, and from one waiting stage to the next, `DInv` reads the same of the task
  case send hp | busyFull hp _ | busyFree hp _ | discardCb hp | enq hp | take hp | giveUp hp _ | hook3 hp | hook2 hp _
      | selCtx hp =>
    exact ⟨m, rfl, dinv_same hd (.refl _) (by simp only [hp, TPc.waiting]) (by simp only [hp, reduceCtorEq]) rfl rfl .rfl .rfl
      rfl⟩
  case begin hp _ =>
    -- a new attempt begins: fresh record, undecided, its closure not yet handed over
    have hcur := hd.d1 (by rw [hp]; nofun) (.inr (by rw [hp]; rfl))
    exact ⟨m, rfl, dinv_rest rfl (by simp [Settled, Task.cur, Task.setAt]) (fun _ => hcur) nofun⟩
  -- the hand-over of the closure releases what the dispatcher knows
  case sendCl hp =>
    have hz := (ok.sendCl hp.1).2
    have hcur := hd.d1 (by rw [hp.1]; nofun) (.inl (by rw [hz]; decide))
    have hl := le_rel m dispT (clObj k t.cur)
    refine ⟨_, run_rel _ _ _, ?_⟩
    constructor <;> simp only [Task.cur, setAt_att, setAt_at_, upd_same, Settled]
    · exact fun hw => nomatch hw
    · exact fun _ _ => hcur.imp (hl.acur _) (hl.wcur _)
    · exact fun _ _ _ => rel_car hcur
    · exact fun _ h3 => nomatch h3
    · exact fun _ h3 => nomatch h3
    · exact nofun
  case selDone hp _ =>
    exact ⟨_, run_acq _ _ _, dinv_same hd (le_acq _ _ _) (by rw [hp.1]; rfl)
      (by rw [hp.1]; exact ⟨nofun, nofun⟩) rfl rfl .rfl .rfl rfl⟩
  case decideLose hp hz =>
    exact ⟨_, (congrArg m.run (if_neg hz)).trans (run_acq _ _ _), dinv_same hd (le_acq _ _ _)
      (by rw [hp]; rfl) (by rw [hp]; exact ⟨nofun, nofun⟩) rfl rfl .rfl .rfl rfl⟩
  -- leaving the wait: by winning the flag, or by receiving from `doneChan` what the winner released
  case decideWin hp hz =>
    have hcur := hd.d1 (by rw [hp]; nofun) (.inl (by rw [hz]; decide))
    have hl := le_acq_rel m dispT (decObj k t.cur)
    exact ⟨_, (congrArg m.run (if_pos hz)).trans (run_acq_rel _ _ _),
      dinv_rest rfl (by simp [Settled, Task.cur]) (fun _ => hcur.imp (hl.acur _) (hl.wcur _)) nofun⟩
  case waitDone hp =>
    have hcl := (ok.atts t.cur).closed_iff.1 hp.2
    have hcar := hd.d4 (ok.wDone hp.1) hcl (by rw [hp.1]; rfl)
    exact ⟨_, run_acq _ _ _, dinv_rest rfl (fun _ => hcl) (fun _ => acq_cur hcar) nofun⟩
  -- from there to `wg.Done` the attempt is settled and the dispatcher current; it writes or reads, and finally releases
  case writeDE hp =>
    have hw : t.pc.waiting = false := by rw [hp]; rfl
    have hcur := hd.d1 (by rw [hp]; nofun) (.inr hw)
    exact ⟨_, run_wr m dispT hcur.1, dinv_rest rfl (hd.s1 hw) (fun _ => by simp [wrM]) nofun⟩
  case cancel hp =>
    have hw : t.pc.waiting = false := by rw [hp]; rfl
    refine ⟨m, rfl, dinv_rest rfl (fun h2 => ?_) (fun _ => hd.d1 (by rw [hp]; nofun) (.inr hw)) nofun⟩
    simpa [Task.cur, Task.setAt] using hd.s1 hw (by simpa [Task.cur, Task.setAt] using h2)
  case errNil hp _ | errRetry hp _ =>
    have hw : t.pc.waiting = false := by rw [hp]; rfl
    have hcur := hd.d1 (by rw [hp]; nofun) (.inr hw)
    exact ⟨_, run_rd m dispT hcur.2, dinv_rest rfl (hd.s1 hw) (fun _ => by simp [rdM, hcur]) nofun⟩
  case onError hp =>
    have hw : t.pc.waiting = false := by rw [hp]; rfl
    have hcur := hd.d1 (by rw [hp]; nofun) (.inr hw)
    by_cases hcb : t.hasCb = true
    · exact ⟨_, by simp only [tev, hcb, ↓reduceIte]; exact run_rd m dispT hcur.2,
        dinv_rest rfl (hd.s1 hw) (fun _ => by simp [rdM, hcur]) nofun⟩
    · exact ⟨m, by simp [tev, hcb, Mon.run], dinv_rest rfl (hd.s1 hw) (fun _ => hcur) nofun⟩
  case wgDone hp =>
    have hw : t.pc.waiting = false := by rw [hp]; rfl
    have hcur := hd.d1 (by rw [hp]; nofun) (.inr hw)
    exact ⟨_, run_rel _ _ _, dinv_rest rfl (hd.s1 hw) (fun h => absurd rfl h) fun _ => (rel_car hcur).2⟩

theorem dstep (k : Nat) {c : Cfg} (hc : c.old = false) {s s' : State} {m : Mon} (a : XAct) (hraw : a.isRaw = false)
    (hI : Inv s) (hd : DInv k (s.task k) m) (hx : xstep c s a = some s') :
    ∃ m', m.run (evOf k s a) = some m' ∧ DInv k (s'.task k) m' := by
  cases a with
  | rawRead t id => simp [XAct.isRaw] at hraw
  | get2 t id =>
    simp only [xstep, Option.some.injEq] at hx
    subst hx
    simp only [evOf]
    split
    · -- `wg.Wait` returns: the client acquires what `wg.Done` released, then reads
      rename_i hcnd
      have hw : (s.task k).pc.waiting = false := by rw [hcnd.2]; rfl
      have hcw := hd.d5 hcnd.2
      exact ⟨_, run_rd (acqM m (cliT t) (wgObj k)) _ (by simp [acqM, hcw]),
        dinv_rest hw (hd.s1 hw) (fun h => absurd hcnd.2 h) fun _ => by simp [rdM, acqM, hcw]⟩
    · exact ⟨m, rfl, hd⟩
  | act act =>
    simp only [xstep] at hx
    simp only [evOf]
    rcases step_task hx with ⟨t0, rfl, ht⟩ | ⟨t', ht, hst⟩
    · rw [ht]
      refine ⟨m, ?_, hd⟩
      split <;> rfl
    · by_cases hk : act.task = k
      · subst hk
        simp only [↓reduceIte]
        rw [hst]; simp only [upd_same]
        exact dinv_tstep hc (hI _) hd (.of_tstep ht)
      · simp only [hk, ↓reduceIte]
        rw [hst, upd_other (Ne.symm hk)]
        exact ⟨m, rfl, hd⟩

theorem result_run (k : Nat) {c : Cfg} (hc : c.old = false) (acts : List XAct) (hraw : ∀ x, x ∈ acts → x.isRaw = false)
    (s : State) (m : Mon) (hI : Inv s) (hd : DInv k (s.task k) m) :
    ∃ m', m.run (resultEvents k c s acts) = some m' := by
  refine run_sim_partial (step := xstep c) (ev := evOf k) (tr := resultEvents k c) (ok := fun a => a.isRaw = false)
    (I := fun s m => Inv s ∧ DInv k (s.task k) m) (fun _ => rfl) (fun _ _ _ h => by rw [resultEvents, h])
    (fun _ _ _ _ h => by rw [resultEvents, h]) ?_ acts s m ⟨hI, hd⟩ hraw
  intro s m a s' ⟨hI, hd⟩ hr hx
  obtain ⟨m1, hr1, hd1⟩ := dstep k hc a hr hI hd hx
  refine ⟨m1, hr1, ?_, hd1⟩
  cases a with
  | act act => exact inv_step hc hI hx
  | get2 t id => cases hx; exact hI
  | rawRead t id => cases hx; exact hI

/-- ants, current code: in every execution (with any client Get2/Get1/Err calls) the plain accesses of
    `taskCallback.result / err` of every task follow the publication discipline -/
theorem result_accepted (c : Cfg) (hc : c.old = false) (acts : List XAct) (hraw : ∀ x, x ∈ acts → x.isRaw = false)
    (k : Nat) : accepts (resultEvents k c init acts) = true := by
  obtain ⟨m', hm⟩ := result_run k hc acts hraw init Mon.init inv_init (dinv_init k)
  exact accepts_of_run hm

/-- current code, N = 1, T = 1000, R = 2: attempt 0 times out (the dispatcher wins the flag and writes (nil, DE)),
    attempt 1 succeeds (the inner worker wins, is held at hook4, writes, closes); client 0 calls Get2 too early (blocked:
    no event), clients 0 and 1 call it after Done -/
def okActs : List XAct :=
  ([.send 0 { timeout := 1000, retry := 2, discard := true, hasCb := true }, .busyTest 0, .enq 0, .take 0,
    .loopTest 0, .sendCl 0, .wTake 0 0 0, .wStart 0 0 true, .hook3 0,
    .advance 1000, .fire 0 0, .selCtx 0, .hook2 0, .decide 0, .writeDE 0, .cancel 0, .errTest 0,
    .wEnd 0 0 0 (.h 999), .wCheck 0 0, .wClose 0 0,
    .loopTest 0, .sendCl 0, .wTake 0 1 0, .wStart 0 1 true, .hook3 0, .advance 1500, .wEnd 0 1 8 .nil, .wCheck 0 1,
    .hook1 0 1, .wCas 0 1, .hook4 0 1] : List Act).map XAct.act ++ [.get2 0 0] ++
  ([.wWrite 0 1, .wClose 0 1, .selDone 0, .decide 0, .waitDone 0, .cancel 0, .errTest 0, .wgDone 0] : List Act).map XAct.act ++
  [.get2 0 0, .get2 1 0]

theorem ok_trace : resultEvents 0 { N := 1 } init okActs =
    [.rel dispT (clObj 0 0), .acq (innT 0) (clObj 0 0), .acq dispT (decObj 0 0), .rel dispT (decObj 0 0), .wr dispT,
     .rd dispT, .rel (innT 0) (doneObj 0 0),
     .rel dispT (clObj 0 1), .acq (innT 1) (clObj 0 1), .acq (innT 1) (decObj 0 1), .rel (innT 1) (decObj 0 1),
     .wr (innT 1), .rel (innT 1) (doneObj 0 1), .acq dispT (doneObj 0 1), .acq dispT (decObj 0 1),
     .acq dispT (doneObj 0 1), .rd dispT, .rel dispT (wgObj 0),
     .acq (cliT 0) (wgObj 0), .rd (cliT 0), .acq (cliT 1) (wgObj 0), .rd (cliT 1)] := by decide

theorem ok_accepted : accepts (resultEvents 0 { N := 1 } init okActs) = true := by rw [ok_trace]; decide

/-- a client reads the fields WITHOUT Wait (what Err() did before /repo commit d93a739) right after the inner worker's write -/
def rawActs : List XAct :=
  ([.send 0 { timeout := 1000, retry := 1, discard := true, hasCb := true }, .busyTest 0, .enq 0, .take 0,
    .loopTest 0, .sendCl 0, .wTake 0 0 0, .wStart 0 0 true, .hook3 0, .advance 500, .wEnd 0 0 8 .nil, .wCheck 0 0,
    .hook1 0 0, .wCas 0 0, .hook4 0 0, .wWrite 0 0] : List Act).map XAct.act ++ [.rawRead 5 0]

theorem raw_run_ok : (xrun { N := 1 } init rawActs).isSome = true := by decide

/-- the same run with a proper Get2 (blocked until Done) is accepted -/
theorem read_with_wait_accepted :
    accepts (resultEvents 0 { N := 1 } init
      (rawActs.dropLast ++ [.get2 5 0] ++
        ([.wClose 0 0, .selDone 0, .decide 0, .waitDone 0, .cancel 0, .errTest 0, .wgDone 0] : List Act).map XAct.act ++
        [.get2 5 0])) = true := by decide

/-- OLD code (no decided flag), the torn-result schedule of C07_old_torn: the first attempt's write lands after the
    dispatcher's own writes, reads, onError and Done -/
def oldTornActs : List XAct :=
  ([.send 0 { timeout := 1000, retry := 2, discard := true, hasCb := true }, .busyTest 0, .enq 0, .take 0,
    .loopTest 0, .sendCl 0, .wTake 0 0 0, .wStart 0 0 false, .hook3 0, .advance 900, .wEnd 0 0 7 .nil, .wCheck 0 0,
    .advance 1000, .fire 0 0, .selCtx 0, .hook2 0, .writeDE 0, .cancel 0, .errTest 0,
    .loopTest 0, .sendCl 0, .hook3 0, .advance 2000, .fire 0 1, .selCtx 0, .hook2 0, .writeDE 0, .cancel 0, .errTest 0,
    .loopTest 0, .onError 0, .wgDone 0] : List Act).map XAct.act ++ [.get2 0 0] ++
  ([.hook1 0 0, .wWrite 0 0] : List Act).map XAct.act

theorem old_torn_run_ok : (xrun { N := 1, old := true } init oldTornActs).isSome = true := by decide

/-- OLD code, one attempt: the handler returns at 900 and passes its ctx check, the deadline branch writes (nil, DE) at
    1000, then the closure writes: two unordered plain writes -/
def oldWriteWriteActs : List XAct :=
  ([.send 0 { timeout := 1000, retry := 1, discard := true, hasCb := false }, .busyTest 0, .enq 0, .take 0,
    .loopTest 0, .sendCl 0, .wTake 0 0 0, .wStart 0 0 false, .hook3 0, .advance 900, .wEnd 0 0 7 .nil, .wCheck 0 0,
    .advance 1000, .fire 0 0, .selCtx 0, .hook2 0, .writeDE 0, .hook1 0 0, .wWrite 0 0] : List Act).map XAct.act

theorem old_write_write_run_ok : (xrun { N := 1, old := true } init oldWriteWriteActs).isSome = true := by decide

/-- OLD code, the empty-result schedule of C07_old_empty: nobody writes at all (that defect is a lost outcome, not a data
    race), so its trace is accepted; the race of the old code shows in the two runs above -/
def oldEmptyActs : List XAct :=
  ([.send 0 { timeout := 1000, retry := 1, discard := true, hasCb := true }, .busyTest 0, .enq 0, .take 0,
    .loopTest 0, .sendCl 0, .wTake 0 0 0, .wStart 0 0 false, .advance 1000, .fire 0 0, .advance 1500,
    .wEnd 0 0 7 .nil, .wCheck 0 0, .wClose 0 0,
    .hook3 0, .selDone 0, .cancel 0, .errTest 0, .wgDone 0] : List Act).map XAct.act ++ [.get2 0 0]

theorem old_empty_trace : resultEvents 0 { N := 1, old := true } init oldEmptyActs =
    [.rel dispT (clObj 0 0), .acq (innT 0) (clObj 0 0), .rel (innT 0) (doneObj 0 0), .acq dispT (doneObj 0 0),
     .rd dispT, .rel dispT (wgObj 0), .acq (cliT 0) (wgObj 0), .rd (cliT 0)] := by decide

theorem old_empty_no_write_accepted :
    accepts (resultEvents 0 { N := 1, old := true } init oldEmptyActs) = true := by rw [old_empty_trace]; decide

end Got.Lemmas.DiscAnts
