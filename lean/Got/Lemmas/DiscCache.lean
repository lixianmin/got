import Got.Model.CacheEvents
import Got.Lemmas.CacheInv
import Got.Lemmas.DisciplineOnce
/-
C18 for cachex.Future.value/err (`err_accepted`; race freedom follows by `accepts_raceFree`).  Proof: what a state demands
of the monitor (`need`) and one triple per step, on top of the reachable-state invariant `Inv` (a future is resolved at
most once, by the unique worker holding its job).
-/
namespace Got.Lemmas.DiscCache
open Got.Model.Cache Got.Model.CacheEvents Got.Model.Discipline Got.Spec.Cache Got.Lemmas.Cache
open Got.Lemmas.Discipline

/-- `clearPred` or `wgDone`: the worker pcs after the publication of the result -/
def CD (pc : WPc) (j : Job) : Prop := pc = .clearPred j ∨ pc = .wgDone j

/-- the location of future f is written once, when `res` is set.  From then on `updObj f` (updateTime) carries the write,
    for the readers that load a non-zero updateTime; once `done`, `wgObj f` carries it, for Get1/Get2 after Wait; the
    worker that published stays ordered after the write until its release of `wgObj f` -/
def need (f : FutId) (s : State) : Once :=
  ⟨f < s.nfut ∧ (s.fut f).res.isSome = true, fun u => ∃ w j, u = wtid w ∧ CD (s.wpc w) j ∧ j.fut = f,
   fun a => a = updObj f ∨ (a = wgObj f ∧ (s.fut f).done = true)⟩

/-- what a step that is "ordinary" for f (neither the write of f's location nor f's `wg.Done()`) leaves alone -/
structure Frame (f : FutId) (s s' : State) : Prop where
  nfut : s.nfut ≤ s'.nfut
  old : f < s.nfut → (s'.fut f).res = (s.fut f).res ∧ (s'.fut f).done = (s.fut f).done
  new : s.nfut ≤ f → f < s'.nfut → (s'.fut f).res = none ∧ (s'.fut f).done = false
  wk : ∀ w j, CD (s'.wpc w) j → j.fut = f → CD (s.wpc w) j

/-- the end of a step that is ordinary for f, after events that have led to `q`, which demands no less than `need f s` -/
theorem sim_end {f : FutId} {s s' : State} {q : Once} (fr : Frame f s s') (hW : q.W ↔ (need f s).W)
    (hK : ∀ u, (need f s).K u → q.K u) (hC : ∀ a, (need f s).C a → q.C a) : q.Sim [] (need f s') := by
  have old : (need f s').W → f < s.nfut := fun ⟨hf', hr⟩ => Decidable.byContradiction fun hf => by
    rw [(fr.new (Nat.not_lt.mp hf) hf').1] at hr; cases hr
  refine .nil ?_ (fun _ u ⟨w, j, e, hcd, hj⟩ => hK u ⟨w, j, e, fr.wk w j hcd hj, hj⟩) fun w a ha => hC a (ha.imp_right ?_)
  · rw [hW]
    exact ⟨fun w => ⟨old w, (fr.old (old w)).1 ▸ w.2⟩, fun ⟨hf, hr⟩ => ⟨Nat.lt_of_lt_of_le hf fr.nfut, (fr.old hf).1 ▸ hr⟩⟩
  · exact fun ⟨e, hd⟩ => ⟨e, (fr.old (old w)).2 ▸ hd⟩

theorem sim_silent {f : FutId} {s s' : State} (fr : Frame f s s') : (need f s).Sim [] (need f s') :=
  sim_end fr .rfl (fun _ h => h) (fun _ h => h)

theorem Frame.of_eq {f : FutId} {s t : State} (h1 : t.fut = s.fut) (h2 : t.nfut = s.nfut) (h3 : t.wpc = s.wpc) :
    Frame f s t :=
  ⟨h2 ▸ Nat.le_refl _, fun _ => h1 ▸ ⟨rfl, rfl⟩, fun a b => absurd (h2 ▸ b) (Nat.not_lt.mpr a), fun _ _ h _ => h3 ▸ h⟩

theorem frame_refl (f : FutId) (s : State) : Frame f s s := .of_eq rfl rfl rfl

/-- getFutureStatus(f) of the current code by any thread at any time -/
theorem sim_status {f : FutId} {s s' : State} (t : Nat) (fr : Frame f s s') (hf : f < s.nfut) :
    (need f s).Sim (statusEvs false t f (s.fut f).res.isSome) (need f s') := by
  cases hr : (s.fut f).res.isSome with
  | false => exact .acq _ _ (sim_end fr .rfl (fun _ => .inl) (fun _ h => h))
  | true => exact .acq _ _ (.rd _ ⟨hf, hr⟩ (.inr ⟨rfl, .inl rfl⟩) (sim_end fr .rfl (fun _ => .inl) (fun _ h => h)))

theorem frame_load (cfg : Cfg) (f : FutId) (s : State) (c : Cid) (k : Key) (ld : Nat) (pred : Option FutId) (plan : Plan) :
    Frame f s (loadNew cfg s c k ld pred plan) := by
  refine ⟨Nat.le_succ _, fun hf => ?_, fun h1 h2 => ?_, fun w j h _ => h⟩
  · simp [loadNew, applyLoad, upd, Nat.ne_of_lt hf]
  · have : f = s.nfut := Nat.le_antisymm (Nat.le_of_lt_succ h2) h1
    subst this; simp [loadNew, applyLoad, newLoadFut]

theorem frame_set (f : FutId) (s : State) (c : Cid) (k : Key) (r : Res) (hnf : s.nfut ≠ f) :
    Frame f s (setCS s c k r) := by
  refine ⟨Nat.le_succ _, fun hf => ?_, fun h1 h2 => ?_, fun w j h _ => h⟩
  · have := orphanMark_fields s.fut (s.map k) f
    simp only [setCS, upd_other (Nat.ne_of_lt hf)]
    exact ⟨this.2.1, this.2.2.2.1⟩
  · exact absurd (Nat.le_antisymm (Nat.le_of_lt_succ h2) h1).symm hnf

theorem frame_wk {f : FutId} {s s' : State} (w : Wid) (new : WPc) (hn : s'.nfut = s.nfut)
    (hfut : (s'.fut f).res = (s.fut f).res ∧ (s'.fut f).done = (s.fut f).done) (hwpc : s'.wpc = upd s.wpc w new)
    (hnew : ∀ j, CD new j → j.fut = f → CD (s.wpc w) j) : Frame f s s' :=
  ⟨hn ▸ Nat.le_refl _, fun _ => hfut, fun a b => absurd (hn ▸ b) (Nat.not_lt.mpr a),
   hwpc ▸ upd_forall (P := fun w' pc => ∀ j, CD pc j → j.fut = f → CD (s.wpc w') j) hnew fun _ _ _ h _ => h⟩

theorem stepEvents_enabled (cfg : Cfg) (o : Bool) (f : FutId) (s s' : State) (a : Act) (hs : step? cfg s a = some s') :
    stepEvents cfg o f s a = actEvents cfg o f s a := by
  simp [stepEvents, hs]

theorem sim_step (cfg : Cfg) (f : FutId) (s : State) (a : Act) (hI : Inv cfg s) :
    (need f s).Sim (stepEvents cfg false f s a) (need f (step cfg s a)) := by
  rcases hs : step? cfg s a with _ | s'
  · simp only [stepEvents, step, hs]; exact .refl _
  rw [stepEvents_enabled cfg false f s s' a hs, step, hs, Option.getD_some]
  have ite_ok : ∀ {p : Prop} [Decidable p] {l : List Ev}, Frame f s s' → (p → (need f s).Sim l (need f s')) →
      (need f s).Sim (if p then l else []) (need f s') := by
    intro p _ l fr hp
    split
    · exact hp ‹p›
    · exact sim_silent fr
  cases Step.of_step? hs with
  | invLoad | invGet2 | invSet | invFGet | tick | delay => exact sim_silent (Frame.of_eq rfl rfl rfl)
  | wTake | wTick | wStart | wEnd =>
    exact sim_silent (frame_wk _ _ rfl ⟨rfl, rfl⟩ rfl (by intro j h; rcases h with h | h <;> cases h))
  | ldRet c g hc | g2Start c k hc | retNil c hc | setRet c hc | ldUnlockSend c sh j plan hc | ldUnlock c sh plan hc
      | ldSend c j plan hc | ldSendOld c j plan sh hc =>
    simp only [actEvents, hc, clEvents]; exact sim_silent (Frame.of_eq rfl rfl rfl)
  | ldGood c k ld l hc =>
    simp only [actEvents, hc, clEvents]
    exact ite_ok (Frame.of_eq rfl rfl rfl) fun hm => sim_status _ (Frame.of_eq rfl rfl rfl) (hI.a_map k f hm)
  | ldExpired c k ld l hc | ldHidden c k ld hc =>
    simp only [actEvents, hc, clEvents]
    exact ite_ok (frame_load ..) fun hm => sim_status _ (frame_load ..) (hI.a_map k f hm)
  | g2Status c o hc =>
    cases o with
    | none => simp only [actEvents, hc, clEvents]; exact sim_silent (Frame.of_eq rfl rfl rfl)
    | some g =>
      simp only [actEvents, hc, clEvents]
      exact ite_ok (Frame.of_eq rfl rfl rfl) fun hg =>
        sim_status _ (Frame.of_eq rfl rfl rfl) (hg ▸ pc_lt hI hc (List.mem_cons_self ..))
  | fetchSt c g p b hc =>
    cases p with
    | none => simp only [actEvents, hc, clEvents]; exact sim_silent (Frame.of_eq rfl rfl rfl)
    | some q =>
      simp only [actEvents, hc, clEvents]
      exact ite_ok (Frame.of_eq rfl rfl rfl) fun hq =>
        sim_status _ (Frame.of_eq rfl rfl rfl) (hq ▸ pc_lt hI hc (List.mem_cons_of_mem _ (List.mem_cons_self ..)))
  | fetch c g b hc =>
    simp only [actEvents, hc, clEvents]
    exact ite_ok (Frame.of_eq rfl rfl rfl) fun _ =>
      .acq _ _ (sim_end (Frame.of_eq rfl rfl rfl) .rfl (fun _ => .inl) (fun _ h => h))
  | wait c g hc hd =>
    simp only [actEvents, hc, clEvents]
    refine ite_ok (Frame.of_eq rfl rfl rfl) fun hg => ?_
    subst hg
    have hf : g < s.nfut := pc_lt hI hc (List.mem_cons_self ..)
    exact .acq _ _ (.rd _ ⟨hf, done_res hI hf hd⟩ (.inr ⟨rfl, .inr ⟨rfl, hd⟩⟩)
      (sim_end (Frame.of_eq rfl rfl rfl) .rfl (fun _ => .inl) (fun _ h => h)))
  | setStart c k r hc =>
    simp only [actEvents, hc, clEvents]
    split
    · rename_i hnf
      -- Set resolves the fresh future f = s.nfut in one step
      refine .wr _ (fun w => absurd w.1 (hnf ▸ Nat.lt_irrefl _)) (.rel _ _ (.rel _ _ (.rel _ _ (.nil ?_ ?_ ?_))))
      · exact ⟨fun _ => trivial, fun _ => ⟨Nat.lt_succ_of_le (Nat.le_of_eq hnf.symm), by simp [setCS, ← hnf]⟩⟩
      · intro _ u ⟨w, j, _, hcd, hj⟩
        have hwj : wjob (s.wpc w) = some j := by
          rcases hcd with e | e <;> (simp only [setCS] at e; rw [e]; rfl)
        have := (hI.k_worker w j hwj).1
        rw [hj, hnf] at this; exact absurd this (Nat.lt_irrefl _)
      · rintro _ a (e | ⟨e, _⟩)
        · exact .inl (.inl (.inr ⟨e, rfl⟩))
        · exact .inr ⟨e, rfl⟩
    · rename_i hnf
      exact sim_silent (frame_set f s c k r hnf)
  | sweep w i hw =>
    have fr : Frame f s (setWpc { s with map := sweepShard cfg s i } w (if i + 1 < cfg.S then .sweep (i + 1) else .idle)) :=
      frame_wk w _ rfl ⟨rfl, rfl⟩ rfl (by intro j h; split at h <;> rcases h with h | h <;> cases h)
    simp only [actEvents, hw, wkEvents]
    exact ite_ok fr fun hcond => sim_status _ fr hcond.1
  | publish w j r hw =>
    simp only [actEvents, hw, wkEvents]
    have hwj : wjob (s.wpc w) = some j := by rw [hw]; rfl
    split
    · rename_i hj
      -- the one plain write of f's fields, followed by the publication of updateTime
      have hf : f < s.nfut := hj ▸ (hI.k_worker w j hwj).1
      have hloc := hI.f_worker w j hwj
      have hres : (s.fut f).res = none := hj ▸ worker_unres hI hwj (by rw [hw]; rfl)
      refine .wr _ (fun w => by have := w.2; rw [hres] at this; cases this) (.rel _ _ (.nil ?_ ?_ ?_))
      · exact ⟨fun _ => trivial, fun _ => ⟨hf, by simp [setWpc, hj]⟩⟩
      · intro _ u ⟨w', j', e, hcd, hj'⟩
        by_cases e' : w' = w
        · subst e'; exact e
        · simp only [setWpc, upd_other e'] at hcd
          have hwj' : wjob (s.wpc w') = some j' := by rcases hcd with e' | e' <;> (rw [e']; rfl)
          have := hI.f_worker w' j' hwj'
          rw [hj', ← hj, hloc] at this
          exact absurd (Loc.worker.inj this).symm e'
      · rintro _ a (e | ⟨_, hd⟩)
        · exact .inr ⟨e, rfl⟩
        · simp only [setWpc, hj, upd_same] at hd
          rw [← hj, (worker_stage hI hwj).1] at hd; cases hd
    · rename_i hj
      refine sim_silent (frame_wk w (.clearPred j) rfl (by simp [setWpc, upd, Ne.symm hj]) rfl ?_)
      rintro j' (e' | e') hj'
      · cases e'; exact absurd hj' hj
      · cases e'
  | clearPred w j hw =>
    simp only [actEvents, hw, wkEvents]
    have fr : Frame f s (setWpc { s with fut := upd s.fut j.fut { s.fut j.fut with pred := none } } w (.wgDone j)) := by
      refine frame_wk w (.wgDone j) rfl ?_ rfl ?_
      · by_cases e : f = j.fut
        · subst e; simp [setWpc]
        · simp [setWpc, upd, e]
      · rintro j' (e' | e') _
        · cases e'
        · cases e'; exact Or.inl hw
    exact ite_ok fr fun _ => .rel _ _ (sim_end fr .rfl (fun _ h => h) (fun _ => .inl))
  | wgDone w j hw =>
    simp only [actEvents, hw, wkEvents]
    split
    · rename_i hj
      subst hj
      -- `done` is set, `res` stays: the release puts what the worker knows on the wait group
      refine .rel _ _ (.nil (by simp [need, setWpc]) ?_ ?_)
      · intro _ u ⟨w', j', e, hcd, hj'⟩
        by_cases e' : w' = w
        · subst e'; simp only [setWpc, upd_same] at hcd; rcases hcd with e' | e' <;> cases e'
        · exact ⟨w', j', e, by simpa [setWpc, upd, e'] using hcd, hj'⟩
      · rintro _ a (e | ⟨e, _⟩)
        · exact .inl (.inl e)
        · exact .inr ⟨e, w, j, rfl, .inr hw, rfl⟩
    · rename_i hj
      exact sim_silent (frame_wk w .idle rfl (by simp [setWpc, upd, Ne.symm hj]) rfl
        (by intro j h; rcases h with h | h <;> cases h))

/-- C18 for cachex.Future.value/err: for every configuration (P, J, S, expiries, both variants of Load), every finite
    sequence of actions from the initial state (any number of clients, keys, loader results, ticks, delays) and every
    future id f, the trace of f's plain location is accepted by the publication discipline -/
theorem err_accepted (cfg : Cfg) (acts : List Act) (f : FutId) :
    accepts (errEvents cfg false f init acts) = true :=
  (run_once (tr := errEvents cfg false f) (J := Inv cfg) (fun _ => rfl) (fun _ _ _ => rfl) (inv_step cfg) (need f)
    (sim_step cfg f) acts init Mon.init (inv_init cfg) (Once.met_init (fun w => nomatch w.1))).elim fun _ => accepts_of_run

/-- the trace of `oldStatusRun` with the OLD status check (err read before the IsZero test; Load c1 evaluates the status
    of the future while its loader runs): client 1's read (position 1) and the worker's write (position 2) conflict, and
    no release/acquire pair lies between them (the monitor's verdict on this run: `C18_cache_old_status_rejected`) -/
theorem old_status_trace :
    errEvents ctlCfg true 0 init oldStatusRun = [.acq 2 0, .rd 2, .wr 1, .rel 1 0] := by decide

/-- the same run with the current status check is accepted (and emits no read before the write) -/
theorem new_status_trace :
    errEvents ctlCfg false 0 init oldStatusRun = [.acq 2 0, .wr 1, .rel 1 0] := by decide

-- non-vacuity: a run in which f is written, published and read by three different threads (Get2 via the cache,
-- Future.Get2, the sweep)
example :
    errEvents ctlCfg false 0 init
      [.invLoad 0 0 0, .cl 0, .cl 0, .cl 0, .cl 0, .wTake 0, .wStart 0, .wEnd 0 ⟨some 7, none⟩, .wk 0, .wk 0, .wk 0,
       .invFGet 1 0, .cl 1, .invGet2 2 0, .cl 2, .cl 2, .tick, .wTick 0, .wk 0] =
      [.wr 1, .rel 1 0, .rel 1 1, .rel 1 2, .acq 2 2, .rd 2, .acq 4 0, .rd 4, .acq 1 0, .rd 1] := by decide

end Got.Lemmas.DiscCache
