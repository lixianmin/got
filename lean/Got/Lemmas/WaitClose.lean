import Got.Model.WaitCloseEvents
import Got.Lemmas.Lts
import Got.Spec.WaitClose
/-
Invariants of the WaitClose LTS, in three layers: `InvA` (control, mutex, state word, channel), `InvB` (the event log),
`InvC` (timing of WaitUtil).  `Move` lists what one action can do to the state, labelled with the shared access `Acc` it
performs; every action is a `Move` (`step_move`), and each layer is preserved by every `Move`.
-/

namespace Got.Model.WaitClose

/-- after the close/assign, before the deferred store (no relation to `Cont.after`, the pc that follows checkInitSlow) -/
def Pc.after : Pc → Bool
  | .clCbStart | .clCbRun | .clStore _ => true
  | _ => false

/-- where the holder of the mutex is while `closeChan` is set and `state` still new (`TInv.new2`) -/
def Pc.storeOrAfter : Pc → Bool
  | .iStore _ | .clCbStart | .clCbRun | .clStore _ => true
  | _ => false

/-- the close / assignment has happened: read off the ghost `closeTime`, which both kinds of Close set -/
def done (s : St) : Bool := s.closeTime.isSome

theorem wcNew_eq : wcNew = 0 := by decide
theorem wcInitialized_eq : wcInitialized = 1 := by decide
theorem wcClosed_eq : wcClosed = 2 := by decide

@[simp] theorem upd_same {α} (f : Nat → α) (t : Nat) (v : α) : upd f t v t = v := by simp [upd]
theorem upd_other {α} {f : Nat → α} {t u : Nat} {v : α} (h : u ≠ t) : upd f t v u = f u := by simp [upd, h]

theorem upd_forall {α} {P : Nat → α → Prop} {f : Nat → α} {t : Nat} {v : α} (hv : P t v)
    (hf : ∀ u, u ≠ t → P u (f u)) (u : Nat) : P u (upd f t v u) := by
  by_cases h : u = t
  · rw [h, upd_same]; exact hv
  · rw [upd_other h]; exact hf u h

theorem other_of_upd_eq {α} {f : Nat → α} {t u : Nat} {v x : α} (h : upd f t v u = x) (hv : v ≠ x) : u ≠ t ∧ f u = x := by
  unfold upd at h
  split at h
  · exact absurd h hv
  · next hu => exact ⟨hu, h⟩

theorem run_append (s : St) (l1 l2 : List Act) : run s (l1 ++ l2) = run (run s l1) l2 :=
  List.foldl_append

/-- the shared access a step performs, as far as the two analyses of Model/WaitCloseEvents.lean tell them apart -/
inductive Acc where
  | none
  | load        -- atomic load of `state`
  | check       -- plain read of `state` inside the mutex
  | lock
  | unlock
  | store       -- atomic store of `state`
  | make        -- `wc.closeChan = make(..)`
  | read        -- plain read of `closeChan`
  | closeInit   -- Close of an initialised object: reads `state`, then `close(wc.closeChan)` reads `closeChan`
  | closeNew    -- Close of a new object: reads `state`, writes `closeChan`

open Got.Model.WaitCloseEvents in
/-- the events of goroutine `t` in the analysis of `closeChan` -/
def Acc.ch (t : Nat) : Acc → List DEv
  | .load => [.acq t stateObj]
  | .lock => [.acq t muObj]
  | .unlock => [.rel t muObj]
  | .store => [.rel t stateObj]
  | .make | .closeNew => [.wr t]
  | .read | .closeInit => [.rd t]
  | .none | .check => []

open Got.Model.WaitCloseEvents in
/-- the events of goroutine `t` in the analysis of `state` (plain reads against atomic stores) -/
def Acc.st (t : Nat) : Acc → List DEv
  | .lock => [.acq t muObj]
  | .unlock => [.rel t muObj]
  | .store => [.wr t]
  | .check | .closeInit | .closeNew => [.rd t]
  | .none | .load | .make | .read => []

/-- control-flow edges that write no shared variable; the hypothesis is what the edge read in the state word -/
inductive Jump (s : St) : Acc → Pc → Pc → Prop
  | c : Jump s .none .idle (.load0 .c)
  | waitUtil (T : Int) : Jump s .none .idle (.load0 (.wu T))
  | isClosed : Jump s .none .idle .isc
  | close (cb : Bool) : Jump s .none .idle (.clLoad cb)
  | load0New (k : Cont) : s.state = wcNew → Jump s .load (.load0 k) (.iLock k)
  | load0OldC : s.state ≠ wcNew → Jump s .load (.load0 .c) .cRead
  | load0OldWu (T : Int) : s.state ≠ wcNew → Jump s .load (.load0 (.wu T)) (.wTimer T)
  | iCheckNew (k : Cont) : s.state = wcNew → Jump s .check (.iCheck k) (.iMake k)
  | iCheckOld (k : Cont) : s.state ≠ wcNew → Jump s .check (.iCheck k) (.iUnlock k)
  | clLoadOpen (cb : Bool) : s.state ≠ wcClosed → Jump s .load (.clLoad cb) (.clLock cb)
  | clLoadClosed (cb : Bool) : s.state = wcClosed → Jump s .load (.clLoad cb) (.clRet none)
  | clCheckOpen (cb : Bool) : s.state ≠ wcClosed → Jump s .check (.clCheck cb) (.clClose cb)
  | clCheckClosed (cb : Bool) : s.state = wcClosed → Jump s .check (.clCheck cb) (.clUnlock none)

/-- the event logged when goroutine `t` returns to `idle` from the given pc -/
inductive Ret (s : St) (t : Nat) : Acc → Pc → Ev → Prop
  | c : Ret s t .read .cRead (.cRet t s.closeChan s.now)
  | wuClosed (ch : Option Nat) (st : Nat) (T : Int) : chanClosed s ch = true →
      Ret s t .none (.wSel ch st T) (.wuRet t true ch st T s.now)
  | wuTimeout (ch : Option Nat) (st : Nat) (T : Int) : (st : Int) + T ≤ s.now →
      Ret s t .none (.wSel ch st T) (.wuRet t false ch st T s.now)
  | isc : Ret s t .load .isc (.iscRet t (decide (s.state = wcClosed)) s.now)
  | close (r : Option CbRes) : Ret s t .none (.clRet r) (.closeRet t r s.now)

/-- goroutine `t` is immaterial for `stay` and `tick` -/
inductive Move (s : St) (t : Nat) : Acc → St → Prop
  | stay : Move s t .none s
  | jump (a : Acc) (p v : Pc) : s.pc t = p → Jump s a p v → Move s t a { s with pc := upd s.pc t v }
  | lockInit (k : Cont) : s.pc t = .iLock k → s.mu = none →
      Move s t .lock { s with mu := some t, pc := upd s.pc t (.iCheck k) }
  | make (k : Cont) : s.pc t = .iMake k →
      Move s t .make { s with nchan := s.nchan + 1, closeChan := some (s.nchan + 1), pc := upd s.pc t (.iStore k) }
  | istore (k : Cont) : s.pc t = .iStore k →
      Move s t .store { s with state := wcInitialized, pc := upd s.pc t (.iUnlock k) }
  | unlockInit (k : Cont) : s.pc t = .iUnlock k →
      Move s t .unlock { s with mu := none, pc := upd s.pc t k.after }
  | timer (T : Int) : s.pc t = .wTimer T →
      Move s t .read { s with pc := upd s.pc t (.wSel s.closeChan s.now T), sel := t :: s.sel }
  -- `sel` is `s.sel` (C, IsClosed, Close) or `s.sel.erase t` (WaitUtil); the invariants ask only that the others stay in it
  | ret (a : Acc) (p : Pc) (e : Ev) (sel : List Nat) : s.pc t = p → Ret s t a p e →
      (∀ u, u ≠ t → u ∈ s.sel → u ∈ sel) →
      Move s t a { s with log := s.log ++ [e], pc := upd s.pc t .idle, sel := sel }
  | lockClose (cb : Bool) : s.pc t = .clLock cb → s.mu = none →
      Move s t .lock { s with mu := some t, pc := upd s.pc t (.clCheck cb) }
  -- `v` is `if cb then .clCbStart else .clStore none`; the invariants ask only that it is one of the two (`after_close`)
  | close (cb : Bool) (c : Nat) (v : Pc) : s.pc t = .clClose cb → s.state = wcInitialized →
      s.closeChan = some c → s.closed.contains c = false → v = .clCbStart ∨ v = .clStore none →
      Move s t .closeInit { s with closed := c :: s.closed, log := s.log ++ [.closeDo t c s.now],
                                   closeTime := some s.now, pc := upd s.pc t v }
  | closeFault (cb : Bool) : s.pc t = .clClose cb → s.state = wcInitialized →
      (∀ c, s.closeChan = some c → s.closed.contains c = true) →
      Move s t .closeInit { s with fault := true, pc := upd s.pc t (.clUnlock none) }
  | closeGlobal (cb : Bool) (v : Pc) : s.pc t = .clClose cb → s.state ≠ wcInitialized →
      v = .clCbStart ∨ v = .clStore none →
      Move s t .closeNew { s with closeChan := some globalChan, log := s.log ++ [.closeDo t globalChan s.now],
                                  closeTime := some s.now, pc := upd s.pc t v }
  | cbStart : s.pc t = .clCbStart →
      Move s t .none { s with log := s.log ++ [.cbStart t s.now], pc := upd s.pc t .clCbRun }
  | cbEnd (r : CbRes) : s.pc t = .clCbRun →
      Move s t .none { s with log := s.log ++ [.cbEnd t r s.now], pc := upd s.pc t (.clStore (some r)) }
  | clstore (r : Option CbRes) : s.pc t = .clStore r →
      Move s t .store { s with state := wcClosed, pc := upd s.pc t (.clUnlock r) }
  | unlockClose (r : Option CbRes) : s.pc t = .clUnlock r →
      Move s t .unlock { s with mu := none, pc := upd s.pc t (.clRet r) }
  | tick (d : Nat) : tickOk s d = true → Move s t .none { s with now := s.now + d }

open Got.Model.WaitCloseEvents in
/-- `true` / `false`: the code as it is, not the negative controls. The event equations are `rfl` in every case because
    `chEvT` and `stEvT` branch on `s.pc t` and `s.mu` as `stepT` does. -/
theorem stepT_move (s : St) (t : Nat) :
    ∃ a, Move s t a (stepT s t) ∧ chEvT true s t = a.ch t ∧ stEvT false s t = a.st t := by
  unfold stepT chEvT stEvT
  generalize hpc : s.pc t = p
  cases p
  case idle | clCbRun => exact ⟨_, .stay, rfl, rfl⟩
  case load0 k =>
    dsimp only
    split
    · next h => exact ⟨_, .jump _ _ _ hpc (.load0New k h), rfl, rfl⟩
    · next h =>
      cases k
      · exact ⟨_, .jump _ _ _ hpc (.load0OldC h), rfl, rfl⟩
      · exact ⟨_, .jump _ _ _ hpc (.load0OldWu _ h), rfl, rfl⟩
  case iLock k =>
    cases hmu : s.mu
    · exact ⟨_, .lockInit k hpc hmu, rfl, rfl⟩
    · exact ⟨_, .stay, rfl, rfl⟩
  case iCheck k =>
    dsimp only
    split
    · next h => exact ⟨_, .jump _ _ _ hpc (.iCheckNew k h), rfl, rfl⟩
    · next h => exact ⟨_, .jump _ _ _ hpc (.iCheckOld k h), rfl, rfl⟩
  case iMake k => exact ⟨_, .make k hpc, rfl, rfl⟩
  case iStore k => exact ⟨_, .istore k hpc, rfl, rfl⟩
  case iUnlock k => exact ⟨_, .unlockInit k hpc, rfl, rfl⟩
  case cRead => exact ⟨_, .ret _ _ _ _ hpc .c (fun _ _ a => a), rfl, rfl⟩
  case wTimer T => exact ⟨_, .timer T hpc, rfl, rfl⟩
  case wSel ch st T =>
    dsimp only
    split
    · next h =>
      exact ⟨_, .ret _ _ _ _ hpc (.wuClosed ch st T h) (fun _ hu a => (List.mem_erase_of_ne hu).mpr a), rfl, rfl⟩
    · exact ⟨_, .stay, rfl, rfl⟩
  case isc => exact ⟨_, .ret _ _ _ _ hpc .isc (fun _ _ a => a), rfl, rfl⟩
  case clLoad cb =>
    dsimp only
    split
    · next h => exact ⟨_, .jump _ _ _ hpc (.clLoadOpen cb h), rfl, rfl⟩
    · next h => exact ⟨_, .jump _ _ _ hpc (.clLoadClosed cb (Decidable.of_not_not h)), rfl, rfl⟩
  case clLock cb =>
    cases hmu : s.mu
    · exact ⟨_, .lockClose cb hpc hmu, rfl, rfl⟩
    · exact ⟨_, .stay, rfl, rfl⟩
  case clCheck cb =>
    dsimp only
    split
    · next h => exact ⟨_, .jump _ _ _ hpc (.clCheckOpen cb h), rfl, rfl⟩
    · next h => exact ⟨_, .jump _ _ _ hpc (.clCheckClosed cb (Decidable.of_not_not h)), rfl, rfl⟩
  case clClose cb =>
    dsimp only
    generalize hv : (if cb = true then Pc.clCbStart else Pc.clStore none) = v
    have hv : v = .clCbStart ∨ v = .clStore none := by
      cases cb
      · exact .inr hv.symm
      · exact .inl hv.symm
    by_cases hst : s.state = wcInitialized
    · rw [if_pos hst, if_pos hst]
      split
      · next c hc =>
        split
        · next h => exact ⟨_, .closeFault cb hpc hst (fun _ e => Option.some.inj (hc ▸ e) ▸ h), rfl, rfl⟩
        · next h => exact ⟨_, .close cb c _ hpc hst hc (Bool.eq_false_iff.mpr h) hv, rfl, rfl⟩
      · next hc => exact ⟨_, .closeFault cb hpc hst (fun _ e => nomatch hc ▸ e), rfl, rfl⟩
    · rw [if_neg hst, if_neg hst]
      exact ⟨_, .closeGlobal cb _ hpc hst hv, rfl, rfl⟩
  case clCbStart => exact ⟨_, .cbStart hpc, rfl, rfl⟩
  case clStore r => exact ⟨_, .clstore r hpc, rfl, rfl⟩
  case clUnlock r => exact ⟨_, .unlockClose r hpc, rfl, rfl⟩
  case clRet r => exact ⟨_, .ret _ _ _ _ hpc (.close r) (fun _ _ a => a), rfl, rfl⟩

open Got.Model.WaitCloseEvents in
theorem step_move (s : St) (a : Act) :
    ∃ t l, Move s t l (step s a) ∧ chEv true s a = l.ch t ∧ stEv false s a = l.st t := by
  cases a with
  | invoke t call =>
    refine ⟨t, .none, ?_, rfl, rfl⟩
    simp only [step]
    split
    · next hpc => cases call <;> exact .jump _ _ _ hpc (by constructor)
    · exact .stay
  | step t => exact ⟨t, stepT_move s t⟩
  | cbEnd t r =>
    refine ⟨t, .none, ?_, rfl, rfl⟩
    simp only [step]
    split
    · next hpc => exact .cbEnd r hpc
    · exact .stay
  | timeout t =>
    refine ⟨t, .none, ?_, rfl, rfl⟩
    simp only [step]
    split
    · next ch st T hpc =>
      split
      · next h => exact .ret _ _ _ _ hpc (.wuTimeout ch st T h) (fun _ hu a => (List.mem_erase_of_ne hu).mpr a)
      · exact .stay
    · exact .stay
  | tick d =>
    refine ⟨0, .none, ?_, rfl, rfl⟩
    simp only [step]
    split
    · next h => exact .tick d h
    · exact .stay

/-- layer A: what holds of the shared state while some goroutine is at the pc (`TInv.facts`) -/
def pcFacts (s : St) : Pc → Prop
  | .iMake _ => s.state = wcNew ∧ s.closeChan = none
  | .iStore _ => s.state = wcNew ∧ s.closeChan = some 1
  | .iUnlock _ | .cRead | .wTimer _ => s.closeChan.isSome = true
  | .clClose _ => s.state ≠ wcClosed ∧ done s = false
  | .clCbStart | .clCbRun | .clStore _ => s.state ≠ wcClosed ∧ done s = true
  | .clUnlock _ | .clRet _ => s.state = wcClosed
  | _ => True

/-- goroutine `u`'s part of layer A; `new2` / `dn2` are explained at `GInv` -/
structure TInv (s : St) (u : Nat) : Prop where
  lock : (s.pc u).holds = true ↔ s.mu = some u
  facts : pcFacts s (s.pc u)
  new2 : s.mu = some u → s.state = wcNew → s.closeChan.isSome = true → (s.pc u).storeOrAfter = true
  dn2 : s.mu = some u → done s = true → s.state ≠ wcClosed → (s.pc u).after = true

/-- the shared state. Channel ids: 0 is `globalClosedChan`, closed from the start (`g0`); `make` runs at most once (`nch`),
    so 1 is the only other id (`ini`, `cl1`, `cls`, and `some 1` in `pcFacts`). The state word lags `closeChan` in two
    windows, both inside the mutex: `closeChan` is set while `state` is still New (lazy init between `make` and its
    store, Close of a New object before its deferred store: `new1`), and the close has happened while `state` is not yet
    Closed (Close before its deferred store: `dn1`); `TInv.new2` / `dn2` place the holder of the mutex at those pcs. -/
structure GInv (s : St) : Prop where
  dom : s.state = wcNew ∨ s.state = wcInitialized ∨ s.state = wcClosed
  fault : s.fault = false
  nn : s.state ≠ wcNew → s.closeChan.isSome = true
  new1 : s.state = wcNew → s.closeChan.isSome = true → s.mu.isSome = true
  ini : s.state = wcInitialized → s.closeChan = some 1
  cl1 : 1 ∈ s.closed → done s = true
  ch0 : s.closeChan = some 0 → done s = true
  dn : done s = true → ∃ c, s.closeChan = some c ∧ c ∈ s.closed
  dn1 : done s = true → s.state ≠ wcClosed → s.mu.isSome = true
  cld : s.state = wcClosed → done s = true
  nch : s.nchan ≤ 1 ∧ (s.nchan = 1 → s.closeChan = some 1)
  cls : ∀ c ∈ s.closed, c = 0 ∨ c = 1
  g0 : 0 ∈ s.closed

def InvA (s : St) : Prop := GInv s ∧ ∀ u, TInv s u

theorem InvA.at {s : St} (h : InvA s) {t : Nat} {p : Pc} (hpc : s.pc t = p) :
    (p.holds = true → s.mu = some t) ∧ pcFacts s p ∧
    (s.mu = some t → s.state = wcNew → s.closeChan.isSome = true → p.storeOrAfter = true) ∧
    (s.mu = some t → done s = true → s.state ≠ wcClosed → p.after = true) :=
  hpc ▸ ⟨(h.2 t).lock.mp, (h.2 t).facts, (h.2 t).new2, (h.2 t).dn2⟩

theorem InvA.held {s : St} (h : InvA s) {t : Nat} {p : Pc} (hpc : s.pc t = p) (hh : p.holds = true) : s.mu = some t :=
  (h.at hpc).1 hh

theorem InvA.facts {s : St} (h : InvA s) {t : Nat} {p : Pc} (hpc : s.pc t = p) : pcFacts s p :=
  (h.at hpc).2.1

/-- layer A reads neither `now`, `sel` nor `log`: a step of `t` may set them at will -/
theorem InvA_pcstep {s : St} {p : Pc} (t : Nat) (v : Pc) (now : Nat) (sel : List Nat) (log : List Ev) (h : InvA s)
    (hpc : s.pc t = p) (hl : v.holds = p.holds) (hf : pcFacts s v)
    (hn : p.storeOrAfter = true → v.storeOrAfter = true) (ha : p.after = true → v.after = true) :
    InvA { s with now := now, pc := upd s.pc t v, sel := sel, log := log } := by
  subst hpc
  obtain ⟨g, ht⟩ := h
  refine ⟨{ g with }, fun u => ?_⟩
  have tu := ht u
  by_cases hu : u = t
  · subst hu
    refine ⟨?_, ?_, ?_, ?_⟩ <;> simp only [upd_same]
    · rw [hl]; exact tu.lock
    · exact hf
    · exact fun a b c => hn (tu.new2 a b c)
    · exact fun a b c => ha (tu.dn2 a b c)
  · refine ⟨?_, ?_, ?_, ?_⟩ <;> simp only [upd_other hu]
    · exact tu.lock
    · exact tu.facts
    · exact tu.new2
    · exact tu.dn2

theorem InvA_jump {s : St} {t : Nat} {a : Acc} {p v : Pc} (h : InvA s) (hpc : s.pc t = p) (j : Jump s a p v) :
    InvA { s with pc := upd s.pc t v } := by
  obtain ⟨hmu, _, hn, hd⟩ := h.at hpc
  have g := h.1
  have hj : v.holds = p.holds ∧ p.storeOrAfter = false ∧ p.after = false := by cases j <;> exact ⟨rfl, rfl, rfl⟩
  refine InvA_pcstep t v _ _ _ h hpc hj.1 ?_ (fun a => by rw [hj.2.1] at a; cases a) (fun a => by rw [hj.2.2] at a; cases a)
  · cases j with
    | load0OldC hne => exact g.nn hne
    | load0OldWu T hne => exact g.nn hne
    | iCheckNew k hnew =>
      exact ⟨hnew, Option.not_isSome_iff_eq_none.mp fun a => absurd (hn (hmu rfl) hnew a) Bool.false_ne_true⟩
    | iCheckOld k hne => exact g.nn hne
    | clLoadClosed cb hc => exact hc
    | clCheckOpen cb hne =>
      exact ⟨hne, Bool.eq_false_iff.mpr fun a => absurd (hd (hmu rfl) a hne) Bool.false_ne_true⟩
    | clCheckClosed cb hc => exact hc
    | _ => trivial

/-- `t` holds, takes or releases the mutex (`hmu`, `hmu'`), so `u` is outside it before and after, at a pc whose obligations
    ask at most that `closeChan` stays set (`hc`) and `state` stays closed (`hs`) -/
theorem TInv_other {s s' : St} (t u : Nat) (hu : u ≠ t) (hp : s'.pc u = s.pc u)
    (hmu : s.mu = some t ∨ s.mu = none) (hmu' : s'.mu = some t ∨ s'.mu = none)
    (hc : s.closeChan.isSome = true → s'.closeChan.isSome = true)
    (hs : s.state = wcClosed → s'.state = wcClosed)
    (tu : TInv s u) : TInv s' u := by
  have hn : ∀ {x : St}, x.mu = some t ∨ x.mu = none → ¬ x.mu = some u := by
    intro x h e
    rcases h with h | h <;> rw [h] at e <;> cases e
    exact hu rfl
  have hh : (s.pc u).holds = false := Bool.eq_false_iff.mpr fun h => hn hmu (tu.lock.mp h)
  refine ⟨?_, ?_, fun a => absurd a (hn hmu'), fun a => absurd a (hn hmu')⟩ <;> rw [hp]
  · rw [hh]; exact ⟨nofun, fun a => absurd a (hn hmu')⟩
  · have f := tu.facts
    generalize s.pc u = p at hh f ⊢
    cases p <;> first | trivial | exact hc f | exact hs f | cases hh

theorem InvA_holder {s s' : St} (t : Nat) (v : Pc) (h : InvA s) (hp : s'.pc = upd s.pc t v)
    (hmu : s.mu = some t ∨ s.mu = none) (hmu' : s'.mu = some t ∨ s'.mu = none)
    (hc : s.closeChan.isSome = true → s'.closeChan.isSome = true)
    (hs : s.state = wcClosed → s'.state = wcClosed)
    (g' : GInv s') (hl : v.holds = true ↔ s'.mu = some t) (hf : pcFacts s' v)
    (hn : s'.mu = some t → s'.state = wcNew → s'.closeChan.isSome = true → v.storeOrAfter = true)
    (hd : s'.mu = some t → done s' = true → s'.state ≠ wcClosed → v.after = true) : InvA s' := by
  refine ⟨g', fun u => ?_⟩
  by_cases hu : u = t
  · subst hu
    refine ⟨?_, ?_, ?_, ?_⟩ <;> rw [hp, upd_same]
    · exact hl
    · exact hf
    · exact hn
    · exact hd
  · exact TInv_other t u hu (by rw [hp, upd_other hu]) hmu hmu' hc hs (h.2 u)

theorem InvA_lock {s : St} (t : Nat) (v : Pc) (h : InvA s) (hmu : s.mu = none)
    (hv : v.holds = true) (hf : pcFacts s v) : InvA { s with mu := some t, pc := upd s.pc t v } := by
  have g := h.1
  refine InvA_holder t v h rfl (.inr hmu) (.inl rfl) id id { g with new1 := fun _ _ => rfl, dn1 := fun _ _ => rfl }
    (iff_of_true hv rfl) hf ?_ ?_
  · intro _ a b; have := g.new1 a b; rw [hmu] at this; cases this
  · intro _ a b; have := g.dn1 a b; rw [hmu] at this; cases this

theorem InvA_unlock {s : St} {t : Nat} {p : Pc} (v : Pc) (h : InvA s) (hpc : s.pc t = p) (hh : p.holds = true)
    (hn : p.storeOrAfter = false) (ha : p.after = false) (hv : v.holds = false) (hf : pcFacts s v) :
    InvA { s with mu := none, pc := upd s.pc t v } := by
  have g := h.1
  obtain ⟨hmu, _, n2, d2⟩ := h.at hpc
  have hmu := hmu hh
  refine InvA_holder t v h rfl (.inl hmu) (.inr rfl) id id { g with new1 := ?_, dn1 := ?_ }
    (iff_of_false (hv ▸ Bool.false_ne_true) nofun) hf nofun nofun
  · intro a b; have := n2 hmu a b; rw [hn] at this; cases this
  · intro a b; have := d2 hmu a b; rw [ha] at this; cases this

/-- checkInitSlow: `wc.closeChan = make(chan struct{})` -/
theorem InvA_make {s : St} (t : Nat) (k : Cont) (h : InvA s) (hpc : s.pc t = .iMake k) :
    InvA { s with nchan := s.nchan + 1, closeChan := some (s.nchan + 1), pc := upd s.pc t (.iStore k) } := by
  have g := h.1
  have hmu := h.held hpc rfl
  have hf := h.facts hpc
  have hdn : done s = false :=
    Bool.eq_false_iff.mpr fun hd => by obtain ⟨c, hc, _⟩ := g.dn hd; rw [hf.2] at hc; cases hc
  have hn0 : s.nchan = 0 := by
    rcases Nat.lt_or_ge s.nchan 1 with h | h
    · omega
    · have := g.nch.2 (Nat.le_antisymm g.nch.1 h); rw [hf.2] at this; cases this
  refine InvA_holder t _ h rfl (.inl hmu) (.inl hmu) (fun _ => rfl) id
    { g with nn := fun _ => rfl, new1 := fun _ _ => Option.isSome_of_eq_some hmu, ini := ?_, ch0 := ?_, dn := ?_,
             nch := ?_ }
    (iff_of_true rfl hmu) ⟨hf.1, by rw [hn0]⟩ (fun _ _ _ => rfl) ?_
  · intro a; exact absurd (hf.1 ▸ a : wcNew = wcInitialized) (by decide)
  · intro a; have : some (s.nchan + 1) = some 0 := a; cases this
  · intro a; exact absurd (hdn ▸ a : false = true) nofun
  · show s.nchan + 1 ≤ 1 ∧ (s.nchan + 1 = 1 → some (s.nchan + 1) = some 1)
    rw [hn0]; exact ⟨Nat.le_refl _, fun _ => rfl⟩
  · intro _ a; exact absurd (hdn ▸ a : false = true) nofun

/-- checkInitSlow: `atomic.StoreInt32(&wc.state, wcInitialized)` -/
theorem InvA_istore {s : St} (t : Nat) (k : Cont) (h : InvA s) (hpc : s.pc t = .iStore k) :
    InvA { s with state := wcInitialized, pc := upd s.pc t (.iUnlock k) } := by
  have g := h.1
  obtain ⟨hmu, hf, _, d2⟩ := h.at hpc
  have hmu := hmu rfl
  have hdn : done s = false :=
    Bool.eq_false_iff.mpr fun hd => absurd (d2 hmu hd (by rw [hf.1]; decide)) Bool.false_ne_true
  have hsome : s.closeChan.isSome = true := by rw [hf.2]; rfl
  refine InvA_holder t _ h rfl (.inl hmu) (.inl hmu) id (fun a => absurd (hf.1 ▸ a : wcNew = wcClosed) (by decide))
    { g with dom := .inr (.inl rfl), nn := fun _ => hsome, new1 := ?_, ini := fun _ => hf.2,
             dn1 := fun _ _ => Option.isSome_of_eq_some hmu, cld := ?_ }
    (iff_of_true rfl hmu) hsome ?_ ?_
  · intro a; exact absurd a (by decide : wcInitialized ≠ wcNew)
  · intro a; exact absurd a (by decide : wcInitialized ≠ wcClosed)
  · intro _ a; exact absurd a (by decide : wcInitialized ≠ wcNew)
  · intro _ a; exact absurd (hdn ▸ a : false = true) nofun

/-- Close: the deferred `atomic.StoreInt32(&wc.state, wcClosed)` -/
theorem InvA_clstore {s : St} (t : Nat) (r : Option CbRes) (h : InvA s) (hpc : s.pc t = .clStore r) :
    InvA { s with state := wcClosed, pc := upd s.pc t (.clUnlock r) } := by
  have g := h.1
  have hmu := h.held hpc rfl
  have hf := h.facts hpc
  refine InvA_holder t _ h rfl (.inl hmu) (.inl hmu) id (fun _ => rfl)
    { g with dom := .inr (.inr rfl), nn := ?_, new1 := ?_, ini := ?_, dn1 := fun _ a => absurd rfl a,
             cld := fun _ => hf.2 }
    (iff_of_true rfl hmu) rfl ?_ (fun _ _ a => absurd rfl a)
  · intro _; obtain ⟨c, hc, _⟩ := g.dn hf.2; show s.closeChan.isSome = true; rw [hc]; rfl
  · intro a; exact absurd a (by decide : wcClosed ≠ wcNew)
  · intro a; exact absurd a (by decide : wcClosed ≠ wcInitialized)
  · intro _ a; exact absurd a (by decide : wcClosed ≠ wcNew)

/-- at `close(wc.closeChan)` the channel is the one made by checkInitSlow and is still open: no run-time panic -/
theorem close_ok {s : St} {t : Nat} {cb : Bool} (h : InvA s) (hpc : s.pc t = .clClose cb)
    (hst : s.state = wcInitialized) (hc : ∀ c, s.closeChan = some c → s.closed.contains c = true) : False :=
  absurd (h.1.cl1 (List.contains_iff_mem.mp (hc 1 (h.1.ini hst)))) (by rw [(h.facts hpc).2]; exact Bool.false_ne_true)

theorem close_new {s : St} {t : Nat} {cb : Bool} (h : InvA s) (hpc : s.pc t = .clClose cb)
    (hst : s.state ≠ wcInitialized) : s.state = wcNew ∧ s.closeChan = none := by
  obtain ⟨hmu, hf, n2, _⟩ := h.at hpc
  have hnew : s.state = wcNew := h.1.dom.resolve_right fun a => a.elim hst hf.1
  exact ⟨hnew, Option.not_isSome_iff_eq_none.mp fun a => absurd (n2 (hmu rfl) hnew a) Bool.false_ne_true⟩

theorem after_close {v : Pc} (hv : v = .clCbStart ∨ v = .clStore none) :
    v.holds = true ∧ v.storeOrAfter = true ∧ v.after = true ∧
    (∀ s, s.state ≠ wcClosed ∧ done s = true → pcFacts s v) ∧ ∀ ch st T, v ≠ .wSel ch st T := by
  rcases hv with rfl | rfl <;> exact ⟨rfl, rfl, rfl, fun _ a => a, nofun⟩

/-- Close: `close(wc.closeChan)` (state initialised) -/
theorem InvA_close_init {s : St} (t : Nat) (cb : Bool) (ev : List Ev) (v : Pc) (h : InvA s)
    (hpc : s.pc t = .clClose cb) (hst : s.state = wcInitialized)
    (hv : v = .clCbStart ∨ v = .clStore none) :
    InvA { s with closed := 1 :: s.closed, log := ev, closeTime := some s.now, pc := upd s.pc t v } := by
  have g := h.1
  have hmu := h.held hpc rfl
  have hf := h.facts hpc
  have hch := g.ini hst
  have hnew : ¬ s.state = wcNew := by rw [hst]; decide
  have hms : s.mu.isSome = true := Option.isSome_of_eq_some hmu
  obtain ⟨vh, _, va, vf, _⟩ := after_close hv
  refine InvA_holder t v h rfl (.inl hmu) (.inl hmu) id id
    { g with cl1 := fun _ => rfl, ch0 := fun _ => rfl, dn := fun _ => ⟨1, hch, List.mem_cons_self ..⟩,
             dn1 := fun _ _ => hms, cld := fun _ => rfl, cls := ?_, g0 := List.mem_cons_of_mem _ g.g0 }
    (iff_of_true vh hmu) (vf _ ⟨hf.1, rfl⟩) (fun _ a => absurd a hnew) (fun _ _ _ => va)
  intro c hc
  rcases List.mem_cons.mp hc with rfl | hc
  · exact .inr rfl
  · exact g.cls c hc

/-- Close: `wc.closeChan = globalClosedChan` (state new) -/
theorem InvA_close_new {s : St} (t : Nat) (cb : Bool) (ev : List Ev) (v : Pc) (h : InvA s)
    (hpc : s.pc t = .clClose cb) (hst : s.state ≠ wcInitialized)
    (hv : v = .clCbStart ∨ v = .clStore none) :
    InvA { s with closeChan := some globalChan, log := ev, closeTime := some s.now, pc := upd s.pc t v } := by
  have g := h.1
  have hmu := h.held hpc rfl
  have hf := h.facts hpc
  have hms : s.mu.isSome = true := Option.isSome_of_eq_some hmu
  obtain ⟨hnew, hcn⟩ := close_new h hpc hst
  obtain ⟨vh, vs, va, vf, _⟩ := after_close hv
  refine InvA_holder t v h rfl (.inl hmu) (.inl hmu) (fun _ => rfl) id
    { g with nn := fun _ => rfl, new1 := fun _ _ => hms, ini := fun a => absurd a hst, cl1 := fun _ => rfl,
             ch0 := fun _ => rfl, dn := fun _ => ⟨0, rfl, g.g0⟩, dn1 := fun _ _ => hms, cld := fun _ => rfl,
             nch := ⟨g.nch.1, ?_⟩ }
    (iff_of_true vh hmu) (vf _ ⟨hf.1, rfl⟩) (fun _ _ _ => vs) (fun _ _ _ => va)
  intro a; have := g.nch.2 a; rw [hcn] at this; cases this

theorem Move.invA {s s' : St} {t : Nat} {a : Acc} (m : Move s t a s') (h : InvA s) : InvA s' := by
  cases m with
  | stay => exact h
  | jump _ p v hpc j => exact InvA_jump h hpc j
  | lockInit _ _ hmu | lockClose _ _ hmu => exact InvA_lock t _ h hmu rfl trivial
  | make k hpc => exact InvA_make t k h hpc
  | istore k hpc => exact InvA_istore t k h hpc
  | unlockInit k hpc =>
    exact InvA_unlock k.after h hpc rfl rfl rfl (by cases k <;> rfl) (by cases k <;> exact (h.facts hpc :))
  | timer T hpc => exact InvA_pcstep t _ _ _ _ h hpc rfl trivial nofun nofun
  | ret _ p e sel hpc r _ =>
    refine InvA_pcstep t _ _ _ _ h hpc ?_ trivial ?_ ?_ <;> cases r <;> first | rfl | exact nofun
  | close cb c v hpc hst hc _ hv =>
    cases (h.1.ini hst).symm.trans hc
    exact InvA_close_init t cb _ v h hpc hst hv
  | closeFault cb hpc hst hc => exact (close_ok h hpc hst hc).elim
  | closeGlobal cb v hpc hst hv => exact InvA_close_new t cb _ v h hpc hst hv
  | cbStart hpc | cbEnd _ hpc =>
    exact InvA_pcstep t _ _ _ _ h hpc rfl (h.facts hpc :) (fun _ => rfl) (fun _ => rfl)
  | clstore r hpc => exact InvA_clstore t r h hpc
  | unlockClose r hpc => exact InvA_unlock _ h hpc rfl rfl rfl rfl (h.facts hpc :)
  | tick d _ =>
    exact ⟨{ h.1 with }, fun u => { h.2 u with }⟩

theorem step_invA (s : St) (a : Act) (h : InvA s) : InvA (step s a) :=
  have ⟨_, _, m, _⟩ := step_move s a; m.invA h

theorem init_invA : InvA init :=
  ⟨by constructor <;> simp [init, done, globalChan, wcNew_eq, wcInitialized_eq, wcClosed_eq],
    fun u => by constructor <;> simp [init, pcFacts, Pc.holds]⟩

theorem run_invA (s : St) (acts : List Act) (h : InvA s) : InvA (run s acts) :=
  Got.Lemmas.Lts.foldl_inv (P := InvA) step_invA acts h

def didClose (l : List Ev) (u : Nat) : Prop := ∃ c n, Ev.closeDo u c n ∈ l

/-- layer B's counterpart of `pcFacts`: what the log shows while `u` is at the pc (for `wSel`: which channel it captured) -/
def pcB (s : St) (u : Nat) : Pc → Prop
  | .clCbStart => cbStarts s.log = 0 ∧ cbEnds s.log = 0 ∧ didClose s.log u
  | .clCbRun => cbStarts s.log = 1 ∧ cbEnds s.log = 0
  | .clStore _ => cbStarts s.log = cbEnds s.log ∧ cbStarts s.log ≤ 1
  | .wSel ch _ _ => ch.isSome = true ∧ ch = s.closeChan
  | _ => True

/-- what an event in the log still says of the present state; each fact is stable (`evFacts_mono`) -/
def evFacts (s : St) : Ev → Prop
  | .closeRet .. => s.state = wcClosed
  | .iscRet _ true _ => s.state = wcClosed
  | .cRet _ ch _ => ch.isSome = true ∧ ch = s.closeChan
  | .wuRet _ _ ch _ _ _ => ch.isSome = true ∧ ch = s.closeChan
  | .cbStart u _ => didClose s.log u
  | _ => True

/-- Layer B. `nd`: before the close nothing of callback or close is logged; `cl`: in state `closed` every started callback has
    ended. In between, the holder of the mutex is at a `Pc.after` pc (`TInv.dn2`) and `pcs` does the counting for it
    (`cbStarts_le_one`). -/
structure InvB (s : St) : Prop where
  nd : done s = false → cbStarts s.log = 0 ∧ cbEnds s.log = 0 ∧ closeDos s.log = 0
  cl : s.state = wcClosed → cbStarts s.log = cbEnds s.log ∧ cbStarts s.log ≤ 1
  dos : closeDos s.log ≤ 1
  evs : ∀ e ∈ s.log, evFacts s e
  pcs : ∀ u, pcB s u (s.pc u)

theorem InvB.at {s : St} (h : InvB s) {t : Nat} {p : Pc} (hpc : s.pc t = p) : pcB s t p :=
  hpc ▸ h.pcs t

theorem didClose_mono {l : List Ev} {u : Nat} (l' : List Ev) (h : didClose l u) : didClose (l ++ l') u := by
  obtain ⟨c, n, h⟩ := h
  exact ⟨c, n, List.mem_append_left _ h⟩

theorem cbStarts_snoc (l : List Ev) (e : Ev) : cbStarts (l ++ [e]) = cbStarts l + (if e.isCbStart then 1 else 0) := by
  simp [cbStarts, List.countP_append, List.countP_cons]
theorem cbEnds_snoc (l : List Ev) (e : Ev) : cbEnds (l ++ [e]) = cbEnds l + (if e.isCbEnd then 1 else 0) := by
  simp [cbEnds, List.countP_append, List.countP_cons]
theorem closeDos_snoc (l : List Ev) (e : Ev) : closeDos (l ++ [e]) = closeDos l + (if e.isCloseDo then 1 else 0) := by
  simp [closeDos, List.countP_append, List.countP_cons]

theorem InvB_pcstep {s : St} (t : Nat) (v : Pc) (now : Nat) (mu : Option Nat) (sel : List Nat) (h : InvB s)
    (hv : pcB s t v) : InvB { s with now := now, mu := mu, pc := upd s.pc t v, sel := sel } :=
  { h with pcs := upd_forall (P := pcB s) hv fun u _ => h.pcs u }

theorem chan_stays {s s' : St} (hch : s.closeChan.isSome = true → s'.closeChan = s.closeChan) {ch : Option Nat}
    (h : ch.isSome = true ∧ ch = s.closeChan) : ch.isSome = true ∧ ch = s'.closeChan :=
  ⟨h.1, by rw [hch (h.2 ▸ h.1)]; exact h.2⟩

theorem evFacts_mono {s s' : St} (l : List Ev) (hlog : s'.log = s.log ++ l)
    (hst : s.state = wcClosed → s'.state = wcClosed)
    (hch : s.closeChan.isSome = true → s'.closeChan = s.closeChan) (e : Ev) (hf : evFacts s e) : evFacts s' e := by
  cases e with
  | iscRet t b n => cases b <;> first | trivial | exact hst hf
  | cbStart u n => show didClose s'.log u; rw [hlog]; exact didClose_mono l hf
  | closeRet t r n => exact hst hf
  | cRet | wuRet => exact chan_stays hch hf
  | _ => trivial

theorem InvB_log {s : St} (e : Ev) (h : InvB s) (he : e.isCbStart = false ∧ e.isCbEnd = false ∧ e.isCloseDo = false)
    (hnew : evFacts s e) : InvB { s with log := s.log ++ [e] } := by
  have c1 := cbStarts_snoc s.log e
  have c2 := cbEnds_snoc s.log e
  have c3 := closeDos_snoc s.log e
  simp only [he, Bool.false_eq_true, ↓reduceIte, Nat.add_zero] at c1 c2 c3
  have mono := evFacts_mono (s := s) (s' := { s with log := s.log ++ [e] }) [e] rfl id (fun _ => rfl)
  refine ⟨?_, ?_, ?_, ?_, fun u => ?_⟩
  · show done s = false → _; rw [c1, c2, c3]; exact h.nd
  · show s.state = wcClosed → _; rw [c1, c2]; exact h.cl
  · show closeDos (s.log ++ [e]) ≤ 1; rw [c3]; exact h.dos
  · intro e' he'
    rcases List.mem_append.mp he' with he' | he'
    · exact mono e' (h.evs e' he')
    · cases List.mem_singleton.mp he'; exact mono e hnew
  · have hp := h.pcs u
    show pcB _ u (s.pc u)
    generalize s.pc u = p at hp ⊢
    cases p <;> simp only [pcB, c1, c2] <;> first | trivial | exact hp | skip
    exact ⟨hp.1, hp.2.1, didClose_mono [e] hp.2.2⟩

theorem others_not_hold {s : St} (hA : InvA s) (t : Nat) (hmu : s.mu = some t) (u : Nat) (hu : u ≠ t) :
    (s.pc u).holds = false :=
  Bool.eq_false_iff.mpr fun h => hu (Option.some.inj (hmu ▸ (hA.2 u).lock.mp h)).symm

theorem InvB_holder {s s' : St} (t : Nat) (v : Pc) (l : List Ev) (hA : InvA s) (h : InvB s) (hmu : s.mu = some t)
    (hlog : s'.log = s.log ++ l) (hp : s'.pc = upd s.pc t v)
    (hst : s.state = wcClosed → s'.state = wcClosed)
    (hch : s.closeChan.isSome = true → s'.closeChan = s.closeChan)
    (hnd : done s' = false → cbStarts s'.log = 0 ∧ cbEnds s'.log = 0 ∧ closeDos s'.log = 0)
    (hcl : s'.state = wcClosed → cbStarts s'.log = cbEnds s'.log ∧ cbStarts s'.log ≤ 1)
    (hdos : closeDos s'.log ≤ 1) (hnew : ∀ e ∈ l, evFacts s' e) (hv : pcB s' t v) : InvB s' := by
  refine ⟨hnd, hcl, hdos, ?_, ?_⟩
  · intro e he
    rcases List.mem_append.mp (hlog ▸ he) with he | he
    · exact evFacts_mono l hlog hst hch e (h.evs e he)
    · exact hnew e he
  · rw [hp]
    refine upd_forall (P := pcB s') hv fun u hu => ?_
    -- the others are outside the mutex, at pcs where `pcB` asks at most that the channel stays
    have hh := others_not_hold hA t hmu u hu
    have hp := h.pcs u
    generalize s.pc u = p at hh hp ⊢
    cases p <;> first | trivial | cases hh | skip
    exact chan_stays hch hp

theorem InvB_close {s : St} (t : Nat) (cb : Bool) (c : Nat) (v : Pc) (ch : Option Nat) (closed : List Nat)
    (hA : InvA s) (h : InvB s) (hpc : s.pc t = .clClose cb) (hv : v = .clCbStart ∨ v = .clStore none)
    (hch : s.closeChan.isSome = true → ch = s.closeChan) :
    InvB { s with closeChan := ch, closed := closed, log := s.log ++ [.closeDo t c s.now], closeTime := some s.now,
                  pc := upd s.pc t v } := by
  have hf := hA.facts hpc
  obtain ⟨n1, n2, n3⟩ := h.nd hf.2
  have c1 := cbStarts_snoc s.log (.closeDo t c s.now)
  have c2 := cbEnds_snoc s.log (.closeDo t c s.now)
  rw [n1] at c1; rw [n2] at c2
  refine InvB_holder t v [.closeDo t c s.now] hA h (hA.held hpc rfl) rfl rfl id hch nofun (fun a => absurd a hf.1) ?_ ?_ ?_
  · show closeDos (s.log ++ [.closeDo t c s.now]) ≤ 1
    rw [closeDos_snoc, n3]; exact Nat.le_refl _
  · intro e he; cases List.mem_singleton.mp he; trivial
  · rcases hv with rfl | rfl
    · exact ⟨c1, c2, c, s.now, List.mem_append_right _ (List.mem_singleton.mpr rfl)⟩
    · exact ⟨c1.trans c2.symm, c1 ▸ Nat.zero_le _⟩

theorem InvB_cb {s : St} {t : Nat} {p : Pc} (e : Ev) (v : Pc) (hA : InvA s) (h : InvB s) (hpc : s.pc t = p)
    (hh : p.holds = true) (hf : s.state ≠ wcClosed ∧ done s = true) (he : e.isCloseDo = false)
    (hnew : evFacts { s with log := s.log ++ [e] } e) (hv : pcB { s with log := s.log ++ [e] } t v) :
    InvB { s with log := s.log ++ [e], pc := upd s.pc t v } := by
  refine InvB_holder t v [e] hA h (hA.held hpc hh) rfl rfl id (fun _ => rfl)
    (fun a => absurd (hf.2 ▸ a : true = false) nofun) (fun a => absurd a hf.1) ?_ ?_ hv
  · show closeDos (s.log ++ [e]) ≤ 1
    rw [closeDos_snoc, he]; exact h.dos
  · intro e' he'; cases List.mem_singleton.mp he'; exact hnew

theorem Move.invB {s s' : St} {t : Nat} {a : Acc} (m : Move s t a s') (hA : InvA s) (h : InvB s) : InvB s' := by
  cases m with
  | stay => exact h
  | jump _ p v hpc j =>
    exact InvB_pcstep t v _ _ _ h (by cases j <;> trivial)
  | lockInit | lockClose | unlockClose => exact InvB_pcstep t _ _ _ _ h trivial
  | unlockInit k _ => exact InvB_pcstep t _ _ _ _ h (by cases k <;> trivial)
  | tick d _ => exact { h with }
  | timer T hpc => exact InvB_pcstep t _ _ _ _ h ⟨hA.facts hpc, rfl⟩
  | ret _ p e sel hpc r _ =>
    have hf := hA.facts hpc
    have hb := h.at hpc
    refine InvB_pcstep (s := { s with log := s.log ++ [e] }) t .idle _ _ _ (InvB_log e h ?_ ?_) trivial
    · cases r <;> exact ⟨rfl, rfl, rfl⟩
    · cases r with
      | c => exact ⟨hf, rfl⟩
      | wuClosed | wuTimeout => exact hb
      | isc =>
        by_cases hc : s.state = wcClosed
        · simp only [hc, decide_true, evFacts]
        · simp only [hc, decide_false, evFacts]
      | close => exact hf
  | make k hpc =>
    exact InvB_holder t _ [] hA h (hA.held hpc rfl) (List.append_nil _).symm rfl id
      (fun a => by rw [(hA.facts hpc).2] at a; cases a) h.nd h.cl h.dos nofun trivial
  | istore k hpc =>
    exact InvB_holder t _ [] hA h (hA.held hpc rfl) (List.append_nil _).symm rfl
      (fun a => absurd ((hA.facts hpc).1 ▸ a : wcNew = wcClosed) (by decide)) (fun _ => rfl) h.nd
      (fun a => absurd a (by decide : wcInitialized ≠ wcClosed)) h.dos nofun trivial
  | clstore r hpc =>
    have hb := h.at hpc
    exact InvB_holder t _ [] hA h (hA.held hpc rfl) (List.append_nil _).symm rfl (fun _ => rfl) (fun _ => rfl)
      (fun a => absurd ((hA.facts hpc).2 ▸ a : true = false) nofun) (fun _ => hb) h.dos nofun trivial
  | close cb c v hpc _ hc _ hv => exact InvB_close t cb c v _ _ hA h hpc hv fun _ => rfl
  | closeFault cb hpc hst hc => exact (close_ok hA hpc hst hc).elim
  | closeGlobal cb v hpc hst hv =>
    refine InvB_close t cb _ v _ _ hA h hpc hv fun a => ?_
    rw [(close_new hA hpc hst).2] at a; cases a
  | cbStart hpc =>
    obtain ⟨b1, b2, b3⟩ := h.at hpc
    refine InvB_cb (.cbStart t s.now) _ hA h hpc rfl (hA.facts hpc) rfl ?_ ?_
    · exact didClose_mono _ b3
    · show cbStarts (s.log ++ [.cbStart t s.now]) = 1 ∧ cbEnds (s.log ++ [.cbStart t s.now]) = 0
      rw [cbStarts_snoc, cbEnds_snoc, b1, b2]; exact ⟨rfl, rfl⟩
  | cbEnd r hpc =>
    obtain ⟨b1, b2⟩ := h.at hpc
    refine InvB_cb (.cbEnd t r s.now) _ hA h hpc rfl (hA.facts hpc) rfl trivial ?_
    show cbStarts (s.log ++ [.cbEnd t r s.now]) = cbEnds (s.log ++ [.cbEnd t r s.now]) ∧ _ ≤ 1
    rw [cbStarts_snoc, cbEnds_snoc, b1, b2]; exact ⟨rfl, Nat.le_refl _⟩

theorem init_invB : InvB init := by
  constructor <;> simp [init, done, cbStarts, cbEnds, closeDos, pcB, wcNew_eq, wcClosed_eq]

/-- what a WaitUtil result says about the instant of the close. `ct` is the `closeTime` of the state in which the invariant is
    read, not of the one in which the result was logged: a `false` logged before the close has `ct = none` until the close
    comes, and stays justified then (`evC_close`) -/
def evC (now : Nat) (ct : Option Nat) : Ev → Prop
  | .wuRet _ true _ st T n =>
      n ≤ now ∧ ∃ tc, ct = some tc ∧ tc ≤ n ∧ (0 < T → (tc : Int) ≤ st + T)
  | .wuRet _ false _ st T n =>
      n ≤ now ∧ (st : Int) + T ≤ n ∧ (0 < T → ct = none ∨ ∃ tc, ct = some tc ∧ (st : Int) + T ≤ tc)
  | _ => True

/-- Layer C. `w`, for a WaitUtil waiting in `select` since `st` with timeout `T`: `tickOk` never lets the clock pass the
    timer `st + T` (the disjunct `now ≤ st` is "no tick since the start", which covers `T ≤ 0`), and refuses to tick once
    the channel is closed, so the clock then still shows the later of the close `tc` and the start `st`. -/
structure InvC (s : St) : Prop where
  ct : ∀ tc, s.closeTime = some tc → tc ≤ s.now
  sel : ∀ u ch st T, s.pc u = .wSel ch st T → u ∈ s.sel
  w : ∀ u ch st T, s.pc u = .wSel ch st T →
        st ≤ s.now ∧ ((s.now : Int) ≤ st ∨ (s.now : Int) ≤ st + T) ∧
        (chanClosed s ch = true → ∃ tc, s.closeTime = some tc ∧ ((tc ≤ st ∧ s.now = st) ∨ (st ≤ tc ∧ s.now = tc)))
  ev : ∀ e ∈ s.log, evC s.now s.closeTime e
  ctl : ∀ tc, s.closeTime = some tc → ∃ t c, Ev.closeDo t c tc ∈ s.log

theorem InvC_pcstep {s : St} (t : Nat) (v : Pc) (state : Int) (closeChan : Option Nat) (nchan : Nat)
    (mu : Option Nat) (sel : List Nat) (fault : Bool) (h : InvC s) (hv : ∀ ch st T, v ≠ .wSel ch st T)
    (hsel : ∀ u, u ≠ t → u ∈ s.sel → u ∈ sel) :
    InvC { s with state := state, closeChan := closeChan, nchan := nchan, mu := mu, pc := upd s.pc t v, sel := sel,
                  fault := fault } :=
  { h with sel := fun u ch st T e => have o := other_of_upd_eq e (hv ch st T); hsel u o.1 (h.sel u ch st T o.2)
           w := fun u ch st T e => h.w u ch st T (other_of_upd_eq e (hv ch st T)).2 }

theorem InvC_log {s : St} (e : Ev) (h : InvC s) (he : evC s.now s.closeTime e) :
    InvC { s with log := s.log ++ [e] } := by
  refine { h with ev := fun e' he' => ?_, ctl := fun tc a => ?_ }
  · rcases List.mem_append.mp he' with he' | he'
    · exact h.ev e' he'
    · cases List.mem_singleton.mp he'; exact he
  · obtain ⟨x, c, hx⟩ := h.ctl tc a
    exact ⟨x, c, List.mem_append_left _ hx⟩

theorem closed_iff_done {s : St} (hA : InvA s) : chanClosed s s.closeChan = true ↔ done s = true := by
  have g := hA.1
  constructor
  · intro h
    cases hc : s.closeChan with
    | none => rw [hc] at h; cases h
    | some c =>
      rw [hc] at h
      have h := List.contains_iff_mem.mp h
      rcases g.cls c h with rfl | rfl
      · exact g.ch0 hc
      · exact g.cl1 h
  · intro h
    obtain ⟨c, hc, hm⟩ := g.dn h
    rw [hc]; exact List.contains_iff_mem.mpr hm

theorem evC_mono_now {now now' : Nat} {ct : Option Nat} (h : now ≤ now') (e : Ev) (he : evC now ct e) :
    evC now' ct e := by
  cases e with
  | wuRet t b ch st T n => cases b <;> exact ⟨Nat.le_trans he.1 h, he.2⟩
  | _ => trivial

theorem evC_close {now : Nat} (e : Ev) (he : evC now none e) : evC now (some now) e := by
  cases e with
  | wuRet t b ch st T n =>
    cases b
    · refine ⟨he.1, he.2.1, fun hT => Or.inr ⟨now, rfl, ?_⟩⟩
      have := he.1; have := he.2.1; omega
    · obtain ⟨_, tc, h, _⟩ := he; cases h
  | _ => trivial

theorem InvC_close {s : St} (t c : Nat) (v : Pc) (ch : Option Nat) (closed : List Nat) (h : InvC s)
    (hct : s.closeTime = none) (hv : ∀ ch st T, v ≠ .wSel ch st T) :
    InvC { s with closeChan := ch, closed := closed, log := s.log ++ [.closeDo t c s.now], closeTime := some s.now,
                  pc := upd s.pc t v } := by
  refine ⟨?_, ?_, ?_, ?_, ?_⟩
  · intro tc a; cases (a : some s.now = some tc); exact Nat.le_refl _
  · intro u ch st T e; exact h.sel u ch st T (other_of_upd_eq e (hv ch st T)).2
  · intro u ch st T e
    obtain ⟨w1, w2, _⟩ := h.w u ch st T (other_of_upd_eq e (hv ch st T)).2
    exact ⟨w1, w2, fun _ => ⟨s.now, rfl, Or.inr ⟨w1, rfl⟩⟩⟩
  · intro e he
    rcases List.mem_append.mp he with he | he
    · exact evC_close e (hct ▸ h.ev e he)
    · cases List.mem_singleton.mp he; trivial
  · intro tc a; cases (a : some s.now = some tc)
    exact ⟨t, c, List.mem_append_right _ (List.mem_singleton.mpr rfl)⟩

theorem Move.invC {s s' : St} {t : Nat} {a : Acc} (m : Move s t a s') (hA : InvA s) (hB : InvB s) (h : InvC s) : InvC s' := by
  cases m with
  | stay => exact h
  | jump _ p v _ j =>
    exact InvC_pcstep t v _ _ _ _ _ _ h (fun _ _ _ e => by subst e; cases j) fun _ _ a => a
  | lockInit | lockClose | make | istore | clstore | unlockClose | closeFault =>
    exact InvC_pcstep t _ _ _ _ _ _ _ h nofun fun _ _ a => a
  | unlockInit k _ => exact InvC_pcstep t _ _ _ _ _ _ _ h (by cases k <;> exact nofun) fun _ _ a => a
  | cbStart | cbEnd =>
    exact InvC_pcstep (s := { s with log := _ }) t _ _ _ _ _ _ _ (InvC_log _ h (by trivial)) nofun fun _ _ a => a
  | close _ _ v hpc _ _ _ hv | closeGlobal _ v hpc _ hv =>
    exact InvC_close t _ v _ _ h (Option.not_isSome_iff_eq_none.mp (Bool.eq_false_iff.mp (hA.facts hpc).2))
      (after_close hv).2.2.2.2
  | timer T hpc =>
    refine { h with sel := fun u ch st T' => ?_, w := fun u ch st T' => ?_ }
    · exact upd_forall (f := s.pc) (P := fun u p => p = .wSel ch st T' → u ∈ t :: s.sel) (fun _ => List.mem_cons_self ..)
        (fun u _ e => List.mem_cons_of_mem _ (h.sel u ch st T' e)) u
    · refine upd_forall (f := s.pc) (P := fun u p => p = .wSel ch st T' → _) (fun e => ?_) (fun u _ => h.w u ch st T') u
      -- the timer starts now; if the channel is closed already, the close was earlier
      cases e
      refine ⟨Nat.le_refl _, Or.inl (Int.le_refl _), fun hc => ?_⟩
      obtain ⟨tc, htc⟩ := Option.isSome_iff_exists.mp ((closed_iff_done hA).mp hc)
      exact ⟨tc, htc, Or.inl ⟨h.ct tc htc, rfl⟩⟩
  | ret _ p e sel hpc r hsel =>
    refine InvC_pcstep (s := { s with log := _ }) t _ _ _ _ _ _ _ (InvC_log e h ?_) nofun hsel
    cases r with
    | wuClosed ch st T hc =>
      obtain ⟨w1, w2, w3⟩ := h.w t ch st T hpc
      obtain ⟨tc, htc, hcase⟩ := w3 hc
      refine ⟨Nat.le_refl _, tc, htc, ?_, fun hT => ?_⟩
      · omega
      · omega
    | wuTimeout ch st T hg =>
      obtain ⟨w1, w2, w3⟩ := h.w t ch st T hpc
      have hb := hB.at hpc
      refine ⟨Nat.le_refl _, hg, fun hT => ?_⟩
      cases hc : s.closeTime with
      | none => exact Or.inl rfl
      | some tc =>
        -- closed already: the select was ready, so time has stood still since the later of close and start
        have hcl := (closed_iff_done hA).mpr (show done s = true by rw [done, hc]; rfl)
        rw [← hb.2] at hcl
        obtain ⟨tc', htc', hcase⟩ := w3 hcl
        cases hc.symm.trans htc'
        refine Or.inr ⟨tc, rfl, ?_⟩
        omega
    | _ => trivial
  | tick d hok =>
    simp only [tickOk, List.all_eq_true] at hok
    refine { h with ct := fun tc a => Nat.le_trans (h.ct tc a) (Nat.le_add_right _ _), w := ?_
                    ev := fun e he => evC_mono_now (Nat.le_add_right _ _) e (h.ev e he) }
    intro u ch st T (hu : s.pc u = .wSel ch st T)
    have := hok u (h.sel u ch st T hu)
    rw [hu] at this
    simp only [Bool.and_eq_true, Bool.not_eq_true', decide_eq_true_eq] at this
    obtain ⟨w1, w2, w3⟩ := h.w u ch st T hu
    refine ⟨Nat.le_trans w1 (Nat.le_add_right _ _), Or.inr ?_, fun (hc : chanClosed s ch = true) => ?_⟩
    · show ((s.now + d : Nat) : Int) ≤ st + T
      have := this.2; omega
    · rw [this.1] at hc; cases hc

theorem init_invC : InvC init := by
  constructor <;> simp [init]

theorem reach_inv (acts : List Act) : InvA (run init acts) ∧ InvB (run init acts) ∧ InvC (run init acts) :=
  Got.Lemmas.Lts.foldl_inv (P := fun s => InvA s ∧ InvB s ∧ InvC s)
    (fun s a h => have ⟨_, _, m, _⟩ := step_move s a; ⟨m.invA h.1, m.invB h.1 h.2.1, m.invC h.1 h.2.1 h.2.2⟩)
    acts ⟨init_invA, init_invB, init_invC⟩

theorem reach_invAB (acts : List Act) : InvA (run init acts) ∧ InvB (run init acts) :=
  have h := reach_inv acts; ⟨h.1, h.2.1⟩

theorem cbStarts_le_one {s : St} (hA : InvA s) (hB : InvB s) : cbStarts s.log ≤ 1 := by
  cases hd : done s with
  | false => have := (hB.nd hd).1; omega
  | true =>
    by_cases hc : s.state = wcClosed
    · exact (hB.cl hc).2
    · -- the close is done and the store is not: the holder of the mutex is between the two
      obtain ⟨h, hmu⟩ := Option.isSome_iff_exists.mp (hA.1.dn1 hd hc)
      have ha := (hA.2 h).dn2 hmu hd hc
      have hb := hB.pcs h
      generalize s.pc h = p at ha hb
      cases p
      case clCbStart => exact hb.1 ▸ Nat.zero_le 1
      case clCbRun => exact Nat.le_of_eq hb.1
      case clStore => exact hb.2
      all_goals cases ha

theorem Move.closed_stable {s s' : St} {t : Nat} {a : Acc} (m : Move s t a s') (hA : InvA s) (hc : s.state = wcClosed) :
    s'.state = wcClosed := by
  cases m with
  | istore k hpc => exact absurd ((hA.facts hpc).1 ▸ hc : wcNew = wcClosed) (by decide)
  | clstore => rfl
  | _ => exact hc

theorem run_closed_stable {s : St} (hA : InvA s) (acts : List Act) (hc : s.state = wcClosed) :
    (run s acts).state = wcClosed :=
  (Got.Lemmas.Lts.foldl_inv (P := fun s => InvA s ∧ s.state = wcClosed)
    (fun s a h => have ⟨_, _, m, _⟩ := step_move s a; ⟨m.invA h.1, m.closed_stable h.1 h.2⟩) acts ⟨hA, hc⟩).2

/-- the three `step`s are Close's deferred store, its deferred unlock and its return -/
theorem cbEnd_closes {s : St} (hA : InvA s) (t : Nat) (r : CbRes) (hpc : s.pc t = .clCbRun) :
    let s' := run s [.cbEnd t r, .step t, .step t, .step t]
    s'.state = wcClosed ∧ s'.mu = none ∧ chanClosed s' s'.closeChan = true ∧ s'.fault = false ∧
    s'.log = s.log ++ [.cbEnd t r s.now, .closeRet t (some r) s.now] ∧ s'.pc t = .idle := by
  intro s'
  have hA' : InvA s' := run_invA s _ hA
  have e : s'.state = wcClosed ∧ s'.mu = none ∧
      s'.log = s.log ++ [.cbEnd t r s.now, .closeRet t (some r) s.now] ∧ s'.pc t = .idle := by
    simp [s', run, step, stepT, hpc, upd_same]
  exact ⟨e.1, e.2.1, (closed_iff_done hA').mpr (hA'.1.cld e.1), hA'.1.fault, e.2.2⟩

end Got.Model.WaitClose
