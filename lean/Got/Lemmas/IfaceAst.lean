import Got.Model.SampleAst
import Got.Lemmas.SampleLoopAst
import Got.Lemmas.HeapAstAll
/-
The heap.Interface world generated from the methods of randx.sampleHeap (Got/Generated/AstRandxSampleHeap.lean, rewritten
from /repo/randx/sample.go on every run) IS the slice-backed world `heapWorld (itemLess less)` that the heap model and the
refinement theorems of container/heap assume (`sampleWorld_eq`, `get_eq`).  From `popW_eq` on, the hand-transcribed
loop: run over the generated world with the container/heap terms from GOROOT (`weightedSamplingGen`) it equals
`weightedSamplingAst`.  Last, the assembly for C20: the heap operations `genOps` (the container/heap terms over the generated
world) satisfy `OpsSpec`, so that with `SampleLoopAst.sampling_run_refines` C20 concludes that `weightedSamplingFull` — the generated
body of WeightedSampling run over them, i.e. what `drv_sample ast` prints — is the model `weightedSampling`.
-/
namespace Got.Lemmas.IfaceAst
open Got.Model Got.Model.Sample Got.Model.HeapAst Got.Model.SampleAst Got.Model.MiniGoHeap Got.Model.MiniGoIface
open Got.Generated.AstRandxSampleHeap

variable {κ : Type}

theorem at_natCast_lt {ε : Type} (a : Array ε) (i : Int) (h : 0 ≤ i ∧ i.toNat < a.size) : at? a i = some (a[i.toNat]'h.2) := by
  unfold at?
  rw [if_pos h]
  exact Array.getElem?_eq_getElem h.2

theorem at_none {ε : Type} (a : Array ε) (i : Int) (h : ¬ (0 ≤ i ∧ i.toNat < a.size)) : at? a i = none := by
  unfold at?
  rw [if_neg h]

theorem sampleWorld_less (less : κ → κ → Bool) (a : Array (Item κ)) (i j : Int) :
    (sampleWorld less).less a i j = (heapWorld (itemLess less)).less a i j := by
  simp only [sampleWorld, worldOf, sampleHeap, Idx.eval, List.getD_cons_zero, List.getD_cons_succ, keyField, if_true, heapWorld]
  by_cases h : 0 ≤ i ∧ 0 ≤ j ∧ i.toNat < a.size ∧ j.toNat < a.size
  · rw [dif_pos h, at_natCast_lt a i ⟨h.1, h.2.2.1⟩, at_natCast_lt a j ⟨h.2.1, h.2.2.2⟩]
  · rw [dif_neg h]
    by_cases hi : 0 ≤ i ∧ i.toNat < a.size
    · have hj : ¬ (0 ≤ j ∧ j.toNat < a.size) := fun hj => h ⟨hi.1, hj.1, hi.2, hj.2⟩
      rw [at_natCast_lt a i hi, at_none a j hj]
    · rw [at_none a i hi]

theorem sampleWorld_swap (less : κ → κ → Bool) (a : Array (Item κ)) (i j : Int) :
    (sampleWorld less).swap a i j = (heapWorld (itemLess less)).swap a i j := by
  simp only [sampleWorld, worldOf, sampleHeap, Idx.eval, List.getD_cons_zero, List.getD_cons_succ, heapWorld]
  by_cases h : 0 ≤ i ∧ 0 ≤ j ∧ i.toNat < a.size ∧ j.toNat < a.size
  · rw [dif_pos h, at_natCast_lt a i ⟨h.1, h.2.2.1⟩, at_natCast_lt a j ⟨h.2.1, h.2.2.2⟩]
    simp only
    rw [if_pos ⟨h.1, h.2.2.1, h.2.1, h.2.2.2⟩]
    congr 1
    simp only [Array.swap, Array.setIfInBounds, h.2.2.1, h.2.2.2, Array.size_set, dite_true]
  · rw [dif_neg h]
    by_cases hj : 0 ≤ j ∧ j.toNat < a.size
    · by_cases hi : 0 ≤ i ∧ i.toNat < a.size
      · exact absurd ⟨hi.1, hj.1, hi.2, hj.2⟩ h
      · rw [at_natCast_lt a j hj, at_none a i hi]
    · rw [at_none a j hj]

theorem sampleWorld_pop (less : κ → κ → Bool) (a : Array (Item κ)) :
    (sampleWorld less).pop a = (heapWorld (itemLess less)).pop a := by
  simp only [sampleWorld, worldOf, sampleHeap, Idx.eval, heapWorld]
  by_cases h0 : a.size = 0
  · obtain rfl := Array.eq_empty_of_size_eq_zero h0
    rfl
  · have hlast : ((a.size : Int) - ((1 : Nat) : Int)).toNat = a.size - 1 := by omega
    have hnn : 0 ≤ (a.size : Int) - ((1 : Nat) : Int) := by omega
    have hlt : a.size - 1 < a.size := Nat.sub_lt (Nat.pos_of_ne_zero h0) Nat.one_pos
    have hb : a.back? = some (a[a.size - 1]'hlt) := by
      rw [Array.back?_eq_getElem?]; exact Array.getElem?_eq_getElem hlt
    rw [hb, at_natCast_lt a _ ⟨hnn, hlast.symm ▸ hlt⟩]
    simp only [hlast]
    rw [if_pos ⟨hnn, Nat.sub_le _ _⟩, Array.extract_eq_pop rfl]

theorem sampleWorld_eq (less : κ → κ → Bool) : sampleWorld less = heapWorld (itemLess less) :=
  -- field by field; `len` and `push` agree by computation
  show World.mk _ _ _ _ _ = World.mk _ _ _ _ _ from
    (World.mk.injEq ..).mpr ⟨rfl, funext fun a => funext fun i => funext fun j => sampleWorld_less less a i j,
      funext fun a => funext fun i => funext fun j => sampleWorld_swap less a i j, rfl, funext (sampleWorld_pop less)⟩

theorem get_eq (h : Array (Item κ)) (i : Nat) : getOf sampleHeap h (i : Int) = h[i]? := by
  simp only [getOf, sampleHeap, Idx.eval, List.getD_cons_zero]
  unfold at?
  by_cases hs : i < h.size
  · rw [if_pos ⟨by omega, by simpa using hs⟩]; simp
  · have hn : h[i]? = none := by
      rw [Array.getElem?_eq_none_iff]; omega
    rw [if_neg (by intro hh; exact hs (by simpa using hh.2)), hn]

theorem popW_eq (fuel : Nat) (less : κ → κ → Bool) (h1 : Array (Item κ)) :
    popW fuel (heapWorld (itemLess less)) h1 = popAst fuel (itemLess less) h1 := by
  unfold popW popAst
  cases Got.Generated.AstContainerHeap.h_Pop.run (heapWorld (itemLess less)) Got.Generated.AstContainerHeap.prog fuel [] none h1 with
  | none => rfl
  | some o =>
    cases o with
    | panic => rfl
    | done vs v w => cases v <;> rfl

theorem pushW_eq (fuel : Nat) (less : κ → κ → Bool) (h : Array (Item κ)) (x : Item κ) :
    pushW fuel (heapWorld (itemLess less)) h x = pushAst fuel (itemLess less) h x := rfl

theorem stepAstW_eq (fuel : Nat) (less gt : κ → κ → Bool) (m : Nat) (h : Array (Item κ)) (i : Nat) (ki : κ) :
    stepAstW fuel (heapWorld (itemLess less)) (fun h => h[0]?) gt m h i ki = stepAst fuel less gt m h i ki := by
  unfold stepAstW stepAst
  have e1 : ((heapWorld (itemLess less)).len h < (m : Int)) ↔ h.size < m := Int.ofNat_lt
  by_cases hlt : h.size < m
  · rw [if_pos (e1.2 hlt), if_pos hlt]; rfl
  · rw [if_neg (fun hh => hlt (e1.1 hh)), if_neg hlt]
    dsimp only
    cases h[0]? with
    | none => rfl
    | some top =>
      simp only
      split
      · rw [pushW_eq]
        cases pushAst fuel (itemLess less) h ⟨ki, i⟩ with
        | none => rfl
        | some o =>
          cases o with
          | none => rfl
          | some h1 =>
            simp only
            rw [popW_eq]
            have e2 : ((heapWorld (itemLess less)).len h1 > (m : Int)) ↔ h1.size > m := Int.ofNat_lt
            by_cases hgt : h1.size > m
            · rw [if_pos (e2.2 hgt), if_pos hgt]
            · rw [if_neg (fun hh => hgt (e2.1 hh)), if_neg hgt]
      · rfl

theorem loopAstW_eq (fuel : Nat) (less gt : κ → κ → Bool) (m : Nat) :
    ∀ (keys : List κ) (h : Array (Item κ)) (i : Nat),
      loopAstW fuel (heapWorld (itemLess less)) (fun h => h[0]?) gt m h i keys = loopAst fuel less gt m h i keys := by
  intro keys
  induction keys with
  | nil => intro h i; rfl
  | cons k ks ih =>
    intro h i
    unfold loopAstW loopAst
    rw [stepAstW_eq]
    cases stepAst fuel less gt m h i k with
    | none => rfl
    | some o =>
      cases o with
      | none => rfl
      | some h1 => exact ih h1 (i + 1)

theorem weightedSamplingGen_eq (fuel : Nat) (less gt : κ → κ → Bool) (sampleNum : Int) (keys : List κ) :
    weightedSamplingGen fuel less gt sampleNum keys = weightedSamplingAst fuel less gt sampleNum keys := by
  unfold weightedSamplingGen weightedSamplingAstW weightedSamplingAst
  have hg : (fun h : Array (Item κ) => getOf sampleHeap h 0) = (fun h => h[0]?) := funext fun h => get_eq h 0
  rw [sampleWorld_eq, hg, loopAstW_eq]

theorem genOps_spec (less : κ → κ → Bool) : Got.Lemmas.SampleLoopAst.OpsSpec less (fun f => genOps f less) := by
  refine ⟨?_, ?_, ?_⟩
  · intro h x hsz
    refine Evt.mono (Got.Lemmas.HeapAst.pushAst_refines (itemLess less) h x hsz) fun f h0 => ?_
    show pushW f (sampleWorld less) h x = _
    rw [sampleWorld_eq, pushW_eq]
    exact h0
  · intro h hsz
    refine Evt.mono (Got.Lemmas.HeapAst.popAst_refines (itemLess less) h hsz) fun f h0 => ?_
    show (popW f (sampleWorld less) h).map (fun o => o.map (·.2)) = _
    rw [sampleWorld_eq, popW_eq, h0]
    rfl
  · intro f h i
    exact get_eq h i

end Got.Lemmas.IfaceAst
