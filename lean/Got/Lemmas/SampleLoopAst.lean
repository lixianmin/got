import Got.Generated.AstRandxSampling
import Got.Lemmas.Sample
import Got.Lemmas.HeapAstBase
/-
Translator tie of randx.WeightedSampling: the term that tools/srcfacts regenerates from /repo/randx/sample.go on every run
(Got/Generated/AstRandxSampling.lean), interpreted by Got/Model/MiniGoSampleLoop.lean over heap operations that compute the
GoHeap model functions (`OpsSpec`), computes exactly the hand-written model `Got.Model.Sample.weightedSampling`.
-/
namespace Got.Lemmas.SampleLoopAst
open Got.Model Got.Model.Sample Got.Model.MiniGoSampleLoop
open Got.Model.MiniGoSort (wrap Env Frame)
open Got.Lemmas.SortAst (wrap_eq B62)
open Got.Lemmas.HeapAst (wrap_zero wrap_succ)
open Got.Lemmas.Sample (step_size)

variable {κ : Type}

/-- the heap operations, at every sufficiently large fuel, are the model's -/
structure OpsSpec (less : κ → κ → Bool) (ops : Nat → Got.Model.MiniGoSampleLoop.Ops κ) : Prop where
  push : ∀ (h : Array (Item κ)) (x : Item κ), h.size + 1 < B62 →
    Evt fun f => (ops f).push h x = some (some (GoHeap.push (itemLess less) h x))
  pop : ∀ (h : Array (Item κ)), h.size < B62 → Evt fun f => (ops f).pop h = some ((GoHeap.pop (itemLess less) h).map (·.2))
  get : ∀ (f : Nat) (h : Array (Item κ)) (i : Nat), (ops f).get h (i : Int) = h[i]?

/-- for every sufficiently large fuel of the heap operations and of the interpreter, `p` ends in `r` -/
def Runs (ops : Nat → Ops κ) (gt : κ → κ → Bool) (keys : List κ) (p : List Stmt) (env : Env) (s : St κ) (r : Res κ) : Prop :=
  Evt fun n => ∀ f g, n ≤ f → n ≤ g → exec (ops f) gt keys g p env s = some r

variable {ops : Nat → Ops κ} {gt : κ → κ → Bool} {keys : List κ} {less : κ → κ → Bool}

/-- one unfolding of `exec (g + 1)` under what holds from some fuel on (sub-runs, results of heap operations) -/
theorem Runs.succ {q : Nat → Prop} {p : List Stmt} {env : Env} {s : St κ} {r : Res κ} (hq : Evt q)
    (h : ∀ n f g, q n → n ≤ f → n ≤ g → exec (ops f) gt keys (g + 1) p env s = some r) : Runs ops gt keys p env s r :=
  Evt.succ hq fun n hn f g hf hg => by
    obtain ⟨k, rfl⟩ := Nat.exists_eq_add_one_of_ne_zero (Nat.ne_zero_of_lt hg)
    exact h n f k hn (Nat.le_of_succ_le hf) (Nat.le_of_succ_le_succ hg)

theorem Runs.nil {env : Env} {s : St κ} : Runs ops gt keys [] env s (.cont env s) := .succ .triv fun _ _ _ _ _ _ => rfl

theorem Runs.panic {rest : List Stmt} {env : Env} {s : St κ} :
    Runs ops gt keys (.panic :: rest) env s (.ret (.error .invalidInputs)) :=
  .succ .triv fun _ _ _ _ _ _ => rfl

theorem Runs.retResults {rest : List Stmt} {env : Env} {s : St κ} :
    Runs ops gt keys (.retResults :: rest) env s (.ret (.ok (s.results.toList.map Int.toNat))) :=
  .succ .triv fun _ _ _ _ _ _ => rfl

theorem Runs.set {x : Nat} {e : Expr} {rest : List Stmt} {env : Env} {s : St κ} {r : Res κ} {v : Int}
    (hv : eval env s e = v) (h : Runs ops gt keys rest (env.set x v) s r) : Runs ops gt keys (.set x e :: rest) env s r :=
  .succ h fun _ f g er hf hg => by simp only [exec, hv]; exact er f g hf hg

theorem Runs.float {rest : List Stmt} {env : Env} {s : St κ} {r : Res κ}
    (h : Runs ops gt keys rest env s r) : Runs ops gt keys (.float :: rest) env s r :=
  .succ h fun _ f g er hf hg => by simp only [exec]; exact er f g hf hg

theorem Runs.makeHeap_neg {e : Expr} {rest : List Stmt} {env : Env} {s : St κ} (hlt : eval env s e < 0) :
    Runs ops gt keys (.makeHeap e :: rest) env s (.ret (.error .makeCap)) :=
  .succ .triv fun _ _ _ _ _ _ => by simp only [exec, hlt, if_true]

theorem Runs.makeHeap {e : Expr} {rest : List Stmt} {env : Env} {s : St κ} {r : Res κ} (hlt : ¬ eval env s e < 0)
    (h : Runs ops gt keys rest env { s with heap := #[] } r) : Runs ops gt keys (.makeHeap e :: rest) env s r :=
  .succ h fun _ f g er hf hg => by simp only [exec, hlt, if_false]; exact er f g hf hg

theorem Runs.makeResults {e : Expr} {rest : List Stmt} {env : Env} {s : St κ} {r : Res κ} (hlt : ¬ eval env s e < 0)
    (h : Runs ops gt keys rest env { s with results := Array.replicate (eval env s e).toNat 0 } r) :
    Runs ops gt keys (.makeResults e :: rest) env s r :=
  .succ h fun _ f g er hf hg => by simp only [exec, hlt, if_false]; exact er f g hf hg

theorem Runs.key {e : Expr} {rest : List Stmt} {env : Env} {s : St κ} {r : Res κ} (h0 : 0 ≤ eval env s e)
    (h : Runs ops gt keys rest env { s with ki := keys[(eval env s e).toNat]? } r) :
    Runs ops gt keys (.key e :: rest) env s r :=
  .succ h fun _ f g er hf hg => by simp only [exec, h0, if_true]; exact er f g hf hg

theorem Runs.setResult_some {e1 e2 : Expr} {rest : List Stmt} {env : Env} {s : St κ} {r : Res κ} {it : Item κ}
    (hg : ∀ f, (ops f).get s.heap (eval env s e2) = some it)
    (hb : 0 ≤ eval env s e1 ∧ (eval env s e1).toNat < s.results.size)
    (h : Runs ops gt keys rest env { s with results := s.results.set! (eval env s e1).toNat (it.index : Int) } r) :
    Runs ops gt keys (.setResult e1 e2 :: rest) env s r :=
  .succ h fun _ f g er hf hg' => by simp only [exec, hg f, hb, and_self, if_true]; exact er f g hf hg'

theorem Runs.setResult_none {e1 e2 : Expr} {rest : List Stmt} {env : Env} {s : St κ}
    (hg : ∀ f, (ops f).get s.heap (eval env s e2) = none) :
    Runs ops gt keys (.setResult e1 e2 :: rest) env s (.ret (.error .indexRange)) :=
  .succ .triv fun _ f _ _ _ _ => by simp only [exec, hg f]

theorem Runs.ite {c : Cond} {t e rest : List Stmt} {env env' : Env} {s s' : St κ} {r : Res κ} {b : Bool}
    (hc : ∀ f, evalC (ops f) gt env s c = some b) (hb : Runs ops gt keys (if b then t else e) env s (.cont env' s'))
    (h : Runs ops gt keys rest env' s' r) : Runs ops gt keys (.ite c t e :: rest) env s r :=
  .succ (Evt.and hb h) fun _ f g ⟨eb, er⟩ hf hg => by simp only [exec, hc f]; rw [eb f g hf hg]; exact er f g hf hg

theorem Runs.ite_ret {c : Cond} {t e rest : List Stmt} {env : Env} {s : St κ} {x : Result} {b : Bool}
    (hc : ∀ f, evalC (ops f) gt env s c = some b) (hb : Runs ops gt keys (if b then t else e) env s (.ret x)) :
    Runs ops gt keys (.ite c t e :: rest) env s (.ret x) :=
  .succ hb fun _ f g eb hf hg => by simp only [exec, hc f]; rw [eb f g hf hg]

theorem Runs.ite_last {c : Cond} {t e : List Stmt} {env : Env} {s : St κ} {r : Res κ} {b : Bool}
    (hc : ∀ f, evalC (ops f) gt env s c = some b) (hb : Runs ops gt keys (if b then t else e) env s r) :
    Runs ops gt keys [.ite c t e] env s r := by
  cases r with
  | ret x => exact .ite_ret hc hb
  | cont env' s' => exact .ite hc hb .nil

theorem Runs.ite_none {c : Cond} {t e rest : List Stmt} {env : Env} {s : St κ}
    (hc : ∀ f, evalC (ops f) gt env s c = none) :
    Runs ops gt keys (.ite c t e :: rest) env s (.ret (.error .indexRange)) :=
  .succ .triv fun _ f _ _ _ _ => by simp only [exec, hc f]

theorem Runs.loop_exit {c : Cond} {body post rest : List Stmt} {env : Env} {s : St κ} {r : Res κ}
    (hc : ∀ f, evalC (ops f) gt env s c = some false) (h : Runs ops gt keys rest env s r) :
    Runs ops gt keys (.loop c body post :: rest) env s r :=
  .succ h fun _ f g er hf hg => by simp only [exec, hc f]; exact er f g hf hg

theorem Runs.loop_iter {c : Cond} {body post rest : List Stmt} {env env' env'' : Env} {s s' s'' : St κ} {r : Res κ}
    (hc : ∀ f, evalC (ops f) gt env s c = some true) (hb : Runs ops gt keys body env s (.cont env' s'))
    (hp : Runs ops gt keys post env' s' (.cont env'' s''))
    (h : Runs ops gt keys (.loop c body post :: rest) env'' s'' r) :
    Runs ops gt keys (.loop c body post :: rest) env s r :=
  .succ (Evt.and hb (Evt.and hp h)) fun _ f g ⟨eb, ep, er⟩ hf hg => by
    simp only [exec, hc f]; rw [eb f g hf hg]; simp only; rw [ep f g hf hg]; exact er f g hf hg

theorem Runs.loop_body_ret {c : Cond} {body post rest : List Stmt} {env : Env} {s : St κ} {x : Result}
    (hc : ∀ f, evalC (ops f) gt env s c = some true) (hb : Runs ops gt keys body env s (.ret x)) :
    Runs ops gt keys (.loop c body post :: rest) env s (.ret x) :=
  .succ hb fun _ f g eb hf hg => by simp only [exec, hc f]; rw [eb f g hf hg]

/-- the body of the first loop of the generated term; its variables are 0 = sampleNum, 1 = totalNum, 2 = the `i` of the
    first loop, 3 = the `i` of the read-out loop -/
def body1 : List Stmt :=
  [ .float, .float, .key (.var 2),
    .ite (.lt .hlen (.var 0)) [.hpush (.var 2)]
      [.ite (.keyGtTop (.lit 0)) [.hpush (.var 2), .ite (.lt (.var 0) .hlen) [.hpop] []] []] ]

def loop1 : Stmt := .loop (.lt (.var 2) (.var 1)) body1 [.set 2 (.add (.var 2) (.lit 1))]

def loop2 : Stmt := .loop (.lt (.var 3) (.var 0)) [.setResult (.var 3) (.var 3)] [.set 3 (.add (.var 3) (.lit 1))]

theorem weightedSampling_body : Got.Generated.AstRandxSampling.weightedSampling.body =
    [ .ite (.or (.lt (.var 1) (.var 0)) (.le (.var 1) (.lit 0))) [.panic] [],
      .makeHeap (.var 0), .set 2 (.lit 0), loop1, .makeResults (.var 0), .set 3 (.lit 0), loop2, .retResults ] := rfl

theorem wrap1 : wrap 1 = 1 := by unfold wrap; omega

theorem evalC_lt {env : Env} {s : St κ} (a b : Expr) {u v : Int} {c : Bool} (ha : eval env s a = u) (hb : eval env s b = v)
    (h : decide (u < v) = c) (f : Nat) : evalC (ops f) gt env s (.lt a b) = some c := by
  simp only [evalC, ha, hb, h]

theorem eval_hlen {env : Env} {h : Array (Item κ)} {ki : Option κ} {res : Array Int} :
    eval env (⟨h, ki, res⟩ : St κ) .hlen = (h.size : Int) := rfl

theorem eval_succ {env : Env} {s : St κ} {x i : Nat} (hx : env.get x = (i : Int)) (hi : i < B62) :
    eval env s (.add (.var x) (.lit 1)) = ((i + 1 : Nat) : Int) :=
  (congrArg (fun v => wrap (v + wrap 1)) hx).trans (wrap_succ hi)

/-- how a block ends that ends with a heap operation: a panic (`none`), or the next state -/
def endIn (env : Env) (ki : Option κ) (res : Array Int) : Option (Array (Item κ)) → Res κ
  | none => .ret (.error .indexRange)
  | some h => .cont env ⟨h, ki, res⟩

/-- `heap.Push(&h, sampleHeapItem{ki, e})` -/
theorem Runs.hpush (hops : OpsSpec less ops) {e : Expr} {rest : List Stmt} {env : Env} {h : Array (Item κ)} {k : κ}
    {res : Array Int} {i : Nat} {r : Res κ} (hx : eval env (⟨h, some k, res⟩ : St κ) e = (i : Int)) (hsz : h.size + 1 < B62)
    (hr : Runs ops gt keys rest env ⟨GoHeap.push (itemLess less) h ⟨k, i⟩, some k, res⟩ r) :
    Runs ops gt keys (.hpush e :: rest) env ⟨h, some k, res⟩ r :=
  .succ (Evt.and (hops.push h ⟨k, i⟩ hsz).upward hr) fun _ f g ⟨ep, er⟩ hf hg => by
    simp only [exec, hx, Int.toNat_natCast, ep f hf]; exact er f g hf hg

/-- `heap.Pop(&h)` at the end of a block -/
theorem Runs.hpop (hops : OpsSpec less ops) {env : Env} {h : Array (Item κ)} {ki : Option κ} {res : Array Int}
    (hsz : h.size < B62) :
    Runs ops gt keys [.hpop] env ⟨h, ki, res⟩ (endIn env ki res ((GoHeap.pop (itemLess less) h).map (·.2))) := by
  have hp := (hops.pop h hsz).upward
  cases hpp : GoHeap.pop (itemLess less) h with
  | none => exact .succ hp fun _ f _ ep hf _ => by simp only [exec, ep f hf, hpp]; rfl
  | some pr =>
    have hn : Runs ops gt keys [] env ⟨pr.2, ki, res⟩ _ := Runs.nil
    exact .succ (Evt.and hp hn) fun _ f g ⟨ep, er⟩ hf hg => by simp only [exec, ep f hf, hpp]; exact er f g hf hg

theorem body1_runs (hops : OpsSpec less ops) (m : Int) (h : Array (Item κ)) (i : Nat) (k : κ)
    (ki0 : Option κ) (res : Array Int) (env : Env) (hk : keys[i]? = some k) (hsz : h.size + 2 < B62)
    (h0 : env.get 0 = m) (h2 : env.get 2 = (i : Int)) :
    Runs ops gt keys body1 env ⟨h, ki0, res⟩ (endIn env (some k) res (step less gt m.toNat h i k)) := by
  refine Runs.float (Runs.float (Runs.key (show (0 : Int) ≤ env.get 2 from h2 ▸ Int.natCast_nonneg i) ?_))
  simp only [eval, h2, Int.toNat_natCast, hk]
  have hpush : ∀ {rest r}, Runs ops gt keys rest env ⟨GoHeap.push (itemLess less) h ⟨k, i⟩, some k, res⟩ r →
      Runs ops gt keys (.hpush (.var 2) :: rest) env ⟨h, some k, res⟩ r :=
    fun hr => Runs.hpush hops h2 (Nat.lt_of_succ_lt hsz) hr
  have hps := Got.Lemmas.GoHeap.push_size (itemLess less) h ⟨k, i⟩
  have hpos : 0 < (GoHeap.push (itemLess less) h ⟨k, i⟩).size := hps ▸ Nat.succ_pos _
  unfold step
  by_cases hlt : h.size < m.toNat
  · rw [if_pos hlt]
    exact Runs.ite_last (b := true) (fun f => evalC_lt .hlen (.var 0) eval_hlen h0 (decide_eq_true (Int.lt_toNat.mp hlt)) f) (hpush Runs.nil)
  · rw [if_neg hlt]
    refine Runs.ite_last (b := false) (fun f => evalC_lt .hlen (.var 0) eval_hlen h0 (decide_eq_false (mt Int.lt_toNat.mpr hlt)) f) ?_
    have hg0 : ∀ f, (ops f).get h (eval env (⟨h, some k, res⟩ : St κ) (.lit 0)) = h[0]? := fun f => by
      rw [eval, wrap_zero]; exact hops.get f h 0
    cases htop : h[0]? with
    | none => exact Runs.ite_none fun f => by simp only [evalC]; rw [hg0 f, htop]
    | some top =>
      dsimp only
      refine Runs.ite_last (b := gt k top.ki) (fun f => by simp only [evalC]; rw [hg0 f, htop]) ?_
      cases gt k top.ki with
      | false => exact Runs.nil
      | true =>
        refine hpush ?_
        by_cases hbig : (GoHeap.push (itemLess less) h ⟨k, i⟩).size > m.toNat
        · simp only [if_true, hbig]
          exact Runs.ite_last (b := true) (fun f => evalC_lt (.var 0) .hlen h0 eval_hlen (decide_eq_true ((Int.toNat_lt' hpos).mp hbig)) f)
            (Runs.hpop hops (hps ▸ Nat.lt_of_succ_lt hsz))
        · simp only [if_true, hbig, if_false]
          exact Runs.ite_last (b := false) (fun f => evalC_lt (.var 0) .hlen h0 eval_hlen (decide_eq_false (mt (Int.toNat_lt' hpos).mpr hbig)) f) Runs.nil

/-- `rest` runs only if the model's loop gives a heap: on a heap panic (`none`) the loop returns from inside -/
theorem loop1_runs (hops : OpsSpec less ops) (m : Int) (hn : keys.length + 2 < B62) (res : Array Int)
    (rest : List Stmt) (r : Res κ) :
    ∀ (n i : Nat) (h : Array (Item κ)) (ki0 : Option κ) (env : Env), keys.length - i = n → i ≤ keys.length →
      h.size + (keys.length - i) + 2 < B62 → Frame [m, keys.length, i] env →
      (match loop less gt m.toNat h i (keys.drop i) with
       | none => r = .ret (.error .indexRange)
       | some h' => ∀ env' ki', env'.get 0 = m → Runs ops gt keys rest env' ⟨h', ki', res⟩ r) →
      Runs ops gt keys (loop1 :: rest) env ⟨h, ki0, res⟩ r := by
  intro n
  induction n with
  | zero =>
    intro i h ki0 env hni hi hsz hf H
    rw [List.drop_eq_nil_of_le (by omega)] at H
    exact Runs.loop_exit (fun f => evalC_lt (.var 2) (.var 1) (hf.get 2 rfl) (hf.get 1 rfl) (decide_eq_false (by omega)) f)
      (H env ki0 (hf.get 0 rfl))
  | succ n ih =>
    intro i h ki0 env hni hi hsz
    have hi' : i < keys.length := Nat.lt_of_sub_pos (hni ▸ Nat.succ_pos n)
    have hlt : decide ((i : Int) < (keys.length : Int)) = true := decide_eq_true (Int.ofNat_lt.mpr hi')
    have hi62 : i < B62 := Nat.lt_trans hi' (Nat.lt_of_add_right_lt hn)
    have hsz2 : h.size + 2 < B62 := Nat.lt_of_le_of_lt (Nat.add_le_add_right (Nat.le_add_right _ _) 2) hsz
    have hni' : keys.length - (i + 1) = n := by rw [Nat.sub_succ, hni]; rfl
    have hsz' : ∀ s, s ≤ h.size + 1 → s + (keys.length - (i + 1)) + 2 < B62 := fun s hs => by omega
    intro hf H
    have hc : ∀ f, evalC (ops f) gt env (⟨h, ki0, res⟩ : St κ) (.lt (.var 2) (.var 1)) = some true :=
      fun f => evalC_lt (.var 2) (.var 1) (hf.get 2 rfl) (hf.get 1 rfl) hlt f
    have hb := body1_runs (gt := gt) hops m h i (keys[i]'hi') ki0 res env (List.getElem?_eq_getElem hi') hsz2 (hf.get 0 rfl)
      (hf.get 2 rfl)
    rw [List.drop_eq_getElem_cons hi'] at H
    cases hs : step less gt m.toNat h i (keys[i]'hi') with
    | none =>
      rw [hs] at hb
      simp only [loop, hs] at H
      exact H ▸ Runs.loop_body_ret hc hb
    | some h1' =>
      rw [hs] at hb
      simp only [loop, hs] at H
      exact Runs.loop_iter hc hb (Runs.set (eval_succ (hf.get 2 rfl) hi62) Runs.nil)
        (ih (i + 1) h1' _ _ hni' hi' (hsz' _ (step_size less gt m.toNat h h1' i _ hs)) (hf.set 2 _) H)

/-- `res` already holds the indices of `h[0..j)` -/
theorem loop2_runs (hops : OpsSpec less ops) (M : Nat) (hM : M < B62) (h : Array (Item κ)) (ki0 : Option κ) :
    ∀ (n j : Nat) (res : Array Int) (env : Env), M - j = n → j ≤ M → j ≤ h.size → res.size = M →
      (∀ k, k < j → res[k]? = h[k]?.map (fun it => (it.index : Int))) → env.get 0 = (M : Int) → env.get 3 = (j : Int) →
      Runs ops gt keys [loop2, .retResults] env ⟨h, ki0, res⟩ (.ret (readResults M h)) := by
  intro n
  induction n with
  | zero =>
    intro j res env hnj hjM hjh hres inv h0 h3
    obtain rfl : j = M := Nat.le_antisymm hjM (Nat.le_of_sub_eq_zero hnj)
    have hr : Result.ok (res.toList.map Int.toNat) = readResults j h := by
      unfold readResults
      rw [if_neg (Nat.not_lt.mpr hjh)]
      congr 1
      apply List.ext_getElem?
      intro k
      simp only [List.getElem?_map, List.getElem?_take, Array.getElem?_toList]
      by_cases hk : k < j
      · rw [if_pos hk, inv k hk]
        cases h[k]? <;> rfl
      · rw [if_neg hk, Array.getElem?_eq_none (hres ▸ Nat.le_of_not_lt hk)]
        rfl
    exact Runs.loop_exit (fun f => evalC_lt (.var 3) (.var 0) h3 h0 (decide_eq_false (Int.lt_irrefl _)) f)
      (hr ▸ Runs.retResults)
  | succ n ih =>
    intro j res env hnj hjM hjh hres
    have hjM' : j < M := Nat.lt_of_sub_pos (hnj ▸ Nat.succ_pos n)
    have hlt : decide ((j : Int) < (M : Int)) = true := decide_eq_true (Int.ofNat_lt.mpr hjM')
    have hjr : j < res.size := hres.symm ▸ hjM'
    have hj62 : j < B62 := Nat.lt_trans hjM' hM
    have hnj' : M - (j + 1) = n := by rw [Nat.sub_succ, hnj]; rfl
    intro inv h0 h3
    have hc : ∀ f, evalC (ops f) gt env (⟨h, ki0, res⟩ : St κ) (.lt (.var 3) (.var 0)) = some true :=
      fun f => evalC_lt (.var 3) (.var 0) h3 h0 hlt f
    have hg : ∀ f, (ops f).get h (eval env (⟨h, ki0, res⟩ : St κ) (.var 3)) = h[j]? := fun f => by
      rw [eval, h3]; exact hops.get f h j
    cases hjv : h[j]? with
    | some it =>
      refine Runs.loop_iter hc
        (Runs.setResult_some (it := it) (fun f => (hg f).trans hjv)
          (by simp only [eval, h3, Int.toNat_natCast]; exact ⟨Int.natCast_nonneg j, hjr⟩) Runs.nil)
        (Runs.set (eval_succ h3 hj62) Runs.nil) ?_
      simp only [eval, h3, Int.toNat_natCast]
      refine ih (j + 1) (res.set! j (it.index : Int)) _ hnj' hjM' (Array.getElem?_eq_some_iff.mp hjv).1
        (by rw [Array.set!_eq_setIfInBounds, Array.size_setIfInBounds]; exact hres) ?_
        (by rw [Env.get_set]; exact h0) (by rw [Env.get_set]; rfl)
      intro k hk
      rw [Array.set!_eq_setIfInBounds, Array.getElem?_setIfInBounds]
      by_cases hjk : j = k
      · subst hjk
        rw [if_pos rfl, if_pos hjr, hjv]
        rfl
      · rw [if_neg hjk]
        exact inv k (Nat.lt_of_le_of_ne (Nat.le_of_lt_succ hk) (Ne.symm hjk))
    | none =>
      have hr : readResults M h = .error .indexRange := by
        unfold readResults
        rw [if_pos (Nat.lt_of_le_of_lt (Array.getElem?_eq_none_iff.mp hjv) hjM')]
      rw [hr]
      exact Runs.loop_body_ret hc (Runs.setResult_none fun f => (hg f).trans hjv)

/-- `hn`: the heap never holds more than `keys.length` items before an iteration, which pushes one (`size + 1 < B62`) and may
    pop from the pushed heap, whence `+ 2`; `hm`: `m` is a Go `int`, so `wrap m = m`. -/
theorem sampling_run_refines (less gt : κ → κ → Bool) (ops : Nat → Got.Model.MiniGoSampleLoop.Ops κ) (hops : OpsSpec less ops)
    (m : Int) (keys : List κ) (hn : keys.length + 2 < B62)
    (hm : -9223372036854775808 ≤ m ∧ m < 9223372036854775808) :
    ∃ f0, ∀ fuel, f0 ≤ fuel →
      Got.Generated.AstRandxSampling.weightedSampling.run (ops fuel) gt keys fuel m (keys.length : Int) =
        some (Got.Model.Sample.weightedSampling less gt m keys) := by
  have hn' : keys.length + 2 < 4611686018427387904 := hn
  have hw : wrap (keys.length : Int) = (keys.length : Int) := wrap_eq (by omega) (by omega)
  have hsz0 : (#[] : Array (Item κ)).size + (keys.length - 0) + 2 < B62 := by simp only [Array.size_empty]; omega
  have hmB : ¬ (keys.length : Int) < m → m.toNat < B62 := fun h => by unfold B62; omega
  have h2 : ((keys.length : Int) ≤ 0) = (keys.length = 0) := by simp only [eq_iff_iff]; omega
  have key : Runs ops gt keys Got.Generated.AstRandxSampling.weightedSampling.body #[wrap m, wrap (keys.length : Int)]
      ⟨#[], none, #[]⟩ (.ret (Got.Model.Sample.weightedSampling less gt m keys)) := by
    rw [weightedSampling_body, wrap_eq hm.1 hm.2, hw]
    have g0 : Env.get #[m, (keys.length : Int)] 0 = m := rfl
    have g1 : Env.get #[m, (keys.length : Int)] 1 = (keys.length : Int) := rfl
    have hc : ∀ f, evalC (ops f) gt #[m, (keys.length : Int)] (⟨#[], none, #[]⟩ : St κ)
        (.or (.lt (.var 1) (.var 0)) (.le (.var 1) (.lit 0))) =
          some (decide ((keys.length : Int) < m ∨ keys.length = 0)) := fun f => by
      simp only [evalC, eval, g0, g1, wrap_zero]
      by_cases h1 : (keys.length : Int) < m
      · simp only [h1, decide_true, true_or]
      · simp only [h1, decide_false, false_or, h2]
    unfold Got.Model.Sample.weightedSampling
    by_cases hbad : (keys.length : Int) < m ∨ keys.length = 0
    · rw [if_pos hbad]
      rw [decide_eq_true hbad] at hc
      exact Runs.ite_ret hc Runs.panic
    · rw [if_neg hbad]
      rw [decide_eq_false hbad] at hc
      refine Runs.ite hc Runs.nil ?_
      by_cases hneg : m < 0
      · rw [if_pos hneg]
        exact Runs.makeHeap_neg hneg
      · rw [if_neg hneg]
        have hMm : ((m.toNat : Nat) : Int) = m := Int.toNat_of_nonneg (Int.not_lt.mp hneg)
        refine Runs.makeHeap hneg (Runs.set (v := 0) (by rw [eval, wrap_zero]) ?_)
        refine loop1_runs (gt := gt) hops m hn (#[] : Array Int) _ _ keys.length 0 #[] none _ rfl (Nat.zero_le _)
          hsz0 ((Frame.init [m, (keys.length : Int)] 1).set 2 ((0 : Nat) : Int)) ?_
        rw [List.drop_zero]
        cases loop less gt m.toNat #[] 0 keys with
        | none => rfl
        | some h' =>
          intro env' ki' he
          refine Runs.makeResults (show ¬ env'.get 0 < 0 from he ▸ hneg) (Runs.set (v := 0) (by rw [eval, wrap_zero]) ?_)
          simp only [eval, he]
          exact loop2_runs (gt := gt) hops m.toNat (hmB fun h => hbad (.inl h)) h' ki' m.toNat 0 _ _ rfl (Nat.zero_le _)
            (Nat.zero_le _) Array.size_replicate (fun k hk => absurd hk (Nat.not_lt_zero k))
            (by rw [Env.get_set, hMm]; exact he) (by rw [Env.get_set]; rfl)
  exact Evt.mono key fun fuel hr => by unfold Fn.run; rw [hr fuel fuel (Nat.le_refl _) (Nat.le_refl _)]

end Got.Lemmas.SampleLoopAst
