import Got.Lemmas.DelayedHeapEq
/-
The heap lemmas for the transcription of container/heap in Got.Model.DelayedHeap: under `lt a b ↔ key a < key b`, Push and
Pop preserve `HeapN`, keep the multiset of elements (Pop removes the old root), and the root is minimal.  Nothing is proved
about `up` / `down` here: `DelayedHeapEq` identifies them with `Got.Model.GoHeap`, `HeapN` at full length is
`GoHeap.IsHeap` read through the keys, and the lemmas of `Got.Lemmas.GoHeap` are carried over.
-/
namespace Got.Model.DelayedHeap
open Got.Lemmas Got.Lemmas.DelayedHeapEq

variable {α : Type}

/-- key at index k (0 outside the array; only used inside bounds) -/
def K (key : α → Int) (a : Array α) (k : Nat) : Int := if h : k < a.size then key a[k] else 0

theorem K_eq (key : α → Int) (a : Array α) (k : Nat) (h : k < a.size) : K key a k = key a[k] := dif_pos h

/-- heap invariant on the prefix of length `n`; the C10 statements use it at `n = a.size`, where it is `GoHeap.IsHeap`
    (`heapN_iff_isHeap`) -/
def HeapN (key : α → Int) (a : Array α) (n : Nat) : Prop :=
  ∀ k, 0 < k → k < n → K key a ((k - 1) / 2) ≤ K key a k

theorem push_size (lt : α → α → Bool) (a : Array α) (x : α) : (push lt a x).size = a.size + 1 := by
  rw [push_eq, GoHeap.push_size]

theorem pop_size (lt : α → α → Bool) (a : Array α) : (pop lt a).size = a.size - 1 := by
  unfold pop
  rw [Array.size_pop, down_eq, GoHeap.downLoop, GoHeap.downAux_size, Array.size_swapIfInBounds]

theorem push_perm (lt : α → α → Bool) (a : Array α) (x : α) : (push lt a x).toList.Perm (x :: a.toList) := by
  rw [push_eq]
  exact GoHeap.push_perm lt a x

theorem pop_perm (lt : α → α → Bool) (a : Array α) (h0 : 0 < a.size) : (a[0] :: (pop lt a).toList).Perm a.toList := by
  rw [pop_eq_popRest lt a h0]
  exact GoHeap.popRest_perm lt a h0

section Key
variable {key : α → Int} {lt : α → α → Bool} (hlt : ∀ x y, lt x y = true ↔ key x < key y)
include hlt

theorem lt_false_iff (x y : α) : lt x y = false ↔ key y ≤ key x := by
  rw [← Bool.not_eq_true, hlt, Int.not_lt]

theorem totalPreorder_of_key : GoHeap.TotalPreorder lt where
  asymm x y h := (lt_false_iff hlt y x).2 (Int.le_of_lt ((hlt x y).1 h))
  ntrans x y z h1 h2 :=
    (lt_false_iff hlt z x).2 (Int.le_trans ((lt_false_iff hlt y x).1 h1) ((lt_false_iff hlt z y).1 h2))

theorem heapN_iff_isHeap (a : Array α) : HeapN key a a.size ↔ GoHeap.IsHeap lt a := by
  constructor
  · intro h k hk hkn h0
    have := h k h0 hkn
    rw [K_eq key a k hk, K_eq key a _ (GoHeap.parent_lt hk)] at this
    exact (lt_false_iff hlt _ _).2 this
  · intro h k h0 hk
    rw [K_eq key a k hk, K_eq key a _ (GoHeap.parent_lt hk)]
    exact (lt_false_iff hlt _ _).1 (h k hk hk h0)

theorem top_min (a : Array α) (h : HeapN key a a.size) (k : Nat) (hk : k < a.size) : key (a[0]'(by omega)) ≤ key a[k] :=
  (lt_false_iff hlt _ _).1
    (GoHeap.root_min (totalPreorder_of_key hlt) a ((heapN_iff_isHeap hlt a).1 h) _ _ (Array.getElem_mem_toList hk))

theorem push_heap (a : Array α) (x : α) (h : HeapN key a a.size) : HeapN key (push lt a x) (push lt a x).size := by
  rw [heapN_iff_isHeap hlt, push_eq]
  exact GoHeap.push_heap (totalPreorder_of_key hlt) a x ((heapN_iff_isHeap hlt a).1 h)

theorem pop_heap (a : Array α) (h : HeapN key a a.size) : HeapN key (pop lt a) (pop lt a).size := by
  by_cases h0 : 0 < a.size
  · rw [heapN_iff_isHeap hlt, pop_eq_popRest lt a h0]
    exact GoHeap.popRest_heap (totalPreorder_of_key hlt) a ((heapN_iff_isHeap hlt a).1 h) h0
  · intro k _ hk
    rw [pop_size] at hk
    omega

end Key

end Got.Model.DelayedHeap
