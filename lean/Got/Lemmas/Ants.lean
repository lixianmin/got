import Got.Model.Ants
import Got.Lemmas.AntsAttr
/- ants model (C07, C08; C18 through DiscAnts.lean): the per-task inductive invariant `TaskOK`. Closures, context timers and the dispatcher inside an
   attempt all replace one attempt record, so preservation is proved once for such an update (`ok_step`). -/
namespace Got.Model.Ants

/-- lets `decide` give the witness of a concrete run: that the run succeeds is evaluated, and its end state is named by `getD` -/
theorem eq_some_getD {α : Type} {o : Option α} {d : α} (h : o.isSome = true) : o = some (o.getD d) := by
  cases o with
  | none => cases h
  | some s => rfl

/-- `tstep` as a relation, one constructor per branch of the definition -/
inductive TStep (c : Cfg) (now qlen : Nat) (t : Task) : Act → Task → Prop
  | send {k o} : t.pc = .none → TStep c now qlen t (.send k o)
      { t with pc := .sendTest, T := effT o, R := effR o, discard := o.discard, hasCb := o.hasCb, sendAt := now,
               lenAtSend := qlen }
  | busyFull {k} : t.pc = .sendTest → (t.discard && qlen == c.N) = true →
      TStep c now qlen t (.busyTest k) { t with pc := .discardCb, lenAtTest := qlen }
  | busyFree {k} : t.pc = .sendTest → ¬(t.discard && qlen == c.N) = true →
      TStep c now qlen t (.busyTest k) { t with pc := .enq, lenAtTest := qlen }
  | discardCb {k} : t.pc = .discardCb → TStep c now qlen t (.discardCb k)
      { t with pc := .discarded, sendRet := now,
               onErr := if t.hasCb then t.onErr ++ [(Err.discard, now)] else t.onErr }
  | enq {k} : t.pc = .enq → TStep c now qlen t (.enq k) { t with pc := .queued, sendRet := now }
  | take {k} : t.pc = .queued → TStep c now qlen t (.take k) { t with pc := .loopTest, pickAt := now }
  | begin {k} : t.pc = .loopTest → t.att < t.R → TStep c now qlen t (.loopTest k)
      { (t.setAt t.att { deadline := ctxDeadline c now t.T, beginAt := now, ctxDone := baseDone c now }) with
          pc := .sendCl, att := t.att + 1 }
  | giveUp {k} : t.pc = .loopTest → ¬t.att < t.R → TStep c now qlen t (.loopTest k) { t with pc := .onError }
  | sendCl {k} : t.pc = .sendCl ∧ (t.at_ t.cur).pc = .none → TStep c now qlen t (.sendCl k)
      { (t.setAt t.cur { t.at_ t.cur with pc := .queued }) with pc := .hook3 }
  | hook3 {k} : t.pc = .hook3 → TStep c now qlen t (.hook3 k) { t with pc := .select }
  | selDoneOld {k} : t.pc = .select ∧ (t.at_ t.cur).closedCh = true → c.old = true →
      TStep c now qlen t (.selDone k) { t with pc := .cancel }
  | selDone {k} : t.pc = .select ∧ (t.at_ t.cur).closedCh = true → ¬c.old = true →
      TStep c now qlen t (.selDone k) { t with pc := .decide }
  | selCtx {k} : t.pc = .select ∧ (t.at_ t.cur).ctxDone = true → TStep c now qlen t (.selCtx k) { t with pc := .hook2 }
  | hook2Old {k} : t.pc = .hook2 → c.old = true → TStep c now qlen t (.hook2 k) { t with pc := .writeDE }
  | hook2 {k} : t.pc = .hook2 → ¬c.old = true → TStep c now qlen t (.hook2 k) { t with pc := .decide }
  | decideWin {k} : t.pc = .decide → (t.at_ t.cur).decided = 0 → TStep c now qlen t (.decide k)
      { (t.setAt t.cur { t.at_ t.cur with decided := 2 }) with pc := .writeDE }
  | decideLose {k} : t.pc = .decide → ¬(t.at_ t.cur).decided = 0 → TStep c now qlen t (.decide k)
      { t with pc := .waitDone }
  | writeDE {k} : t.pc = .writeDE → TStep c now qlen t (.writeDE k) { t with pc := .cancel, result := 0, err := .de }
  | waitDone {k} : t.pc = .waitDone ∧ (t.at_ t.cur).closedCh = true → TStep c now qlen t (.waitDone k)
      { t with pc := .cancel }
  | cancel {k} : t.pc = .cancel → TStep c now qlen t (.cancel k)
      { (t.setAt t.cur { t.at_ t.cur with ctxDone := true }) with pc := .errTest }
  | errNil {k} : t.pc = .errTest → t.err = .nil → TStep c now qlen t (.errTest k) { t with pc := .wgDone }
  | errRetry {k} : t.pc = .errTest → ¬t.err = .nil → TStep c now qlen t (.errTest k) { t with pc := .loopTest }
  | onError {k} : t.pc = .onError → TStep c now qlen t (.onError k)
      { t with pc := .wgDone, onErr := if t.hasCb then t.onErr ++ [(t.err, now)] else t.onErr }
  | wgDone {k} : t.pc = .wgDone → TStep c now qlen t (.wgDone k)
      { t with pc := .done, doneAt := now, got := some (t.result, t.err) }
  | fire {k a} : a < t.att ∧ (t.at_ a).ctxDone = false ∧ (t.at_ a).deadline ≤ now → TStep c now qlen t (.fire k a)
      (t.setAt a { t.at_ a with ctxDone := true })
  | wTake {k a w} : (t.at_ a).pc = .queued → TStep c now qlen t (.wTake k a w) (t.setAt a { t.at_ a with pc := .taken w })
  | wStart {k a hon w} : (t.at_ a).pc = .taken w → TStep c now qlen t (.wStart k a hon)
      { (t.setAt a { t.at_ a with pc := .running w hon, starts := (t.at_ a).starts + 1, hStart := now,
                                  invIdx := t.inv }) with inv := t.inv + 1 }
  | wEnd {k a v e w hon} : (t.at_ a).pc = .running w hon → TStep c now qlen t (.wEnd k a v e)
      (t.setAt a { t.at_ a with pc := .returned w v e, ret := some (v, e), hEnd := now })
  | checkDone {k a w v e} : (t.at_ a).pc = .returned w v e → (t.at_ a).ctxDone = true →
      TStep c now qlen t (.wCheck k a) (t.setAt a { t.at_ a with pc := .closing w })
  | checkLive {k a w v e} : (t.at_ a).pc = .returned w v e → ¬(t.at_ a).ctxDone = true →
      TStep c now qlen t (.wCheck k a) (t.setAt a { t.at_ a with pc := .hook1 w v e, sawLive := true })
  | hook1Old {k a w v e} : (t.at_ a).pc = .hook1 w v e → c.old = true → TStep c now qlen t (.hook1 k a)
      (t.setAt a { t.at_ a with pc := .write w v e })
  | hook1 {k a w v e} : (t.at_ a).pc = .hook1 w v e → ¬c.old = true → TStep c now qlen t (.hook1 k a)
      (t.setAt a { t.at_ a with pc := .cas w v e })
  | casWin {k a w v e} : (t.at_ a).pc = .cas w v e → (t.at_ a).decided = 0 → TStep c now qlen t (.wCas k a)
      (t.setAt a { t.at_ a with pc := .hook4 w v e, decided := 1 })
  | casLose {k a w v e} : (t.at_ a).pc = .cas w v e → ¬(t.at_ a).decided = 0 → TStep c now qlen t (.wCas k a)
      (t.setAt a { t.at_ a with pc := .closing w })
  | hook4 {k a w v e} : (t.at_ a).pc = .hook4 w v e → TStep c now qlen t (.hook4 k a)
      (t.setAt a { t.at_ a with pc := .write w v e })
  | wWrite {k a w v e} : (t.at_ a).pc = .write w v e → TStep c now qlen t (.wWrite k a)
      { (t.setAt a { t.at_ a with pc := .closing w }) with result := v, err := e }
  | wClose {k a w} : (t.at_ a).pc = .closing w → TStep c now qlen t (.wClose k a)
      (t.setAt a { t.at_ a with pc := .closed, closedCh := true })

theorem TStep.of_tstep {c : Cfg} {now qlen : Nat} {t t' : Task} {act : Act}
    (h : tstep c now qlen t act = some t') : TStep c now qlen t act t' := by
  cases act <;> dsimp only [tstep] at h
  -- these two keep a conditional inside the successor record: split the guard only
  case discardCb | onError => split at h <;> cases h; constructor; assumption
  all_goals
    (repeat' split at h) <;> cases h <;>
      first | (constructor <;> assumption) | exact .wEnd ‹_› | exact .wClose ‹_›

theorem TStep.to_tstep {c : Cfg} {now qlen : Nat} {t t' : Task} {act : Act} (h : TStep c now qlen t act t') :
    tstep c now qlen t act = some t' := by
  cases h <;> simp only [tstep, *, ↓reduceIte, and_self, reduceCtorEq]

/-- the closure has won the attempt's flag and has not yet published -/
def CPc.isWrite : CPc → Bool | .hook4 _ _ _ | .write _ _ _ => true | _ => false
def CPc.fin : CPc → Bool | .closing _ | .closed => true | _ => false
def CPc.afterCas : CPc → Bool | .hook4 _ _ _ | .write _ _ _ | .closing _ | .closed => true | _ => false
def CPc.pair? : CPc → Option (Val × Err)
  | .returned _ v e | .hook1 _ v e | .cas _ v e | .hook4 _ v e | .write _ v e => some (v, e)
  | _ => Option.none
/-- the closure's `select` took the `default` branch (`sawLive`) and is at the CAS or the write that follows -/
def CPc.live : CPc → Bool | .hook1 _ _ _ | .cas _ _ _ | .hook4 _ _ _ | .write _ _ _ => true | _ => false
def CPc.started : CPc → Bool | .none | .queued | .taken _ => false | _ => true

/-- no dispatcher has taken the task (not sent, a client inside `Send`, discarded, or in `taskChan`): no attempt yet -/
def TPc.pre : TPc → Bool
  | .none | .sendTest | .discardCb | .discarded | .enq | .queued => true | _ => false
/-- the closure is handed over and the dispatcher has not left the attempt's wait -/
def TPc.waiting : TPc → Bool | .hook3 | .select | .hook2 | .decide | .waitDone => true | _ => false
/-- inside the attempt, the dispatcher's own CAS on the flag still to come -/
def TPc.preDecide : TPc → Bool | .sendCl | .hook3 | .select | .hook2 | .decide => true | _ => false
/-- the attempt is over. `loopTest` is also the stage before the first attempt, hence the guard `1 ≤ att` where `TaskOK` tests it -/
def TPc.post : TPc → Bool | .errTest | .loopTest | .onError | .wgDone | .done => true | _ => false
def TPc.fin : TPc → Bool | .wgDone | .done => true | _ => false

def AttOK (x : Att) : Prop :=
  (x.closedCh = true ↔ x.pc = .closed) ∧
  (∀ p, x.pc.pair? = some p → x.ret = some p) ∧
  (x.pc.live = true → x.sawLive = true) ∧
  (x.decided = 1 → x.sawLive = true ∧ x.ret.isSome = true ∧ x.pc.afterCas = true) ∧
  (x.pc.isWrite = true → x.decided = 1) ∧
  x.decided ≤ 2 ∧
  x.starts = (if x.pc.started then 1 else 0)

theorem AttOK.closed_iff {x : Att} (h : AttOK x) : x.closedCh = true ↔ x.pc = .closed := h.1
theorem AttOK.ret_of_pair {x : Att} (h : AttOK x) : ∀ p, x.pc.pair? = some p → x.ret = some p := h.2.1
theorem AttOK.sawLive_of_live {x : Att} (h : AttOK x) : x.pc.live = true → x.sawLive = true := h.2.2.1
theorem AttOK.of_dec1 {x : Att} (h : AttOK x) :
    x.decided = 1 → x.sawLive = true ∧ x.ret.isSome = true ∧ x.pc.afterCas = true := h.2.2.2.1
theorem AttOK.dec1_of_write {x : Att} (h : AttOK x) : x.pc.isWrite = true → x.decided = 1 := h.2.2.2.2.1
theorem AttOK.dec_le {x : Att} (h : AttOK x) : x.decided ≤ 2 := h.2.2.2.2.2.1
theorem AttOK.starts_eq {x : Att} (h : AttOK x) : x.starts = (if x.pc.started then 1 else 0) := h.2.2.2.2.2.2

theorem attOK_fresh (d b : Nat) (cd : Bool) : AttOK { deadline := d, beginAt := b, ctxDone := cd } := by
  simp [AttOK, CPc.pair?, CPc.live, CPc.afterCas, CPc.isWrite, CPc.started]

theorem attOK_default : AttOK {} := attOK_fresh 0 0 false

def sumStarts (f : Nat → Att) : Nat → Nat
  | 0 => 0
  | n + 1 => sumStarts f n + (f n).starts

theorem sum_upd_ge {g : Att → Nat} {S : (Nat → Att) → Nat → Nat} (h0 : ∀ f, S f 0 = 0)
    (hS : ∀ f n, S f (n + 1) = S f n + g (f n)) (f : Nat → Att) (a : Nat) (x : Att) (n : Nat) (h : n ≤ a) :
    S (upd f a x) n = S f n := by
  induction n with
  | zero => rw [h0, h0]
  | succ m ih => rw [hS, hS, ih (by omega), upd_other (by omega)]

theorem sum_upd_lt {g : Att → Nat} {S : (Nat → Att) → Nat → Nat} (h0 : ∀ f, S f 0 = 0)
    (hS : ∀ f n, S f (n + 1) = S f n + g (f n)) (f : Nat → Att) (a : Nat) (x : Att) (n : Nat) (h : a < n) :
    S (upd f a x) n + g (f a) = S f n + g x := by
  induction n with
  | zero => omega
  | succ m ih =>
    rw [hS, hS]
    by_cases hm : m = a
    · subst hm
      rw [sum_upd_ge h0 hS f m x m (Nat.le_refl _), upd_same]
      omega
    · rw [upd_other hm]
      have := ih (by omega)
      omega

theorem sumStarts_le (f : Nat → Att) (n : Nat) (h : ∀ a, (f a).starts ≤ 1) : sumStarts f n ≤ n := by
  induction n with
  | zero => simp [sumStarts]
  | succ m ih => have := h m; simp [sumStarts]; omega

/-- The per-task invariant of the current code (`Cfg.old = false`). The fields that do not read off their statement:
  writeW          a closure that won the flag and has not yet written is that of the current attempt, whose dispatcher waits
  past            an earlier attempt is decided and its context done; if its closure won, the handler's error was not nil (why
                  another attempt was begun)
  sendCl … ctxd   the current attempt (`CurOK`, there without the guard `1 ≤ att`): the flag is 0 only up to the
                  dispatcher's CAS and 2 only after it; once the winner is past its write (`pub1`: the closure, `pub2`: the
                  dispatcher) the published pair is its pair
  onErrD, onErrF, onErr0   the arguments of the error callback so far
  gotD            what `wg.Done` made visible is the published pair -/
structure TaskOK (t : Task) : Prop where
  r_pos : 1 ≤ t.R
  att_le : t.att ≤ t.R
  atts : ∀ a, AttOK (t.at_ a)
  beyond : ∀ a, t.att ≤ a → t.at_ a = {}
  inv_eq : t.inv = sumStarts t.at_ t.att
  pre0 : t.pc.pre = true → t.att = 0
  att_pos : t.pc.pre = false → t.pc ≠ .loopTest → 1 ≤ t.att
  writeW : ∀ a, (t.at_ a).pc.isWrite = true → a + 1 = t.att ∧ t.pc.waiting = true
  past : ∀ a, a + 1 < t.att → (t.at_ a).decided ≠ 0 ∧ (t.at_ a).ctxDone = true ∧
            ((t.at_ a).decided = 1 → ∃ v e, (t.at_ a).ret = some (v, e) ∧ e ≠ .nil)
  sendCl : t.pc = .sendCl → (t.at_ t.cur).pc = .none ∧ (t.at_ t.cur).decided = 0
  dec0 : 1 ≤ t.att → (t.at_ t.cur).decided = 0 → t.pc.preDecide = true
  dec2 : 1 ≤ t.att → (t.at_ t.cur).decided = 2 → t.pc.preDecide = false ∧ t.pc ≠ .waitDone
  wDE : t.pc = .writeDE → (t.at_ t.cur).decided = 2
  wDone : t.pc = .waitDone → (t.at_ t.cur).decided = 1
  pub1 : 1 ≤ t.att → (t.at_ t.cur).decided = 1 → (t.at_ t.cur).pc.fin = true →
            (t.at_ t.cur).ret = some (t.result, t.err)
  pub2 : 1 ≤ t.att → (t.at_ t.cur).decided = 2 → t.pc ≠ .writeDE → t.result = 0 ∧ t.err = .de
  ctxd : 1 ≤ t.att → t.pc.post = true → (t.at_ t.cur).ctxDone = true
  errLoop : t.pc = .loopTest → 1 ≤ t.att → t.err ≠ .nil
  errOn : t.pc = .onError → t.err ≠ .nil ∧ t.att = t.R
  errFin : t.pc.fin = true → t.err = .nil ∨ t.att = t.R
  onErrD : t.pc = .discarded → t.onErr.map Prod.fst = if t.hasCb then [Err.discard] else []
  onErrF : t.pc.fin = true → t.onErr.map Prod.fst = if t.err ≠ .nil ∧ t.hasCb then [t.err] else []
  onErr0 : t.pc ≠ .discarded → t.pc.fin = false → t.onErr = []
  gotD : t.pc = .done → t.got = some (t.result, t.err)

/-- what `TaskOK` says of the current attempt `x`, the dispatcher at stage `p` and the published pair `(r, e)`: its clauses
    `sendCl` … `ctxd`, in this order -/
def CurOK (p : TPc) (x : Att) (r : Val) (e : Err) : Prop :=
  (p = .sendCl → x.pc = .none ∧ x.decided = 0) ∧
  (x.decided = 0 → p.preDecide = true) ∧
  (x.decided = 2 → p.preDecide = false ∧ p ≠ .waitDone) ∧
  (p = .writeDE → x.decided = 2) ∧
  (p = .waitDone → x.decided = 1) ∧
  (x.decided = 1 → x.pc.fin = true → x.ret = some (r, e)) ∧
  (x.decided = 2 → p ≠ .writeDE → r = 0 ∧ e = .de) ∧
  (p.post = true → x.ctxDone = true)

@[simp] theorem setAt_at_ (t : Task) (a : Nat) (x : Att) : (t.setAt a x).at_ = upd t.at_ a x := rfl
@[simp] theorem setAt_att (t : Task) (a : Nat) (x : Att) : (t.setAt a x).att = t.att := rfl
@[simp] theorem setAt_pc (t : Task) (a : Nat) (x : Att) : (t.setAt a x).pc = t.pc := rfl
theorem setAt_cur {t : Task} {a : Nat} {x : Att} : (t.setAt a x).cur = t.cur := rfl

attribute [pc_tests] CurOK Task.cur TPc.preDecide TPc.post false_implies implies_true ne_eq not_true_eq_false false_and
  true_and

attribute [cpc_tests] AttOK CPc.isWrite CPc.fin CPc.afterCas CPc.pair? CPc.live CPc.started false_implies and_true
  implies_true

/-- evaluates the tests that the invariants make on a program counter, once it is a constructor -/
macro "pc_eval" loc:(Lean.Parser.Tactic.location)? : tactic => `(tactic| simp only [pc_tests, reduceCtorEq] $[$loc]?)

theorem defaultRetry_pos : 1 ≤ defaultRetry := by decide

theorem effR_pos (o : Opts) : 1 ≤ effR o := by
  unfold effR
  split
  · omega
  · exact defaultRetry_pos

theorem taskOK_default : TaskOK {} := by
  constructor <;> simp [TPc.pre, TPc.fin, TPc.post, sumStarts, attOK_default, CPc.isWrite]

theorem upd_forall {α : Type} {P : Nat → α → Prop} {f : Nat → α} {i : Nat} {v : α} (hv : P i v)
    (hf : ∀ j, j ≠ i → P j (f j)) (j : Nat) : P j (upd f i v j) := by
  by_cases h : j = i
  · rw [h, upd_same]; exact hv
  · rw [upd_other h]; exact hf j h

theorem upd_self {α : Type} (f : Nat → α) (i : Nat) : upd f i (f i) = f := by
  funext j
  by_cases h : j = i
  · rw [h, upd_same]
  · rw [upd_other h]

theorem Task.cur_eq {t : Task} {a : Nat} (h : a + 1 = t.att) : t.cur = a := Nat.sub_eq_of_eq_add h.symm
theorem Task.cur_succ {t : Task} (h : 1 ≤ t.att) : t.cur + 1 = t.att := Nat.sub_add_cancel h
theorem Task.cur_lt {t : Task} (h : 1 ≤ t.att) : t.cur < t.att := Nat.sub_lt h Nat.one_pos

theorem lt_of_pc {t : Task} (ok : TaskOK t) {a : Nat} {p : CPc} (hp : (t.at_ a).pc = p) (hne : p ≠ .none) :
    a < t.att := by
  apply Classical.byContradiction
  intro hn
  rw [ok.beyond a (by omega)] at hp
  exact hne hp.symm

theorem TaskOK.not_pre {t : Task} (ok : TaskOK t) (h : 1 ≤ t.att) : t.pc.pre = false :=
  Bool.eq_false_iff.2 fun hp => by have := ok.pre0 hp; omega

theorem ok_cur {t : Task} (ok : TaskOK t) {a : Nat} (h : a + 1 = t.att) : CurOK t.pc (t.at_ a) t.result t.err := by
  have h1 : 1 ≤ t.att := by omega
  rw [← Task.cur_eq h]
  exact ⟨ok.sendCl, ok.dec0 h1, ok.dec2 h1, ok.wDE, ok.wDone, ok.pub1 h1, ok.pub2 h1, ok.ctxd h1⟩

/-- the dispatcher's stages inside `runTaskOnce`, and the error test after it -/
def TPc.inAttempt : TPc → Bool
  | .sendCl | .hook3 | .select | .hook2 | .decide | .writeDE | .waitDone | .cancel | .errTest => true
  | _ => false

theorem TPc.inAttempt_tests {p : TPc} (h : p.inAttempt = true) :
    p.pre = false ∧ p.fin = false ∧ p ≠ .loopTest ∧ p ≠ .discarded := by
  cases p <;> first | (cases h; done) | exact ⟨rfl, rfl, nofun, nofun⟩

theorem att_pos_of_inAttempt {t : Task} (ok : TaskOK t) (h : t.pc.inAttempt = true) : 1 ≤ t.att :=
  have ⟨a, _, b, _⟩ := TPc.inAttempt_tests h
  ok.att_pos a b

/-- one attempt record is replaced and the dispatcher stays where it is or, if the record is that of the current attempt, moves
    inside the attempt (`hP`); the published pair changes only in the current attempt while the dispatcher is inside it (`hRes`) -/
theorem ok_step {t : Task} (ok : TaskOK t) (a : Nat) (x' : Att) (p' : TPc) (r' : Val) (e' : Err) (i' : Nat)
    (hlt : a < t.att) (hP : p' = t.pc ∨ a + 1 = t.att ∧ t.pc.inAttempt = true ∧ p'.inAttempt = true)
    (hA : AttOK x') (hInv : i' + (t.at_ a).starts = t.inv + x'.starts)
    (hW : x'.pc.isWrite = true → a + 1 = t.att ∧ p'.waiting = true)
    (hPast : a + 1 < t.att → x'.decided ≠ 0 ∧ x'.ctxDone = true ∧
        (x'.decided = 1 → ∃ v e, x'.ret = some (v, e) ∧ e ≠ .nil))
    (hCur : a + 1 = t.att → CurOK t.pc (t.at_ a) t.result t.err → CurOK p' x' r' e')
    (hRes : a + 1 = t.att ∧ p'.inAttempt = true ∨ r' = t.result ∧ e' = t.err) :
    TaskOK { t.setAt a x' with pc := p', result := r', err := e', inv := i' } := by
  have hatt : 1 ≤ t.att := by omega
  -- the outcome clauses are read only at stages outside the attempt, where stage and pair are the old ones
  have hout : p'.inAttempt = false → p' = t.pc ∧ r' = t.result ∧ e' = t.err := fun h =>
    ⟨hP.elim id fun hq => (nomatch h.symm.trans hq.2.2), hRes.resolve_left fun hq => nomatch h.symm.trans hq.2⟩
  have hpre : p'.pre = false := by
    rcases hP with e | ⟨_, _, hp⟩
    · rw [e]; exact ok.not_pre hatt
    · exact (TPc.inAttempt_tests hp).1
  have h0 : p' ≠ .discarded → p'.fin = false → t.onErr = [] := by
    rcases hP with e | ⟨_, hq, _⟩
    · rw [e]; exact ok.onErr0
    · have ⟨_, a2, _, a5⟩ := TPc.inAttempt_tests hq
      exact fun _ _ => ok.onErr0 a5 a2
  have hW' : ∀ b, (upd t.at_ a x' b).pc.isWrite = true → b + 1 = t.att ∧ p'.waiting = true := fun b h => by
    by_cases hb : b = a
    · rw [hb, upd_same] at h; exact hb ▸ hW h
    · rw [upd_other hb] at h
      have ⟨h1, h2⟩ := ok.writeW b h
      exact ⟨h1, hP.elim (fun e => e ▸ h2) fun hq => absurd h1 (by omega)⟩
  have hCur' : CurOK p' (upd t.at_ a x' t.cur) r' e' := by
    by_cases h : a + 1 = t.att
    · rw [Task.cur_eq h, upd_same]; exact hCur h (ok_cur ok h)
    · obtain rfl := hP.resolve_right fun hq => h hq.1
      obtain ⟨rfl, rfl⟩ := hRes.resolve_left fun hq => h hq.1
      rw [upd_other fun (e : t.cur = a) => h (e ▸ Task.cur_succ hatt)]
      exact ok_cur ok (Task.cur_succ hatt)
  obtain ⟨c1, c2, c3, c4, c5, c6, c7, c8⟩ := hCur'
  refine
    { r_pos := ok.r_pos, att_le := ok.att_le, atts := upd_forall (P := fun _ (y : Att) => AttOK y) hA fun b _ => ok.atts b,
      beyond := upd_forall (P := fun b (y : Att) => t.att ≤ b → y = {}) (fun h => absurd hlt (Nat.not_lt.2 h))
        fun b _ => ok.beyond b,
      inv_eq := ?_, pre0 := fun h => (nomatch hpre.symm.trans h), att_pos := fun _ _ => hatt, writeW := hW',
      past := upd_forall (P := fun b (y : Att) => b + 1 < t.att → y.decided ≠ 0 ∧ y.ctxDone = true ∧
        (y.decided = 1 → ∃ v e, y.ret = some (v, e) ∧ e ≠ Err.nil)) hPast fun b _ => ok.past b,
      sendCl := c1, dec0 := fun _ => c2, dec2 := fun _ => c3, wDE := c4, wDone := c5, pub1 := fun _ => c6,
      pub2 := fun _ => c7, ctxd := fun _ => c8, errLoop := ?_, errOn := ?_, errFin := ?_, onErrD := ?_, onErrF := ?_,
      onErr0 := h0, gotD := ?_ }
  · show i' = sumStarts (upd t.at_ a x') t.att
    have h1 := sum_upd_lt (S := sumStarts) (g := Att.starts) (fun _ => rfl) (fun _ _ => rfl) t.at_ a x' t.att hlt
    have h2 := ok.inv_eq
    omega
  · intro (hp : p' = .loopTest) h1
    obtain ⟨e1, _, e3⟩ := hout (by rw [hp]; rfl)
    show e' ≠ .nil
    rw [e3]; exact ok.errLoop (e1 ▸ hp) h1
  · intro (hp : p' = .onError)
    obtain ⟨e1, _, e3⟩ := hout (by rw [hp]; rfl)
    show e' ≠ .nil ∧ t.att = t.R
    rw [e3]; exact ok.errOn (e1 ▸ hp)
  · intro (hp : p'.fin = true)
    obtain ⟨e1, _, e3⟩ := hout (by cases p' <;> first | rfl | cases hp)
    show e' = .nil ∨ t.att = t.R
    rw [e3]; exact ok.errFin (e1 ▸ hp)
  · intro (hp : p' = .discarded)
    have e1 : p' = t.pc := (hout (by rw [hp]; rfl)).1
    exact ok.onErrD (e1 ▸ hp)
  · intro (hp : p'.fin = true)
    obtain ⟨e1, _, e3⟩ := hout (by cases p' <;> first | rfl | cases hp)
    show t.onErr.map Prod.fst = if e' ≠ .nil ∧ t.hasCb then [e'] else []
    rw [e3]; exact ok.onErrF (e1 ▸ hp)
  · intro (hp : p' = .done)
    obtain ⟨e1, e2, e3⟩ := hout (by rw [hp]; rfl)
    show t.got = some (r', e')
    rw [e2, e3]; exact ok.gotD (e1 ▸ hp)

/-- `ok_step` for a closure step that leaves the flag and the context alone and, if the closure won, the returned pair -/
theorem ok_setPc {t : Task} (ok : TaskOK t) {a : Nat} (hlt : a < t.att) {x' : Att} {i' : Nat} (hA : AttOK x')
    (hd : x'.decided = (t.at_ a).decided) (hr : (t.at_ a).decided = 1 → x'.ret = (t.at_ a).ret)
    (hc : x'.ctxDone = (t.at_ a).ctxDone) (hi : i' + (t.at_ a).starts = t.inv + x'.starts)
    (hn : t.pc = .sendCl → (t.at_ a).pc = .none → x'.pc = .none)
    (hw : x'.pc.isWrite = true → (t.at_ a).pc.isWrite = true)
    (hf : x'.pc.fin = true → (t.at_ a).pc.fin = true ∨ (t.at_ a).decided ≠ 1) :
    TaskOK { t.setAt a x' with inv := i' } := by
  refine ok_step ok a x' t.pc t.result t.err i' hlt (.inl rfl) hA hi (fun h => ok.writeW a (hw h)) ?_ ?_ (.inr ⟨rfl, rfl⟩)
  · rw [hd, hc]
    exact fun h => have ⟨p1, p2, p3⟩ := ok.past a h; ⟨p1, p2, fun h1 => hr h1 ▸ p3 h1⟩
  · intro _ ⟨h1, h2, h3, h4, h5, h6, h7, h8⟩
    unfold CurOK
    rw [hd, hc]
    exact ⟨fun hp => ⟨hn hp (h1 hp).1, (h1 hp).2⟩, h2, h3, h4, h5,
      fun hd1 hfin => hr hd1 ▸ h6 hd1 ((hf hfin).resolve_right (not_not_intro hd1)), h7, h8⟩

/-- the attempt whose closure or context timer takes the step; `none` for the steps of the client and the dispatcher -/
def Act.att? : Act → Option Nat
  | .fire _ a | .wTake _ a _ | .wStart _ a _ | .wEnd _ a _ _ | .wCheck _ a | .hook1 _ a | .wCas _ a | .hook4 _ a
  | .wWrite _ a | .wClose _ a => some a
  | _ => none

theorem TPc.waiting_of_preDecide {p : TPc} (h : p.preDecide = true) (hs : p ≠ .sendCl) : p.waiting = true := by
  cases p <;> simp_all [TPc.preDecide, TPc.waiting]

theorem TPc.inAttempt_of_waiting {p : TPc} (h : p.waiting = true) : p.inAttempt = true := by
  cases p <;> first | rfl | cases h

theorem ok_closure {c : Cfg} (hc : c.old = false) {now qlen a : Nat} {t t' : Task} {act : Act} (ok : TaskOK t)
    (ha : act.att? = some a) (h : TStep c now qlen t act t') : TaskOK t' := by
  have ax := ok.atts a
  cases h <;> cases ha
  case hook1Old => exact absurd ‹c.old = true› (by simp [hc])
  case fire hg =>
    -- the attempt's context becomes done: `TaskOK` asks for `ctxDone` in places and nowhere for its absence
    refine ok_step ok a _ t.pc _ _ _ hg.1 (.inl rfl) ax rfl (ok.writeW a) ?_ ?_ (.inr ⟨rfl, rfl⟩)
    · exact fun h => ⟨(ok.past a h).1, rfl, (ok.past a h).2.2⟩
    · exact fun _ ⟨h1, h2, h3, h4, h5, h6, h7, _⟩ => ⟨h1, h2, h3, h4, h5, h6, h7, fun _ => rfl⟩
  case wTake hp | checkDone hp _ | checkLive hp _ | hook1 _ hp | casLose hp _ | hook4 hp | wClose hp =>
    have hlt := lt_of_pc ok hp nofun
    refine ok_setPc ok hlt ?_ rfl (fun _ => rfl) rfl rfl (fun _ h => nomatch hp.symm.trans h) ?_ ?_ <;>
      simp only [cpc_tests, hp, reduceCtorEq] at ax ⊢ <;> simp_all
  case wStart hp =>
    have hlt := lt_of_pc ok hp nofun
    refine ok_setPc ok hlt ?_ rfl (fun _ => rfl) rfl (Nat.add_right_comm _ _ _) (fun _ h => nomatch hp.symm.trans h)
      ?_ ?_ <;> simp_all [cpc_tests]
  case wEnd hp =>
    have hlt := lt_of_pc ok hp nofun
    refine ok_setPc ok hlt ?_ rfl ?_ rfl rfl (fun _ h => nomatch hp.symm.trans h) ?_ ?_ <;> simp_all [cpc_tests]
  case casWin hp hz =>
    -- the attempt is undecided, hence current, and the dispatcher is still before its own CAS
    have hlt := lt_of_pc ok hp nofun
    have he : a + 1 = t.att := by have : ¬a + 1 < t.att := fun h => (ok.past a h).1 hz; omega
    have hcu := ok_cur ok he
    refine ok_step ok a _ t.pc _ _ _ hlt (.inl rfl) ?_ rfl
      (fun _ => ⟨he, TPc.waiting_of_preDecide (hcu.2.1 hz) fun hs => nomatch hp.symm.trans (hcu.1 hs).1⟩)
      (fun h => absurd he (by omega)) (fun _ _ => ?_) (.inr ⟨rfl, rfl⟩) <;>
      simp_all [cpc_tests, CurOK]
  case wWrite hp =>
    -- the dispatcher is waiting, so the attempt is the current one and not over
    have hlt := lt_of_pc ok hp nofun
    have hw := ok.writeW a (by rw [hp]; rfl)
    refine ok_step ok a _ t.pc _ _ _ hlt (.inl rfl) ?_ rfl nofun (fun h => absurd hw.1 (by omega)) (fun _ hcu => ?_)
      (.inl ⟨hw.1, TPc.inAttempt_of_waiting hw.2⟩) <;> simp_all [cpc_tests, CurOK]

end Got.Model.Ants
