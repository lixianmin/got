import Got.Lemmas.SortBasic
/-
Index range and number of Less calls of every function of the sort model, for an ARBITRARY less function: all loops of the Go
code are index-bounded whatever the comparisons answer.  Where the count is not one number the lemma states `Steps` and the
count apart (`insOuter_run`: a potential on both sides; `siftDown_run`: per level below the root; the scans: one comparison
less when the index bound stopped them).  The counts end as a price per element, which `quickSort_run` adds up.
-/
namespace Got.Lemmas.Sort
open Got.Model.Sort

variable {K V : Type} (less : LessFn K V)

theorem thrInsertion_le : thrInsertion ≤ 12 := by decide
theorem thrInsertion_ge5 : 5 ≤ thrInsertion := by decide
theorem thrNinther_ge : 14 ≤ thrNinther := by decide

/-- `tri k = 0 + 1 + … + (k-1)` -/
def tri : Nat → Nat
  | 0 => 0
  | k + 1 => tri k + k

/-- `tri m = m (m - 1) / 2 ≤ 11 m / 2 ≤ 6 m` for `m ≤ 12` -/
theorem tri_le_small : ∀ m, m ≤ 12 → tri m ≤ 6 * m := by decide

theorem insInner_run (a j : Nat) (s : St K V) : Run a (j + 1) (j - a) s (insInner less a j s) := by
  fun_induction insInner less a j s with
  | case1 s => exact (Run.refl s).le (Nat.zero_le _)
  | case2 j s h r s1 hr ih =>
    have hin : InR a (j + 1 + 1) (j + 1) j := by unfold InR; omega
    exact (((Run.note s r hin).trans (Run.swap _ hin)).trans (ih.mono (Nat.le_refl _) (Nat.le_succ _) (Nat.le_refl _))).le
      (by omega)
  | case3 j s h r s1 hr => exact (Run.note s r (by unfold InR; omega)).le (by omega)
  | case4 j s h => exact (Run.refl s).le (Nat.zero_le _)

theorem insOuter_run (a b i : Nat) (s : St K V) (hai : a ≤ i) (hib : i ≤ b) :
    Steps a b s (insOuter less a b i s) ∧ cnt (insOuter less a b i s) + tri (i - a) ≤ cnt s + tri (b - a) := by
  fun_induction insOuter less a b i s with
  | case1 i s h ih =>
    obtain ⟨st1, c1⟩ := insInner_run less a i s
    obtain ⟨st2, c2⟩ := ih (by omega) (by omega)
    have e : i + 1 - a = (i - a) + 1 := by omega
    rw [e, tri] at c2
    exact ⟨(st1.mono (Nat.le_refl _) (by omega)).trans st2, by omega⟩
  | case2 i s h =>
    obtain rfl : i = b := by omega
    exact ⟨Steps.refl _, Nat.le_refl _⟩

theorem insertionSort_run (a b : Nat) (s : St K V) (hab : a + 1 ≤ b) :
    Run a b (tri (b - a)) s (insertionSort less a b s) := by
  unfold insertionSort
  obtain ⟨st, c⟩ := insOuter_run less a b (a + 1) s (by omega) hab
  have e : a + 1 - a = 0 + 1 := by omega
  rw [e, tri, tri] at c
  exact ⟨st, by omega⟩

theorem pickChild_run (hi first child : Nat) (s : St K V) :
    Run first (first + hi) 1 s (pickChild less hi first child s).2 := by
  unfold pickChild
  split
  · exact Run.note _ _ (by unfold InR; omega)
  · exact (Run.refl _).le (Nat.zero_le _)

/-- one sift costs at most two comparisons per level below `root` -/
theorem siftDown_run (hi first root : Nat) (s : St K V) :
    Steps first (first + hi) s (siftDown less hi first root s) ∧
    ∀ k, hi < (root + 1) * 2 ^ k → cnt (siftDown less hi first root s) ≤ cnt s + 2 * k := by
  fun_induction siftDown less hi first root s with
  | case1 root s child h => exact ⟨Steps.refl _, fun k _ => Nat.le_add_right _ _⟩
  | case2 root s child h pc r s1 hr =>
    have hf : child ≤ pc.1 ∧ pc.1 < hi ∧ pc.1 ≤ child + 1 := pickChild_fst less hi first child s (by omega)
    obtain ⟨stp, hp⟩ : Run first (first + hi) 1 s pc.2 := pickChild_run less hi first child s
    refine ⟨stp.trans (Steps.note1 _ _ _ _ (by unfold InR; omega)), fun k hk => ?_⟩
    have h1 : cnt s1 = cnt pc.2 + 1 := rfl
    -- `root` has a child below `hi`, so `k ≠ 0`
    cases k with
    | zero => simp at hk; omega
    | succ k' => omega
  | case3 root s child h pc r s1 hr ih =>
    have hf : child ≤ pc.1 ∧ pc.1 < hi ∧ pc.1 ≤ child + 1 := pickChild_fst less hi first child s (by omega)
    obtain ⟨stp, hp⟩ : Run first (first + hi) 1 s pc.2 := pickChild_run less hi first child s
    refine ⟨((stp.trans (Steps.note1 _ _ _ _ (by unfold InR; omega))).trans
      (Steps.swap1 _ _ _ (by unfold InR; omega))).trans ih.1, fun k hk => ?_⟩
    have h1 : cnt (s1.swap (first + root) (first + pc.1)) = cnt pc.2 + 1 := rfl
    cases k with
    | zero => simp at hk; omega
    | succ k' =>
      have hstep : hi < (pc.1 + 1) * 2 ^ k' := by
        have e : (root + 1) * 2 ^ (k' + 1) = (2 * (root + 1)) * 2 ^ k' := by
          rw [Nat.pow_succ, Nat.mul_comm (2 ^ k') 2, ← Nat.mul_assoc, Nat.mul_comm (root + 1) 2]
        rw [e] at hk
        have : (2 * (root + 1)) * 2 ^ k' ≤ (pc.1 + 1) * 2 ^ k' := Nat.mul_le_mul_right _ (by omega)
        omega
      have := ih.2 k' hstep
      omega

theorem siftDown_cost (hi first root k : Nat) (s : St K V) (hk : hi < 2 ^ k) :
    cnt (siftDown less hi first root s) ≤ cnt s + 2 * k := by
  apply (siftDown_run less hi first root s).2 k
  have : 1 * 2 ^ k ≤ (root + 1) * 2 ^ k := Nat.mul_le_mul_right _ (by omega)
  omega

theorem heapBuild_run (hi first i : Nat) (s : St K V) :
    Steps first (first + hi) s (heapBuild less hi first i s) ∧
    ∀ k, hi < 2 ^ k → cnt (heapBuild less hi first i s) ≤ cnt s + (i + 1) * (2 * k) := by
  fun_induction heapBuild less hi first i s with
  | case1 s =>
    exact ⟨(siftDown_run less hi first 0 s).1, fun k hk => by have := siftDown_cost less hi first 0 k s hk; omega⟩
  | case2 i s ih =>
    refine ⟨(siftDown_run less hi first (i + 1) s).1.trans ih.1, fun k hk => ?_⟩
    have h1 := siftDown_cost less hi first (i + 1) k s hk
    have h2 := ih.2 k hk
    rw [Nat.add_one_mul]
    omega

theorem heapPop_run (first i : Nat) (s : St K V) :
    Steps first (first + i) s (heapPop less first i s) ∧
    ∀ k, i ≤ 2 ^ k → cnt (heapPop less first i s) ≤ cnt s + i * (2 * k) := by
  fun_induction heapPop less first i s with
  | case1 s => exact ⟨Steps.refl _, fun k _ => by omega⟩
  | case2 i s ih =>
    refine ⟨((Steps.swap1 s first (first + i) (by unfold InR; omega)).trans
      (((siftDown_run less i first 0 _).1).mono (Nat.le_refl _) (by omega))).trans
      (ih.1.mono (Nat.le_refl _) (by omega)), fun k hk => ?_⟩
    have h1 := siftDown_cost less i first 0 k (s.swap first (first + i)) (by omega)
    rw [cnt_swap] at h1
    have h2 := ih.2 k (by omega)
    rw [Nat.add_one_mul]
    omega

theorem heapSort_steps (a b : Nat) (s : St K V) (hab : a ≤ b) : Steps a b s (heapSort less a b s) := by
  unfold heapSort
  have e : a + (b - a) = b := by omega
  have h1 := (heapBuild_run less (b - a) a ((b - a - 1) / 2) s).1
  have h2 := (heapPop_run less a (b - a) (heapBuild less (b - a) a ((b - a - 1) / 2) s)).1
  rw [e] at h1 h2
  exact h1.trans h2

theorem heapSort_cost (a b k : Nat) (s : St K V) (hk : b - a < 2 ^ k) :
    cnt (heapSort less a b s) ≤ cnt s + (3 * (b - a) + 2) * k := by
  unfold heapSort
  dsimp only
  have h1 := (heapBuild_run less (b - a) a ((b - a - 1) / 2) s).2 k hk
  have h2 := (heapPop_run less a (b - a) (heapBuild less (b - a) a ((b - a - 1) / 2) s)).2 k (by omega)
  generalize heapBuild less (b - a) a ((b - a - 1) / 2) s = s1 at *
  have e1 : ((b - a - 1) / 2 + 1) * (2 * k) + (b - a) * (2 * k) = (((b - a - 1) / 2 + 1 + (b - a)) * 2) * k := by
    rw [← Nat.add_mul, Nat.mul_assoc]
  have e2 : (((b - a - 1) / 2 + 1 + (b - a)) * 2) * k ≤ (3 * (b - a) + 2) * k := Nat.mul_le_mul_right _ (by omega)
  omega

theorem condSwap_run (lo hi i j : Nat) (s : St K V) (h : InR lo hi i j) : Run lo hi 1 s (condSwap less i j s) := by
  unfold condSwap
  dsimp only
  split
  · exact (Run.note s _ h).trans (Run.swap _ h)
  · exact Run.note s _ h

theorem medianOfThree_run (lo hi m1 m0 m2 : Nat) (s : St K V)
    (h : (lo ≤ m1 ∧ m1 < hi) ∧ (lo ≤ m0 ∧ m0 < hi) ∧ (lo ≤ m2 ∧ m2 < hi)) :
    Run lo hi 3 s (medianOfThree less m1 m0 m2 s) := by
  have r10 : InR lo hi m1 m0 := ⟨h.1.1, h.1.2, h.2.1⟩
  have r21 : InR lo hi m2 m1 := ⟨h.2.2.1, h.2.2.2, h.1⟩
  unfold medianOfThree
  dsimp only
  split
  · exact (condSwap_run less lo hi m1 m0 s r10).trans
      (((Run.note _ _ r21).trans (Run.swap _ r21)).trans (condSwap_run less lo hi m1 m0 _ r10))
  · exact ((condSwap_run less lo hi m1 m0 s r10).trans (Run.note _ _ r21)).le (Nat.le_succ 2)

/-- a scan costs one comparison per step, plus one unless it was stopped by the index bound (written with sums: the
    callers add these up) -/
theorem scanUpLt_run (lo hi pivot c a : Nat) (s : St K V) (hp : lo ≤ pivot ∧ pivot < hi) (ha : lo ≤ a) (hc : c ≤ hi) :
    Steps lo hi s (scanUpLt less pivot c a s).2 ∧
    cnt (scanUpLt less pivot c a s).2 + a ≤ cnt s + (scanUpLt less pivot c a s).1 + 1 ∧
    (c ≤ (scanUpLt less pivot c a s).1 → cnt (scanUpLt less pivot c a s).2 + a ≤ cnt s + (scanUpLt less pivot c a s).1) := by
  fun_induction scanUpLt less pivot c a s with
  | case1 a s h r s1 hr ih =>
    have hin : InR lo hi a pivot := ⟨ha, Nat.lt_of_lt_of_le h hc, hp⟩
    have h1 : cnt s1 = cnt s + 1 := rfl
    obtain ⟨st, c1, c2⟩ := ih (Nat.le_succ_of_le ha)
    exact ⟨(Steps.note1 _ _ _ _ hin).trans st, by omega, fun h' => by have := c2 h'; omega⟩
  | case2 a s h r s1 hr =>
    exact ⟨Steps.note1 _ _ _ _ ⟨ha, Nat.lt_of_lt_of_le h hc, hp⟩, Nat.le_of_eq (Nat.add_right_comm _ _ _),
      fun h' => absurd h (Nat.not_lt.2 h')⟩
  | case3 a s h => exact ⟨Steps.refl _, Nat.le_succ _, fun _ => Nat.le_refl _⟩

theorem scanUpNotGt_run (lo hi pivot c b : Nat) (s : St K V) (hp : lo ≤ pivot ∧ pivot < hi) (hb : lo ≤ b) (hc : c ≤ hi) :
    Steps lo hi s (scanUpNotGt less pivot c b s).2 ∧
    cnt (scanUpNotGt less pivot c b s).2 + b ≤ cnt s + (scanUpNotGt less pivot c b s).1 + 1 ∧
    (c ≤ (scanUpNotGt less pivot c b s).1 →
      cnt (scanUpNotGt less pivot c b s).2 + b ≤ cnt s + (scanUpNotGt less pivot c b s).1) := by
  fun_induction scanUpNotGt less pivot c b s with
  | case1 b s h r s1 hr ih =>
    have hin : InR lo hi pivot b := ⟨hp.1, hp.2, hb, Nat.lt_of_lt_of_le h hc⟩
    have h1 : cnt s1 = cnt s + 1 := rfl
    obtain ⟨st, c1, c2⟩ := ih (Nat.le_succ_of_le hb)
    exact ⟨(Steps.note1 _ _ _ _ hin).trans st, by omega, fun h' => by have := c2 h'; omega⟩
  | case2 b s h r s1 hr =>
    exact ⟨Steps.note1 _ _ _ _ ⟨hp.1, hp.2, hb, Nat.lt_of_lt_of_le h hc⟩, Nat.le_of_eq (Nat.add_right_comm _ _ _), fun h' => absurd h (Nat.not_lt.2 h')⟩
  | case3 b s h => exact ⟨Steps.refl _, Nat.le_succ _, fun _ => Nat.le_refl _⟩

theorem scanDownGt_run (lo hi pivot b c : Nat) (s : St K V) (hp : lo ≤ pivot ∧ pivot < hi) (hb : lo ≤ b) (hc : c ≤ hi) :
    Steps lo hi s (scanDownGt less pivot b c s).2 ∧
    cnt (scanDownGt less pivot b c s).2 + (scanDownGt less pivot b c s).1 ≤ cnt s + c + 1 ∧
    ((scanDownGt less pivot b c s).1 ≤ b →
      cnt (scanDownGt less pivot b c s).2 + (scanDownGt less pivot b c s).1 ≤ cnt s + c) := by
  fun_induction scanDownGt less pivot b c s with
  | case1 s => exact ⟨Steps.refl _, Nat.le_succ _, fun _ => Nat.le_refl _⟩
  | case2 c s h r s1 hr ih =>
    have hin : InR lo hi pivot c := ⟨hp.1, hp.2, Nat.le_trans hb (Nat.le_of_lt_succ h), hc⟩
    have h1 : cnt s1 = cnt s + 1 := rfl
    obtain ⟨st, c1, c2⟩ := ih (Nat.le_of_succ_le hc)
    exact ⟨(Steps.note1 _ _ _ _ hin).trans st, by omega, fun h' => by have := c2 h'; omega⟩
  | case3 c s h r s1 hr =>
    exact ⟨Steps.note1 _ _ _ _ ⟨hp.1, hp.2, Nat.le_trans hb (Nat.le_of_lt_succ h), hc⟩, Nat.le_of_eq (Nat.add_right_comm _ _ _), fun h' => absurd h (Nat.not_lt.2 h')⟩
  | case4 c s h => exact ⟨Steps.refl _, Nat.le_succ _, fun _ => Nat.le_refl _⟩

theorem scanDownNotLt_run (lo hi pivot a b : Nat) (s : St K V) (hp : lo ≤ pivot ∧ pivot < hi) (ha : lo ≤ a) (hb : b ≤ hi) :
    Steps lo hi s (scanDownNotLt less pivot a b s).2 ∧
    cnt (scanDownNotLt less pivot a b s).2 + (scanDownNotLt less pivot a b s).1 ≤ cnt s + b + 1 ∧
    ((scanDownNotLt less pivot a b s).1 ≤ a →
      cnt (scanDownNotLt less pivot a b s).2 + (scanDownNotLt less pivot a b s).1 ≤ cnt s + b) := by
  fun_induction scanDownNotLt less pivot a b s with
  | case1 s => exact ⟨Steps.refl _, Nat.le_succ _, fun _ => Nat.le_refl _⟩
  | case2 b s h r s1 hr ih =>
    have hin : InR lo hi b pivot := ⟨Nat.le_trans ha (Nat.le_of_lt_succ h), hb, hp⟩
    have h1 : cnt s1 = cnt s + 1 := rfl
    obtain ⟨st, c1, c2⟩ := ih (Nat.le_of_succ_le hb)
    exact ⟨(Steps.note1 _ _ _ _ hin).trans st, by omega, fun h' => by have := c2 h'; omega⟩
  | case3 b s h r s1 hr =>
    exact ⟨Steps.note1 _ _ _ _ ⟨Nat.le_trans ha (Nat.le_of_lt_succ h), hb, hp⟩, Nat.le_of_eq (Nat.add_right_comm _ _ _), fun h' => absurd h (Nat.not_lt.2 h')⟩
  | case4 b s h => exact ⟨Steps.refl _, Nat.le_succ _, fun _ => Nat.le_refl _⟩

theorem partLoop_run (lo hi pivot b c : Nat) (s : St K V) (hp : lo ≤ pivot ∧ pivot < hi) (hb : lo ≤ b) (hc : c ≤ hi)
    (hbc : b ≤ c + 1) :
    b ≤ (partLoop less pivot b c s).1 ∧ (partLoop less pivot b c s).2.1 ≤ c ∧
    (partLoop less pivot b c s).2.1 ≤ (partLoop less pivot b c s).1 ∧
    (partLoop less pivot b c s).1 ≤ (partLoop less pivot b c s).2.1 + 1 ∧
    Run lo hi (c + 1 - b) s (partLoop less pivot b c s).2.2 := by
  fun_induction partLoop less pivot b c s with
  | case1 b c s rb rc h =>
    have f1 : b ≤ rb.1 ∧ (rb.1 ≤ c ∨ rb.1 = b) := scanUpNotGt_fst less pivot c b s
    have f2 : rc.1 ≤ c ∧ (rb.1 ≤ rc.1 ∨ rc.1 = c) := scanDownGt_fst less pivot rb.1 c rb.2
    have hx : rc.1 ≤ rb.1 ∧ rb.1 ≤ rc.1 + 1 := by omega
    obtain ⟨st1, c1⟩ : Steps lo hi s rb.2 ∧ cnt rb.2 + b ≤ cnt s + rb.1 + 1 ∧ (c ≤ rb.1 → cnt rb.2 + b ≤ cnt s + rb.1) :=
      scanUpNotGt_run less lo hi pivot c b s hp hb hc
    obtain ⟨st2, -, c2⟩ : Steps lo hi rb.2 rc.2 ∧ cnt rc.2 + rc.1 ≤ cnt rb.2 + c + 1 ∧
        (rc.1 ≤ rb.1 → cnt rc.2 + rc.1 ≤ cnt rb.2 + c) :=
      scanDownGt_run less lo hi pivot rb.1 c rb.2 hp (Nat.le_trans hb f1.1) hc
    have c2 := c2 h
    dsimp only
    exact ⟨f1.1, f2.1, hx.1, hx.2, st1.trans st2, by omega⟩
  | case2 b c s rb rc h ih =>
    have f1 : b ≤ rb.1 := (scanUpNotGt_fst less pivot c b s).1
    have f2 : rc.1 ≤ c := (scanDownGt_fst less pivot rb.1 c rb.2).1
    have hsw : InR lo hi rb.1 (rc.1 - 1) := by unfold InR; omega
    -- neither scan was stopped by its index bound: one comparison more than steps, each
    obtain ⟨st1, c1, -⟩ : Steps lo hi s rb.2 ∧ cnt rb.2 + b ≤ cnt s + rb.1 + 1 ∧ _ :=
      scanUpNotGt_run less lo hi pivot c b s hp hb hc
    obtain ⟨st2, c2, -⟩ : Steps lo hi rb.2 rc.2 ∧ cnt rc.2 + rc.1 ≤ cnt rb.2 + c + 1 ∧ _ :=
      scanDownGt_run less lo hi pivot rb.1 c rb.2 hp (Nat.le_trans hb f1) hc
    obtain ⟨g1, g2, g3, g4, st3, c3⟩ := ih (Nat.le_succ_of_le hsw.1) (Nat.le_of_lt hsw.2.2.2) (by omega)
    exact ⟨Nat.le_trans f1 (Nat.le_of_succ_le g1), Nat.le_trans g2 (Nat.le_trans (Nat.sub_le _ _) f2), g3, g4,
      ((st1.trans st2).trans (Steps.swap1 _ _ _ hsw)).trans st3, Nat.le_trans c3 (by rw [cnt_swap]; omega)⟩

/-- `a` may lie beyond `b + 1`: then nothing is compared -/
theorem protectLoop_run (lo hi pivot a b : Nat) (s : St K V) (hp : lo ≤ pivot ∧ pivot < hi) (ha : lo ≤ a) (hb : b ≤ hi) :
    (protectLoop less pivot a b s).2.1 ≤ b ∧
    (a ≤ (protectLoop less pivot a b s).2.1 ∨ (protectLoop less pivot a b s).2.1 = b) ∧
    Run lo hi (b + 1 - a) s (protectLoop less pivot a b s).2.2 := by
  fun_induction protectLoop less pivot a b s with
  | case1 a b s rb ra h =>
    have f1 : rb.1 ≤ b ∧ (a ≤ rb.1 ∨ rb.1 = b) := scanDownNotLt_fst less pivot a b s
    have f2 : a ≤ ra.1 ∧ (ra.1 ≤ rb.1 ∨ ra.1 = a) := scanUpLt_fst less pivot rb.1 a rb.2
    obtain ⟨st1, c1⟩ : Steps lo hi s rb.2 ∧ cnt rb.2 + rb.1 ≤ cnt s + b + 1 ∧ (rb.1 ≤ a → cnt rb.2 + rb.1 ≤ cnt s + b) :=
      scanDownNotLt_run less lo hi pivot a b s hp ha hb
    obtain ⟨st2, -, c2⟩ : Steps lo hi rb.2 ra.2 ∧ cnt ra.2 + a ≤ cnt rb.2 + ra.1 + 1 ∧
        (rb.1 ≤ ra.1 → cnt ra.2 + a ≤ cnt rb.2 + ra.1) :=
      scanUpLt_run less lo hi pivot rb.1 a rb.2 hp ha (Nat.le_trans f1.1 hb)
    have c2 := c2 h
    dsimp only
    exact ⟨f1.1, f1.2, st1.trans st2, by omega⟩
  | case2 a b s rb ra h ih =>
    have f1 : rb.1 ≤ b := (scanDownNotLt_fst less pivot a b s).1
    have f2 : a ≤ ra.1 := (scanUpLt_fst less pivot rb.1 a rb.2).1
    have hsw : InR lo hi ra.1 (rb.1 - 1) := by unfold InR; omega
    obtain ⟨st1, c1, -⟩ : Steps lo hi s rb.2 ∧ cnt rb.2 + rb.1 ≤ cnt s + b + 1 ∧ _ :=
      scanDownNotLt_run less lo hi pivot a b s hp ha hb
    obtain ⟨st2, c2, -⟩ : Steps lo hi rb.2 ra.2 ∧ cnt ra.2 + a ≤ cnt rb.2 + ra.1 + 1 ∧ _ :=
      scanUpLt_run less lo hi pivot rb.1 a rb.2 hp ha (Nat.le_trans f1 hb)
    obtain ⟨g1, g2, st3, c3⟩ := ih (Nat.le_succ_of_le hsw.1) (Nat.le_of_lt hsw.2.2.2)
    exact ⟨Nat.le_trans g1 (Nat.le_trans (Nat.sub_le _ _) f1), Or.inl (by omega),
      ((st1.trans st2).trans (Steps.swap1 _ _ _ hsw)).trans st3, Nat.le_trans c3 (by rw [cnt_swap]; omega)⟩

/-- the index part of `protectLoop_run` needs no range: taken at `[0, max (pivot + 1) b)`, which meets its hypotheses -/
theorem protectLoop_bounds (pivot a b : Nat) (s : St K V) :
    (protectLoop less pivot a b s).2.1 ≤ b ∧
    (a ≤ (protectLoop less pivot a b s).2.1 ∨ (protectLoop less pivot a b s).2.1 = b) :=
  have h := protectLoop_run less 0 (max (pivot + 1) b) pivot a b s (by omega) (by omega) (by omega)
  ⟨h.1, h.2.1⟩

theorem dupProbe1_spec (lo hi pivot c : Nat) (s : St K V) (hp : lo ≤ pivot ∧ pivot < hi) (hc : lo ≤ c ∧ c < hi) :
    Run lo hi 1 s (dupProbe1 less pivot hi c s).2.2 ∧
    c ≤ (dupProbe1 less pivot hi c s).1 ∧ (dupProbe1 less pivot hi c s).1 ≤ c + 1 := by
  have r1 : InR lo hi pivot (hi - 1) := by unfold InR; omega
  have r2 : InR lo hi c (hi - 1) := by unfold InR; omega
  unfold dupProbe1
  dsimp only
  split
  · exact ⟨(Run.note _ _ r1).trans (Run.swap _ r2), Nat.le_succ _, Nat.le_refl _⟩
  · exact ⟨Run.note _ _ r1, Nat.le_refl _, Nat.le_succ _⟩

theorem dupProbe1_dups_le (pivot hi c : Nat) (s : St K V) : (dupProbe1 less pivot hi c s).2.1 ≤ 1 := by
  unfold dupProbe1
  dsimp only
  split <;> simp

theorem dupProbe2_bounds (pivot b dups : Nat) (s : St K V) :
    b - 1 ≤ (dupProbe2 less pivot b dups s).1 ∧ (dupProbe2 less pivot b dups s).1 ≤ b ∧
    (dupProbe2 less pivot b dups s).2.1 ≤ dups + 1 := by
  unfold dupProbe2
  dsimp only
  split <;> simp

theorem dupProbe2_spec (lo hi pivot b dups : Nat) (s : St K V) (hp : lo ≤ pivot ∧ pivot < hi) (hb : lo + 1 ≤ b ∧ b ≤ hi) :
    Run lo hi 1 s (dupProbe2 less pivot b dups s).2.2 ∧
    b ≤ (dupProbe2 less pivot b dups s).1 + 1 ∧ (dupProbe2 less pivot b dups s).1 ≤ b := by
  have r1 : InR lo hi (b - 1) pivot := by unfold InR; omega
  have hf := dupProbe2_bounds less pivot b dups s
  refine ⟨?_, by omega, hf.2.1⟩
  unfold dupProbe2
  dsimp only
  split <;> exact Run.note _ _ r1

theorem dupProbe3_spec (lo hi pivot m b dups : Nat) (s : St K V) (hp : lo ≤ pivot ∧ pivot < hi) (hm : lo ≤ m ∧ m < hi)
    (hb : lo + 1 ≤ b ∧ b ≤ hi) :
    Run lo hi 1 s (dupProbe3 less pivot m b dups s).2.2 ∧
    b ≤ (dupProbe3 less pivot m b dups s).1 + 1 ∧ (dupProbe3 less pivot m b dups s).1 ≤ b := by
  have r1 : InR lo hi m pivot := by unfold InR; omega
  have r2 : InR lo hi m (b - 1) := by unfold InR; omega
  unfold dupProbe3
  dsimp only
  split
  · exact ⟨(Run.note _ _ r1).trans (Run.swap _ r2), by dsimp only; omega, Nat.sub_le _ _⟩
  · exact ⟨Run.note _ _ r1, Nat.le_succ _, Nat.le_refl _⟩

theorem dupProbe_spec (lo hi pivot m b c : Nat) (s : St K V) (hp : lo ≤ pivot ∧ pivot < hi) (hm : lo ≤ m ∧ m < hi)
    (hb : lo + 3 ≤ b ∧ b ≤ hi) (hc : lo ≤ c ∧ c < hi) :
    Run lo hi 3 s (dupProbe less pivot hi m b c s).2.2.2 ∧
    b ≤ (dupProbe less pivot hi m b c s).1 + 2 ∧ (dupProbe less pivot hi m b c s).1 ≤ b ∧
    c ≤ (dupProbe less pivot hi m b c s).2.1 ∧ (dupProbe less pivot hi m b c s).2.1 ≤ c + 1 := by
  unfold dupProbe
  dsimp only
  have h1 := dupProbe1_spec less lo hi pivot c s hp hc
  generalize dupProbe1 less pivot hi c s = p1 at *
  have h2 := dupProbe2_spec less lo hi pivot b p1.2.1 p1.2.2 hp (by omega)
  generalize dupProbe2 less pivot b p1.2.1 p1.2.2 = p2 at *
  have h3 := dupProbe3_spec less lo hi pivot m p2.1 p2.2.1 p2.2.2 hp hm (by omega)
  generalize dupProbe3 less pivot m p2.1 p2.2.1 p2.2.2 = p3 at *
  exact ⟨(h1.1.trans h2.1).trans h3.1, by omega⟩

/-- the first part of `choosePivot`: above `thrNinther`, three medians of three -/
def ninther (lo hi : Nat) (s : St K V) : St K V :=
  if hi - lo > thrNinther then
    medianOfThree less (hi - 1) (hi - 1 - (hi - lo) / divNinther) (hi - 1 - 2 * ((hi - lo) / divNinther))
      (medianOfThree less ((lo + hi) / 2) ((lo + hi) / 2 - (hi - lo) / divNinther) ((lo + hi) / 2 + (hi - lo) / divNinther)
        (medianOfThree less lo (lo + (hi - lo) / divNinther) (lo + 2 * ((hi - lo) / divNinther)) s))
  else s

theorem choosePivot_eq (lo hi : Nat) (s : St K V) :
    choosePivot less lo hi s = medianOfThree less lo ((lo + hi) / 2) (hi - 1) (ninther less lo hi s) := rfl

theorem ninther_run (lo hi : Nat) (s : St K V) (h : lo + 3 ≤ hi) :
    Run lo hi (if hi - lo > thrNinther then 9 else 0) s (ninther less lo hi s) := by
  unfold ninther
  split
  · -- of the step `t` only `8 * t ≤ hi - lo` matters
    have ht : (hi - lo) / divNinther * 8 ≤ hi - lo := by rw [divNinther_eq]; exact Nat.div_mul_le_self _ _
    generalize (hi - lo) / divNinther = t at ht
    exact ((medianOfThree_run less lo hi lo (lo + t) (lo + 2 * t) s (by omega)).trans
      (medianOfThree_run less lo hi ((lo + hi) / 2) ((lo + hi) / 2 - t) ((lo + hi) / 2 + t) _ (by omega))).trans
      (medianOfThree_run less lo hi (hi - 1) (hi - 1 - t) (hi - 1 - 2 * t) _ (by omega))
  · exact Run.refl s

theorem choosePivot_run (lo hi : Nat) (s : St K V) (h : lo + 3 ≤ hi) :
    Run lo hi (if hi - lo > thrNinther then 12 else 3) s (choosePivot less lo hi s) := by
  rw [choosePivot_eq]
  exact ((ninther_run less lo hi s h).trans (medianOfThree_run less lo hi lo ((lo + hi) / 2) (hi - 1) _ (by omega))).le
    (by split <;> exact Nat.le_refl _)

/-- the first scan and the partition loop together make at most `hi - lo` comparisons -/
theorem partitionPhase_run (lo hi : Nat) (s : St K V) (h : lo + 3 ≤ hi) :
    Run lo hi ((if hi - lo > thrNinther then 12 else 3) + (hi - lo)) s (partitionPhase less lo hi s).2.2.2 ∧
    lo + 1 ≤ (partitionPhase less lo hi s).1 ∧ (partitionPhase less lo hi s).1 ≤ (partitionPhase less lo hi s).2.1 ∧
    (partitionPhase less lo hi s).2.2.1 ≤ hi - 1 ∧
    (partitionPhase less lo hi s).2.2.1 ≤ (partitionPhase less lo hi s).2.1 ∧
    (partitionPhase less lo hi s).2.1 ≤ (partitionPhase less lo hi s).2.2.1 + 1 := by
  unfold partitionPhase
  dsimp only
  have r0 := choosePivot_run less lo hi s h
  generalize choosePivot less lo hi s = s1 at *
  have hp : lo ≤ lo ∧ lo < hi := ⟨Nat.le_refl _, by omega⟩
  have ha := scanUpLt_fst less lo (hi - 1) (lo + 1) s1
  obtain ⟨st1, c1, -⟩ := scanUpLt_run less lo hi lo (hi - 1) (lo + 1) s1 hp (Nat.le_succ _) (Nat.sub_le _ _)
  generalize scanUpLt less lo (hi - 1) (lo + 1) s1 = ra at *
  have r1 : Run lo hi (ra.1 - lo) s1 ra.2 := ⟨st1, by omega⟩
  obtain ⟨g1, g2, g3, g4, r2⟩ :=
    partLoop_run less lo hi lo ra.1 (hi - 1) ra.2 hp (Nat.le_of_succ_le ha.1) (Nat.sub_le _ _) (by omega)
  exact ⟨(r0.trans (r1.trans r2)).le (Nat.add_le_add_left (by omega) _), ha.1, g1, g2, g3, g4⟩

theorem dupPhase_run (lo hi b c : Nat) (s : St K V) (h : lo + 3 ≤ hi) (hb : lo + 1 ≤ b) (hc : c ≤ hi - 1)
    (hcb : c ≤ b) (hbc : b ≤ c + 1) :
    Run lo hi 3 s (dupPhase less lo hi b c s).2.2.2 ∧
    lo + 1 ≤ (dupPhase less lo hi b c s).1 ∧ (dupPhase less lo hi b c s).1 ≤ b ∧
    c ≤ (dupPhase less lo hi b c s).2.1 ∧ (dupPhase less lo hi b c s).2.1 ≤ hi := by
  unfold dupPhase
  dsimp only
  split
  · rename_i hcond
    simp only [Bool.and_eq_true, Bool.not_eq_eq_eq_not, Bool.not_true, decide_eq_false_iff_not, decide_eq_true_eq,
      thrProtect_eq, divDups_eq] at hcond
    -- all that is needed of the condition: the right zone is short, so `c` is far from `lo`
    have hc3 : lo + 3 ≤ c ∧ c < hi := by omega
    clear hcond
    obtain ⟨r, h1, h2, h3, h4⟩ :=
      dupProbe_spec less lo hi lo ((lo + hi) / 2) b c s (by omega) (by omega) (by omega) (by omega)
    dsimp only
    exact ⟨r, by omega, h2, h3, by omega⟩
  · dsimp only
    exact ⟨(Run.refl _).le (Nat.zero_le _), hb, Nat.le_refl _, Nat.le_refl _, by omega⟩

/-- with `m = hi - lo`: `m` for the first scan and the partition loop, 3 for the duplicate probes, `m` for the protect loop,
    12 or 3 for the pivot choice -/
theorem doPivot_run (lo hi : Nat) (s : St K V) (h : lo + 3 ≤ hi) :
    Run lo hi (2 * (hi - lo) + 3 + (if hi - lo > thrNinther then 12 else 3)) s (doPivot less lo hi s).2.2 ∧
    (lo ≤ (doPivot less lo hi s).1 ∧ (doPivot less lo hi s).1 < hi ∧
    lo ≤ (doPivot less lo hi s).2.1 ∧ (doPivot less lo hi s).2.1 ≤ hi) ∧
    (doPivot less lo hi s).1 ≤ (doPivot less lo hi s).2.1 := by
  unfold doPivot
  dsimp only
  have hlh : lo < hi := by omega
  obtain ⟨r1, p1, p2, p3, p4, p5⟩ := partitionPhase_run less lo hi s h
  generalize partitionPhase less lo hi s = p at *
  obtain ⟨r2, d1, d2, d3, d4⟩ := dupPhase_run less lo hi p.2.1 p.2.2.1 p.2.2.2 h (Nat.le_trans p1 p2) p3 p4 p5
  generalize dupPhase less lo hi p.2.1 p.2.2.1 p.2.2.2 = d at *
  generalize (if hi - lo > thrNinther then 12 else 3) = K at *
  split
  · obtain ⟨b1, b2, r3⟩ := protectLoop_run less lo hi lo p.1 d.1 d.2.2.2 ⟨Nat.le_refl _, hlh⟩ (by omega) (by omega)
    generalize protectLoop less lo p.1 d.1 d.2.2.2 = pr at *
    have hb : lo ≤ pr.2.1 - 1 ∧ pr.2.1 - 1 < hi ∧ pr.2.1 - 1 ≤ d.2.1 := by omega
    exact ⟨((r1.trans r2).trans (r3.trans (Run.swap _ ⟨Nat.le_refl _, hlh, hb.1, hb.2.1⟩))).le (by omega),
      ⟨hb.1, hb.2.1, by omega, d4⟩, hb.2.2⟩
  · dsimp only
    have hb : lo ≤ d.1 - 1 ∧ d.1 - 1 < hi ∧ d.1 - 1 ≤ d.2.1 := by omega
    exact ⟨((r1.trans r2).trans (Run.swap _ ⟨Nat.le_refl _, hlh, hb.1, hb.2.1⟩)).le (by omega),
      ⟨hb.1, hb.2.1, by omega, d4⟩, hb.2.2⟩

theorem gapPass_run (a b i : Nat) (s : St K V) (hi : a + 6 ≤ i) : Run a b (b - i) s (gapPass less b i s) := by
  fun_induction gapPass less b i s with
  | case1 i s h r s1 ih =>
    have hr1 : InR a b i (i - gapLess) := by rw [gapLess_eq]; unfold InR; omega
    have hr2 : InR a b i (i - gapSwap) := by rw [gapSwap_eq]; unfold InR; omega
    refine (Run.trans (n := 1) ?_ (ih (by omega))).le (by omega)
    split
    · exact (Run.note s r hr1).trans (Run.swap _ hr2)
    · exact Run.note s r hr1
  | case2 i s h => exact (Run.refl s).le (Nat.zero_le _)

theorem smallSort_run (a b : Nat) (s : St K V) : Run a b (b - a + tri (b - a)) s (smallSort less a b s) := by
  unfold smallSort
  split
  · exact ((gapPass_run less a b (a + gapInit) s (by rw [gapInit_eq]; omega)).trans
      (insertionSort_run less a b _ (by omega))).le (Nat.add_le_add_right (by omega) _)
  · exact (Run.refl s).le (Nat.zero_le _)

/-- `k` is the number of bits of `m`; `k ≤ m` makes the `+ 2·k` of `heapSort_cost` at most `2·m` -/
theorem exists_bits (m Λ : Nat) (hΛ : m < 2 ^ Λ) : ∃ k, m < 2 ^ k ∧ k ≤ Λ ∧ k ≤ m := by
  by_cases h : m = 0
  · exact ⟨0, by omega, Nat.zero_le _, Nat.zero_le _⟩
  · have h1 := Nat.log2_self_le h
    have h2 : m.log2 < 2 ^ m.log2 := Nat.lt_two_pow_self
    exact ⟨m.log2 + 1, Nat.lt_log2_self, (Nat.log2_lt h).2 hΛ, by omega⟩

theorem heapSort_cost' (a b Λ : Nat) (s : St K V) (hΛ : b - a < 2 ^ Λ) :
    cnt (heapSort less a b s) ≤ cnt s + (b - a) * (3 * Λ + 2) := by
  obtain ⟨k, h1, h2, h3⟩ := exists_bits (b - a) Λ hΛ
  have hc := heapSort_cost less a b k s h1
  generalize b - a = m at *
  have e1 : (3 * m + 2) * k = 3 * (m * k) + 2 * k := by
    rw [Nat.add_mul, Nat.mul_assoc]
  have e2 : m * (3 * Λ + 2) = 3 * (m * Λ) + 2 * m := by
    rw [Nat.mul_add, ← Nat.mul_assoc, Nat.mul_comm m 3, Nat.mul_assoc, Nat.mul_comm m 2]
  have e3 : m * k ≤ m * Λ := Nat.mul_le_mul_left _ h2
  omega

/-- 7 = 6 (insertion sort, `tri_le_small`) + 1 (the gap pass); `Y` stands for the other summands of `quickSort_run` -/
theorem smallSort_cost (a b Y : Nat) (s : St K V) (hm : b - a ≤ 12) :
    cnt (smallSort less a b s) ≤ cnt s + (b - a) * (Y + 7) := by
  have := (smallSort_run less a b s).count
  have := tri_le_small (b - a) hm
  rw [Nat.mul_add]; omega

/-- one round of quickSort_func on `m` elements: the partition (`3·m`), then the two sides (`l + r ≤ m` elements) -/
theorem cost_round {cs c0 c1 c2 l r m X Y : Nat} (h0 : c0 ≤ cs + 3 * m) (h1 : c1 ≤ c0 + l * X) (h2 : c2 ≤ c1 + r * X)
    (hm : l + r ≤ m) (hY : Y = X + 3) : c2 ≤ cs + m * Y := by
  have := Nat.mul_le_mul_right X hm
  rw [Nat.add_mul] at this
  rw [hY, Nat.mul_add, Nat.mul_comm m 3]
  omega

/-- per element: 3 for each round of doPivot_func (`cost_round`), `3Λ + 2` for heapSort_func at budget 0, 7 for the small sort -/
theorem quickSort_run (a b d : Nat) (s : St K V) :
    Steps a b s (quickSort less a b d s) ∧
    ∀ Λ, b - a < 2 ^ Λ → cnt (quickSort less a b d s) ≤ cnt s + (b - a) * (3 * d + 3 * Λ + 7) := by
  induction d generalizing a b s with
  | zero =>
    rw [quickSort]
    split
    · refine ⟨heapSort_steps less a b s (by omega), fun Λ hΛ => ?_⟩
      have := heapSort_cost' less a b Λ s hΛ
      have e : 3 * 0 + 3 * Λ + 7 = (3 * Λ + 2) + 5 := by omega
      rw [e, Nat.mul_add]
      omega
    · exact ⟨(smallSort_run less a b s).steps, fun Λ _ => smallSort_cost less a b _ s (by have := thrInsertion_le; omega)⟩
  | succ d ih =>
    rw [quickSort]
    split
    · rename_i hgt
      have hthr := thrInsertion_ge5
      have hnin := thrNinther_ge
      have hrun := doPivot_run less a b s (by omega)
      dsimp only
      generalize doPivot less a b s = pv at *
      obtain ⟨⟨st, hc1⟩, ⟨b1, b2, b3, b4⟩, hmid⟩ := hrun
      -- `2m + 3 + 3 ≤ 3m` as `m > thrInsertion ≥ 5`; `2m + 3 + 12 ≤ 3m` as `m > thrNinther ≥ 14`
      have hpiv : cnt pv.2.2 ≤ cnt s + 3 * (b - a) := by
        split at hc1 <;> omega
      have hm : pv.1 - a + (b - pv.2.1) ≤ b - a := by omega
      have hY : ∀ Λ, 3 * (d + 1) + 3 * Λ + 7 = 3 * d + 3 * Λ + 7 + 3 := fun Λ => by omega
      have hl : ∀ Λ, b - a < 2 ^ Λ → pv.1 - a < 2 ^ Λ := fun Λ hΛ =>
        Nat.lt_of_le_of_lt (Nat.le_trans (Nat.le_add_right _ _) hm) hΛ
      have hr : ∀ Λ, b - a < 2 ^ Λ → b - pv.2.1 < 2 ^ Λ := fun Λ hΛ =>
        Nat.lt_of_le_of_lt (Nat.le_trans (Nat.le_add_left _ _) hm) hΛ
      split
      · obtain ⟨s1, c1⟩ := ih a pv.1 pv.2.2
        obtain ⟨s2, c2⟩ := ih pv.2.1 b (quickSort less a pv.1 d pv.2.2)
        exact ⟨(st.trans (s1.mono (Nat.le_refl _) (Nat.le_of_lt b2))).trans (s2.mono b3 (Nat.le_refl _)),
          fun Λ hΛ => cost_round hpiv (c1 Λ (hl Λ hΛ)) (c2 Λ (hr Λ hΛ)) hm (hY Λ)⟩
      · obtain ⟨s1, c1⟩ := ih pv.2.1 b pv.2.2
        obtain ⟨s2, c2⟩ := ih a pv.1 (quickSort less pv.2.1 b d pv.2.2)
        exact ⟨(st.trans (s1.mono b3 (Nat.le_refl _))).trans (s2.mono (Nat.le_refl _) (Nat.le_of_lt b2)),
          fun Λ hΛ => cost_round hpiv (c1 Λ (hr Λ hΛ)) (c2 Λ (hl Λ hΛ)) (Nat.add_comm _ _ ▸ hm) (hY Λ)⟩
    · exact ⟨(smallSort_run less a b s).steps, fun Λ _ => smallSort_cost less a b _ s (by have := thrInsertion_le; omega)⟩

theorem quickSort_le_one (a b d : Nat) (s : St K V) (h : b - a ≤ 1) : quickSort less a b d s = s := by
  have h1 : ¬ b - a > thrInsertion := Nat.not_lt.2 (Nat.le_trans h (Nat.le_trans (by decide) thrInsertion_ge5))
  cases d <;> rw [quickSort, if_neg h1, smallSort, if_neg (Nat.not_lt.2 h)]

/-- the guard `length <= 1` of SliceBy only saves a call that would do nothing -/
theorem sliceBy_eq (keys : Array K) (vals : Array V) :
    sliceBy less keys vals =
      quickSort less 0 (min keys.size vals.size) (maxDepth (min keys.size vals.size)) ⟨keys, vals, []⟩ := by
  unfold sliceBy
  dsimp only
  split
  · next h => exact (quickSort_le_one less 0 _ _ _ h).symm
  · rfl

theorem sliceBy_steps (keys : Array K) (vals : Array V) :
    Steps 0 (min keys.size vals.size) ⟨keys, vals, []⟩ (sliceBy less keys vals) :=
  sliceBy_eq less keys vals ▸ (quickSort_run less 0 _ _ _).1

end Got.Lemmas.Sort
