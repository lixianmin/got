import Got.Lemmas.SortOrder
import Got.Lemmas.SortBounds
/-
doPivot_func with the standard less closure over a strict weak order: the post-condition of the three-way partition.
`p` is the pivot value; "x ≤ p" is written `lt p x = false`, "p ≤ x" is `lt x p = false`.
The main loop grows the two outer zones (`Sides`) until they meet.  From then on the zone of keys ≤ p and the zone of keys ≥ p
overlap (`Zones`), and the keys equivalent to p are those in the overlap.  Every later swap stays inside the part that only one
of them covers, which keeps both (`Zones.steps`), and then the other zone grows over a key whose class has just been learnt
(`Zones.ge_cons`, `Zones.le_snoc`).
-/
namespace Got.Lemmas.Sort
open Got.Model.Sort

variable {K V : Type} {lt : K → K → Bool}

theorem AllK.append {ks : Array K} {a b c : Nat} {P : K → Prop} (h1 : AllK ks a b P) (h2 : AllK ks b c P) :
    AllK ks a c P := by
  intro k x hk1 hk2 hx
  by_cases h : k < b
  · exact h1 k x hk1 h hx
  · exact h2 k x (by omega) hk2 hx

theorem AllK.empty {ks : Array K} {a b : Nat} {P : K → Prop} (h : b ≤ a) : AllK ks a b P := by
  intro k x hk1 hk2; omega

theorem AllK.of_eq {ks ks' : Array K} {a b : Nat} {P : K → Prop} (h : AllK ks a b P) (e : ks' = ks) : AllK ks' a b P := by
  subst e; exact h

theorem AllK.cons {ks : Array K} {a a' b : Nat} {P : K → Prop} (ha : a' = a + 1) (h : ∀ x, ks[a]? = some x → P x)
    (ht : AllK ks a' b P) : AllK ks a b P :=
  fun k x h1 h2 hx => if hk : k = a then by subst hk; exact h x hx else ht k x (by omega) h2 hx

theorem AllK.snoc {ks : Array K} {a b b' : Nat} {P : K → Prop} (hb : b' = b + 1) (ht : AllK ks a b P)
    (h : ∀ x, ks[b]? = some x → P x) : AllK ks a b' P :=
  fun k x h1 h2 hx => if hk : k = b then by subst hk; exact h x hx else ht k x h1 (by omega) hx

/-- `scanUpLt` serves the entry of the main loop and the protect loop, so it is stated on the bare keys; the other three scans
    serve one loop each and are stated on that loop's invariant -/
theorem scanUpLt_spec (pv c a : Nat) (s : St K V) (p : K) (hp : s.keys[pv]? = some p) :
    (scanUpLt (stdLess lt) pv c a s).2.keys = s.keys ∧
    AllK s.keys a (scanUpLt (stdLess lt) pv c a s).1 (fun x => lt x p = true) ∧
    ((scanUpLt (stdLess lt) pv c a s).1 < c → ∀ x, s.keys[(scanUpLt (stdLess lt) pv c a s).1]? = some x → lt x p = false) := by
  fun_induction scanUpLt (stdLess lt) pv c a s with
  | case1 a s h r s1 hr ih =>
    obtain ⟨k, z, e⟩ := ih hp
    exact ⟨k, AllK.cons rfl (fun x hx => (stdLess_eq lt hx hp).symm.trans hr) z, e⟩
  | case2 a s h r s1 hr =>
    exact ⟨rfl, AllK.empty (Nat.le_refl _), fun _ x hx => (stdLess_eq lt hx hp).symm.trans (by simpa using hr)⟩
  | case3 a s h => exact ⟨rfl, AllK.empty (Nat.le_refl _), fun h' => absurd h' h⟩

/-- the outer zones of doPivot inside the key slice: pivot at `lo`, `(lo,b)` ≤ p, `[c,hi)` ≥ p -/
structure Sides (lt : K → K → Bool) (ks : Array K) (lo hi b c : Nat) (p : K) : Prop where
  lob : lo < b
  bc : b ≤ c
  chi : c ≤ hi
  size : hi ≤ ks.size
  piv : ks[lo]? = some p
  left : AllK ks (lo + 1) b (fun x => lt p x = false)
  right : AllK ks c hi (fun x => lt x p = false)

theorem Sides.upScan {lo hi : Nat} {p : K} (c b : Nat) (s : St K V) (S : Sides lt s.keys lo hi b c p) :
    Sides lt (scanUpNotGt (stdLess lt) lo c b s).2.keys lo hi (scanUpNotGt (stdLess lt) lo c b s).1 c p ∧
    ((scanUpNotGt (stdLess lt) lo c b s).1 < c → ∀ x,
      (scanUpNotGt (stdLess lt) lo c b s).2.keys[(scanUpNotGt (stdLess lt) lo c b s).1]? = some x → lt p x = true) := by
  fun_induction scanUpNotGt (stdLess lt) lo c b s with
  | case1 b s h r s1 hr ih =>
    exact ih ⟨Nat.lt_succ_of_lt S.lob, h, S.chi, S.size, S.piv,
      S.left.snoc rfl fun x hx => (stdLess_eq lt S.piv hx).symm.trans (by simpa using hr), S.right⟩
  | case2 b s h r s1 hr => exact ⟨S, fun _ x hx => (stdLess_eq lt S.piv hx).symm.trans (by simpa using hr)⟩
  | case3 b s h => exact ⟨S, fun h' => absurd h' h⟩

theorem Sides.downScan (sw : StrictWeak lt) {lo hi : Nat} {p : K} (b c : Nat) (s : St K V) (S : Sides lt s.keys lo hi b c p) :
    (scanDownGt (stdLess lt) lo b c s).2.keys = s.keys ∧ (scanDownGt (stdLess lt) lo b c s).1 ≤ c ∧
    Sides lt (scanDownGt (stdLess lt) lo b c s).2.keys lo hi b (scanDownGt (stdLess lt) lo b c s).1 p ∧
    (b < (scanDownGt (stdLess lt) lo b c s).1 → ∀ x,
      (scanDownGt (stdLess lt) lo b c s).2.keys[(scanDownGt (stdLess lt) lo b c s).1 - 1]? = some x → lt p x = false) := by
  fun_induction scanDownGt (stdLess lt) lo b c s with
  | case1 s => exact ⟨rfl, Nat.le_refl _, S, fun h' => absurd h' (Nat.not_lt_zero _)⟩
  | case2 c s h r s1 hr ih =>
    obtain ⟨k, f, S', e⟩ := ih ⟨S.lob, Nat.le_of_lt_succ h, Nat.le_of_succ_le S.chi, S.size, S.piv, S.left,
      S.right.cons rfl fun x hx => sw.le_of_lt ((stdLess_eq lt S.piv hx).symm.trans hr)⟩
    exact ⟨k, Nat.le_succ_of_le f, S', e⟩
  | case3 c s h r s1 hr =>
    exact ⟨rfl, Nat.le_refl _, S, fun _ x hx => (stdLess_eq lt S.piv hx).symm.trans (by simpa using hr)⟩
  | case4 c s h => exact ⟨rfl, Nat.le_refl _, S, fun h' => absurd h' h⟩

/-- the zones of doPivot once the outer zones have met: `(lo,c)` ≤ p and `[b,hi)` ≥ p, so `[b,c)` is equivalent to p -/
structure Zones (lt : K → K → Bool) (ks : Array K) (lo hi b c : Nat) (p : K) : Prop where
  lob : lo < b
  bc : b ≤ c
  chi : c ≤ hi
  size : hi ≤ ks.size
  piv : ks[lo]? = some p
  le : AllK ks (lo + 1) c (fun x => lt p x = false)
  ge : AllK ks b hi (fun x => lt x p = false)

theorem Zones.steps {lo hi b c x y : Nat} {p : K} {s t : St K V} (Z : Zones lt s.keys lo hi b c p) (st : Steps x y s t)
    (h : lo < x ∧ y ≤ b ∨ c ≤ x ∧ y ≤ hi) : Zones lt t.keys lo hi b c p := by
  have hlb := Z.lob
  have hbc := Z.bc
  exact ⟨hlb, hbc, Z.chi, st.keys_size ▸ Z.size, (st.outside lo (Or.inl (by omega))).1.trans Z.piv,
    st.allK (by omega) Z.le, st.allK (by omega) Z.ge⟩

theorem Zones.ge_cons {lo hi b c : Nat} {p : K} {ks : Array K} (Z : Zones lt ks lo hi b c p) (hb : lo + 1 < b)
    (h : ∀ x, ks[b - 1]? = some x → lt x p = false) : Zones lt ks lo hi (b - 1) c p :=
  ⟨by omega, Nat.le_trans (Nat.sub_le _ _) Z.bc, Z.chi, Z.size, Z.piv, Z.le, Z.ge.cons (by omega) h⟩

theorem Zones.le_snoc {lo hi b c : Nat} {p : K} {ks : Array K} (Z : Zones lt ks lo hi b c p) (hc : c < hi)
    (h : ∀ x, ks[c]? = some x → lt p x = false) : Zones lt ks lo hi b (c + 1) p :=
  ⟨Z.lob, Nat.le_succ_of_le Z.bc, hc, Z.size, Z.piv, Z.le.snoc rfl h, Z.ge⟩

theorem partLoop_sem (sw : StrictWeak lt) (lo hi b c : Nat) (p : K) (s : St K V) (S : Sides lt s.keys lo hi b c p) :
    Zones lt (partLoop (stdLess lt) lo b c s).2.2.keys lo hi (partLoop (stdLess lt) lo b c s).1
      (partLoop (stdLess lt) lo b c s).2.1 p ∧
    (partLoop (stdLess lt) lo b c s).1 = (partLoop (stdLess lt) lo b c s).2.1 := by
  fun_induction partLoop (stdLess lt) lo b c s with
  | case1 b c s rb rc h =>
    obtain ⟨S1, -⟩ : Sides lt rb.2.keys lo hi rb.1 c p ∧ _ := S.upScan c b s
    obtain ⟨-, -, S2, -⟩ : _ ∧ _ ∧ Sides lt rc.2.keys lo hi rb.1 rc.1 p ∧ _ := S1.downScan sw rb.1 c rb.2
    exact ⟨⟨S2.lob, S2.bc, S2.chi, S2.size, S2.piv, S2.left.mono (Nat.le_refl _) h, S2.right.mono h (Nat.le_refl _)⟩,
      Nat.le_antisymm S2.bc h⟩
  | case2 b c s rb rc h ih =>
    obtain ⟨S1, e1⟩ : Sides lt rb.2.keys lo hi rb.1 c p ∧ (rb.1 < c → ∀ x, rb.2.keys[rb.1]? = some x → lt p x = true) :=
      S.upScan c b s
    obtain ⟨k2, f2, S2, e2⟩ : rc.2.keys = rb.2.keys ∧ rc.1 ≤ c ∧ Sides lt rc.2.keys lo hi rb.1 rc.1 p ∧
        (rb.1 < rc.1 → ∀ x, rc.2.keys[rc.1 - 1]? = some x → lt p x = false) := S1.downScan sw rb.1 c rb.2
    have hlt : rb.1 < rc.1 := Nat.lt_of_not_ge h
    have eb := k2 ▸ e1 (Nat.lt_of_lt_of_le hlt f2)
    have ec := e2 hlt
    obtain ⟨hlb, -, hch, hH, hp, Z1, Z2⟩ := S2
    have hu : rb.1 < rc.2.keys.size := by omega
    have hv : rc.1 - 1 < rc.2.keys.size := by omega
    -- the scans stopped at a key above the pivot and a key not above it: distinct places, between the zones, exchanged
    have hne : rb.1 ≠ rc.1 - 1 := fun e => by
      have h1 := eb _ (Array.getElem?_eq_getElem hu)
      rw [ec _ (e ▸ Array.getElem?_eq_getElem hu)] at h1
      cases h1
    have st := Steps.swap1 (a := rb.1) (b := rc.1) rc.2 rb.1 (rc.1 - 1) (by unfold InR; omega)
    exact ih ⟨by omega, by omega, by omega, st.keys_size ▸ hH, (st.outside lo (by omega)).1.trans hp,
      (st.allK (by omega) Z1).snoc rfl fun x hx => ec x (swap_getElem?_left hu hv ▸ hx),
      (st.allK (by omega) Z2).cons (by omega) fun x hx => sw.le_of_lt (eb x (swap_getElem?_right hu hv ▸ hx))⟩

theorem Zones.downScan {lo hi c : Nat} {p : K} (a b : Nat) (s : St K V) (hla : lo < a) (Z : Zones lt s.keys lo hi b c p) :
    Zones lt (scanDownNotLt (stdLess lt) lo a b s).2.keys lo hi (scanDownNotLt (stdLess lt) lo a b s).1 c p := by
  fun_induction scanDownNotLt (stdLess lt) lo a b s with
  | case1 s => exact Z
  | case2 b s h r s1 hr ih =>
    exact ih (Z.ge_cons (by omega) fun x hx => (stdLess_eq lt hx Z.piv).symm.trans (by simpa using hr))
  | case3 b s h r s1 hr => exact Z
  | case4 b s h => exact Z

/-- the protect loop moves the keys of the left zone that are equivalent to the pivot next to the middle zone, whose left
    boundary comes down over them -/
theorem protectLoop_sem (lo hi a b c : Nat) (p : K) (s : St K V) (hla : lo < a) (Z : Zones lt s.keys lo hi b c p) :
    Zones lt (protectLoop (stdLess lt) lo a b s).2.2.keys lo hi (protectLoop (stdLess lt) lo a b s).2.1 c p := by
  fun_induction protectLoop (stdLess lt) lo a b s with
  | case1 a b s rb ra h =>
    have Z1 : Zones lt rb.2.keys lo hi rb.1 c p := Z.downScan a b s hla
    have k2 : ra.2.keys = rb.2.keys := (scanUpLt_spec (lt := lt) lo rb.1 a rb.2 p Z1.piv).1
    exact k2 ▸ Z1
  | case2 a b s rb ra h ih =>
    have Z1 : Zones lt rb.2.keys lo hi rb.1 c p := Z.downScan a b s hla
    have f2 : a ≤ ra.1 := (scanUpLt_fst (stdLess lt) lo rb.1 a rb.2).1
    obtain ⟨k2, _, e2⟩ : ra.2.keys = rb.2.keys ∧ _ ∧ (ra.1 < rb.1 → ∀ x, rb.2.keys[ra.1]? = some x → lt x p = false) :=
      scanUpLt_spec (lt := lt) lo rb.1 a rb.2 p Z1.piv
    have hlt : ra.1 < rb.1 := Nat.lt_of_not_ge h
    have ea := e2 hlt
    rw [← k2] at ea Z1
    -- the exchange stays inside the left zone; it brings the key of `ra.1`, not below the pivot, to its end
    have hsz := Z1.size
    have hbc := Z1.bc
    have hc := Z1.chi
    have hu : ra.1 < ra.2.keys.size := by omega
    have hv : rb.1 - 1 < ra.2.keys.size := by omega
    have st := Steps.swap1 (a := lo + 1) (b := rb.1) ra.2 ra.1 (rb.1 - 1) (by unfold InR; omega)
    exact ih (by omega) ((Z1.steps st (Or.inl ⟨Nat.lt_succ_self _, Nat.le_refl _⟩)).ge_cons (by omega)
        fun x hx => ea x (swap_getElem?_right hu hv ▸ hx))

/-- `condSwap` leaves the keys alone or exchanges the two places, whatever `less` answers -/
theorem condSwap_kle (less : LessFn K V) {i j a b : Nat} {s : St K V} (hi : i < s.keys.size) (hj : j < s.keys.size)
    (h1 : KLe lt s.keys a b) (h2 : KLe lt s.keys (tr i j a) (tr i j b)) : KLe lt (condSwap less i j s).keys a b := by
  unfold condSwap
  dsimp only
  split
  · exact KLe.swap hi hj h2
  · exact h1

theorem condSwap_le (sw : StrictWeak lt) {i j : Nat} {s : St K V} (hi : i < s.keys.size) (hj : j < s.keys.size) :
    KLe lt (condSwap (stdLess lt) i j s).keys j i := by
  unfold condSwap
  dsimp only
  split
  · next h => exact KLe.swap hi hj (by rw [tr_left, tr_right]; exact KLe.of_stdLess sw h)
  · next h => exact KLe.of_stdLess_false (s := s) (by simpa using h)

/-- at `lo`, `m`, `hi - 1` (`choosePivot_sem`) this makes the key at `hi - 1` the first of the right zone -/
theorem medianOfThree_sem (sw : StrictWeak lt) (m1 m0 m2 : Nat) (s : St K V)
    (h10 : m1 ≠ m0) (h12 : m1 ≠ m2) (h02 : m0 ≠ m2)
    (hs1 : m1 < s.keys.size) (hs0 : m0 < s.keys.size) (hs2 : m2 < s.keys.size) :
    KLe lt (medianOfThree (stdLess lt) m1 m0 m2 s).keys m1 m2 := by
  have hle := condSwap_le sw (s := s) hs1 hs0
  have hsz := (condSwap_run (stdLess lt) 0 s.keys.size m1 m0 s ⟨Nat.zero_le _, hs1, Nat.zero_le _, hs0⟩).steps.keys_size
  unfold medianOfThree
  dsimp only
  generalize condSwap (stdLess lt) m1 m0 s = s1 at *
  have hu : m2 < s1.keys.size := by omega
  have hv : m1 < s1.keys.size := by omega
  split
  · next h =>
    -- after the exchange `m1` is below `m2` and `m0` is not above `m2`; the last `condSwap` puts one of the two at `m1`
    refine condSwap_kle _ (by simpa using hv) (by simpa using (by omega : m0 < s1.keys.size)) (KLe.swap hu hv ?_) ?_
    · rw [tr_right, tr_left]; exact KLe.of_stdLess sw h
    · rw [tr_left, tr_of_ne (Ne.symm h12) (Ne.symm h02)]
      refine KLe.swap hu hv ?_
      rw [tr_of_ne h02 (Ne.symm h10), tr_left]; exact hle
  · next h => exact KLe.of_stdLess_false (s := s1) (by simpa using h)

theorem choosePivot_sem (sw : StrictWeak lt) (lo hi : Nat) (s : St K V) (h : lo + 3 ≤ hi) (hsz : hi ≤ s.keys.size) :
    KLe lt (choosePivot (stdLess lt) lo hi s).keys lo (hi - 1) := by
  have hsz0 := (ninther_run (stdLess lt) lo hi s h).steps.keys_size
  rw [choosePivot_eq]
  exact medianOfThree_sem sw lo ((lo + hi) / 2) (hi - 1) _ (by omega) (by omega) (by omega)
    (by omega) (by omega) (by omega)

theorem partitionPhase_sem (sw : StrictWeak lt) (lo hi : Nat) (s : St K V) (h : lo + 3 ≤ hi) (hsz : hi ≤ s.keys.size) :
    ∃ p, Zones lt (partitionPhase (stdLess lt) lo hi s).2.2.2.keys lo hi (partitionPhase (stdLess lt) lo hi s).2.1
      (partitionPhase (stdLess lt) lo hi s).2.2.1 p ∧
      (partitionPhase (stdLess lt) lo hi s).2.1 = (partitionPhase (stdLess lt) lo hi s).2.2.1 := by
  unfold partitionPhase
  dsimp only
  have hcp := choosePivot_sem sw lo hi s h hsz
  have hsz1 := (choosePivot_run (stdLess lt) lo hi s h).steps.keys_size
  generalize choosePivot (stdLess lt) lo hi s = s1 at *
  obtain ⟨p, hp⟩ := getElem?_some_of_lt s1.keys lo (by omega)
  have f1 := scanUpLt_fst (stdLess lt) lo (hi - 1) (lo + 1) s1
  obtain ⟨k1, z1, _⟩ := scanUpLt_spec (lt := lt) lo (hi - 1) (lo + 1) s1 p hp
  generalize scanUpLt (stdLess lt) lo (hi - 1) (lo + 1) s1 = ra at *
  rw [← k1] at hp hcp z1 hsz1
  -- the zones at loop entry: what the first scan passed on the left, the one key at `hi - 1` on the right
  exact ⟨p, partLoop_sem sw lo hi ra.1 (hi - 1) p ra.2 ⟨by omega, by omega, Nat.sub_le _ _, by omega, hp,
    z1.imp (fun x hx => sw.le_of_lt hx),
    AllK.cons (a' := hi) (by omega) (fun x hx => hcp p x hp hx) (AllK.empty (Nat.le_refl _))⟩⟩

theorem dupProbe1_sem (lo hi b c : Nat) (p : K) (s : St K V) (hc : c + 1 < hi) (Z : Zones lt s.keys lo hi b c p) :
    Zones lt (dupProbe1 (stdLess lt) lo hi c s).2.2.keys lo hi b (dupProbe1 (stdLess lt) lo hi c s).1 p := by
  have hsz := Z.size
  obtain ⟨y, hy⟩ := getElem?_some_of_lt s.keys (hi - 1) (by omega)
  unfold dupProbe1
  dsimp only
  rw [stdLess_eq lt Z.piv hy]
  cases hr : lt p y with
  | true => simp only [Bool.not_true, Bool.false_eq_true, if_false]; exact Z
  | false =>
    simp only [Bool.not_false, if_true]
    -- the exchange stays inside the right zone; it brings the key of `hi - 1`, not above the pivot, to `c`
    have st := Steps.swap1 (a := c) (b := hi) (s.note lo (hi - 1) false) c (hi - 1) (by unfold InR; omega)
    have hc' : c < s.keys.size := by omega
    have hh : hi - 1 < s.keys.size := by omega
    refine (Zones.steps (s := s.note lo (hi - 1) false) Z st (Or.inr ⟨Nat.le_refl _, Nat.le_refl _⟩)).le_snoc
      (by omega) fun x hx => ?_
    rw [swap_getElem?_left (s := s.note lo (hi - 1) false) hc' hh] at hx
    obtain rfl := Option.some.inj (hy.symm.trans hx); exact hr

theorem dupProbe2_sem (lo hi b c dups : Nat) (p : K) (s : St K V) (hlb : lo + 1 < b)
    (Z : Zones lt s.keys lo hi b c p) :
    Zones lt (dupProbe2 (stdLess lt) lo b dups s).2.2.keys lo hi (dupProbe2 (stdLess lt) lo b dups s).1 c p := by
  unfold dupProbe2
  dsimp only
  cases hr : stdLess lt s (b - 1) lo with
  | true => exact Z
  | false => exact Z.ge_cons hlb fun x hx => (stdLess_eq lt hx Z.piv).symm.trans hr

theorem dupProbe3_sem (lo hi m b c dups : Nat) (p : K) (s : St K V) (hlb : lo + 1 < b) (hm : lo < m ∧ m < b)
    (Z : Zones lt s.keys lo hi b c p) :
    Zones lt (dupProbe3 (stdLess lt) lo m b dups s).2.2.keys lo hi (dupProbe3 (stdLess lt) lo m b dups s).1 c p := by
  unfold dupProbe3
  dsimp only
  cases hr : stdLess lt s m lo with
  | true => exact Z
  | false =>
    -- the exchange stays inside the left zone; it brings the key of `m`, not below the pivot, to `b - 1`
    have st := Steps.swap1 (a := lo + 1) (b := b) (s.note m lo false) m (b - 1) (by unfold InR; omega)
    have hb' : b ≤ s.keys.size := Nat.le_trans Z.bc (Nat.le_trans Z.chi Z.size)
    have hm' : m < s.keys.size := by omega
    have hb1 : b - 1 < s.keys.size := by omega
    refine (Zones.steps (s := s.note m lo false) Z st (Or.inl ⟨Nat.lt_succ_self _, Nat.le_refl _⟩)).ge_cons hlb
      fun x hx => ?_
    rw [swap_getElem?_right (s := s.note m lo false) hm' hb1] at hx
    exact (stdLess_eq lt hx Z.piv).symm.trans hr

theorem dupProbe_sem (lo hi m b c : Nat) (p : K) (s : St K V) (hlb : lo + 2 < b) (hm : lo < m ∧ m + 1 < b)
    (hc : c + 1 < hi) (Z : Zones lt s.keys lo hi b c p) :
    Zones lt (dupProbe (stdLess lt) lo hi m b c s).2.2.2.keys lo hi (dupProbe (stdLess lt) lo hi m b c s).1
      (dupProbe (stdLess lt) lo hi m b c s).2.1 p := by
  unfold dupProbe
  dsimp only
  have hbc := Z.bc
  have z1 := dupProbe1_sem lo hi b c p s hc Z
  generalize dupProbe1 (stdLess lt) lo hi c s = p1 at *
  have z2 := dupProbe2_sem lo hi b p1.1 p1.2.1 p p1.2.2 (by omega) z1
  have b2 := dupProbe2_spec (stdLess lt) lo hi lo b p1.2.1 p1.2.2 ⟨Nat.le_refl _, by omega⟩ ⟨by omega, by omega⟩
  generalize dupProbe2 (stdLess lt) lo b p1.2.1 p1.2.2 = p2 at *
  exact dupProbe3_sem lo hi m p2.1 p1.1 p2.2.1 p p2.2.2 (by omega) (by omega) z2

/-- the probes run where the right zone `[c,hi)` is short; with `b = c` the left zone then reaches beyond `m = (lo+hi)/2`, so
    the places the probes touch on the left, `m`, `b - 1`, `b - 2`, lie inside it -/
theorem dupPhase_sem (lo hi b c : Nat) (p : K) (s : St K V) (hbc : b = c) (Z : Zones lt s.keys lo hi b c p) :
    Zones lt (dupPhase (stdLess lt) lo hi b c s).2.2.2.keys lo hi (dupPhase (stdLess lt) lo hi b c s).1
      (dupPhase (stdLess lt) lo hi b c s).2.1 p := by
  unfold dupPhase
  dsimp only
  split
  · rename_i hcond
    simp only [Bool.and_eq_true, Bool.not_eq_eq_eq_not, Bool.not_true, decide_eq_false_iff_not, decide_eq_true_eq,
      thrProtect_eq, divDups_eq] at hcond
    dsimp only
    have := Z.lob
    have hx : lo + 2 < b ∧ (lo < (lo + hi) / 2 ∧ (lo + hi) / 2 + 1 < b) ∧ c + 1 < hi := by omega
    exact dupProbe_sem lo hi ((lo + hi) / 2) b c p s hx.1 hx.2.1 hx.2.2 Z
  · exact Z

/-- the last step of doPivot_func, `data.Swap(pivot, b-1)` -/
theorem pivotSwap_sem (sw : StrictWeak lt) {lo hi b c : Nat} {p : K} {t : St K V} (Z : Zones lt t.keys lo hi b c p) :
    (t.swap lo (b - 1)).keys[b - 1]? = some p ∧
    AllK (t.swap lo (b - 1)).keys lo c (fun x => lt p x = false) ∧
    AllK (t.swap lo (b - 1)).keys (b - 1) hi (fun x => lt x p = false) ∧ b - 1 < c := by
  have hb := Z.lob
  have hbc := Z.bc
  have hb' : b ≤ t.keys.size := Nat.le_trans hbc (Nat.le_trans Z.chi Z.size)
  -- the pivot's place counts as part of the zone ≤ p; the exchange stays below `b` and brings the pivot to the place under the zone ≥ p
  have st := Steps.swap1 (a := lo) (b := b) t lo (b - 1) (by unfold InR; omega)
  have hp : (t.swap lo (b - 1)).keys[b - 1]? = some p := (swap_getElem?_right (by omega) (by omega)).trans Z.piv
  have hl : AllK t.keys lo c (fun x => lt p x = false) :=
    Z.le.cons rfl fun x hx => by obtain rfl := Option.some.inj (Z.piv.symm.trans hx); exact sw.irrefl _
  refine ⟨hp, st.allK (by omega) hl, (st.allK (by omega) Z.ge).cons (by omega) fun x hx => ?_, by omega⟩
  obtain rfl := Option.some.inj (hp.symm.trans hx); exact sw.irrefl _

/-- of the returned `(midlo, midhi)`, `[lo,midhi)` is ≤ p and `[midlo,hi)` is ≥ p; where they overlap (the pivot is at `midlo`)
    the keys are equivalent to p -/
theorem doPivot_sem (sw : StrictWeak lt) (lo hi : Nat) (s : St K V) (h : lo + 3 ≤ hi) (hsz : hi ≤ s.keys.size) :
    ∃ p, (doPivot (stdLess lt) lo hi s).2.2.keys[(doPivot (stdLess lt) lo hi s).1]? = some p ∧
      AllK (doPivot (stdLess lt) lo hi s).2.2.keys lo (doPivot (stdLess lt) lo hi s).2.1 (fun x => lt p x = false) ∧
      AllK (doPivot (stdLess lt) lo hi s).2.2.keys (doPivot (stdLess lt) lo hi s).1 hi (fun x => lt x p = false) ∧
      (doPivot (stdLess lt) lo hi s).1 < (doPivot (stdLess lt) lo hi s).2.1 := by
  unfold doPivot
  dsimp only
  have ha : lo < (partitionPhase (stdLess lt) lo hi s).1 := (partitionPhase_run (stdLess lt) lo hi s h).2.1
  obtain ⟨p, zp, hbc⟩ := partitionPhase_sem sw lo hi s h hsz
  generalize partitionPhase (stdLess lt) lo hi s = pp at *
  have zd := dupPhase_sem lo hi pp.2.1 pp.2.2.1 p pp.2.2.2 hbc zp
  generalize dupPhase (stdLess lt) lo hi pp.2.1 pp.2.2.1 pp.2.2.2 = d at *
  split
  · exact ⟨p, pivotSwap_sem sw (protectLoop_sem lo hi pp.1 d.1 d.2.1 p d.2.2.2 ha zd)⟩
  · exact ⟨p, pivotSwap_sem sw zd⟩

end Got.Lemmas.Sort
