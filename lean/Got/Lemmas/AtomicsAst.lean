import Got.Model.AtomicsGen
import Got.Lemmas.Atomics
import Got.Lemmas.AtomicIRSem
/-
Translator tie for loom.Flag.AddFlag/RemoveFlag and loom.AddIf64 (C17): the LTS that the AtomicIR semantics gives to the
programs regenerated from the source takes exactly the steps of the hand-written models `stepF` / `stepA` of
Got/Model/Atomics.lean, under the mappings `confF` / `confA` from the hand-written program counters to IR configurations.
In `RelA g s aux`, `aux t` supplies AddIf64's function-scope locals `expect`, `update` while they are dead (thread parked
before the load).
-/
namespace Got.Lemmas.AtomicsAst
open Got.Model.AtomicIR Got.Generated.AstLoomAtomics Got.Model.AtomicsGen
open Got.Lemmas.Atomics (upd_other)
open Got.Model.Atomics (W64 FOp FPc FSt FAct stepF runF initF APc ASt AAct stepA runA initA)

def loopOf : List Stmt → List Stmt
  | [.loop b] => b
  | [_, _, .loop b] => b
  | _ => []

def ctl (l : List Stmt) (k : List Item) : List Item := l.map .stmt ++ k

def addB : List Stmt := loopOf addFlag.body
def remB : List Stmt := loopOf removeFlag.body
def aiB : List Stmt := loopOf addIf64.body

/- The control parts of `confF` / `confA` are read off the generated bodies and must be re-read when these change:
   `b.drop i` = the statements from the one in front of which the thread parks (`drop 2`, `drop 3`: the CAS); `.pop k` is
   the item that `AtomicIR.enter` puts behind the loop body, `k` = the number of locals at loop entry (1: the parameter;
   3 in AddIf64: the parameter, `expect`, `update`). -/
def confF : FPc → Config
  | .idle => .idle
  | .load (.add f) => .run (ctl addB [.pop 1, .loopEnd addB]) [.i64 f] [.i64 f]
  | .load (.remove f) => .run (ctl remB [.pop 1, .loopEnd remB]) [.i64 f] [.i64 f]
  | .cas (.add f) last => .run (ctl (addB.drop 2) [.pop 1, .loopEnd addB]) [.i64 f, .i64 last, .i64 (last ||| f)] [.i64 f]
  | .cas (.remove f) last =>
    .run (ctl (remB.drop 2) [.pop 1, .loopEnd remB]) [.i64 f, .i64 last, .i64 (last &&& ~~~f)] [.i64 f]

structure RelF (g : GState) (s : FSt) : Prop where
  cell : g.mem.cell = s.val
  conf : ∀ t, g.conf t = confF (s.pc t)

/-- the hand-written action that a client action of the generated LTS corresponds to in state `s` -/
def toF (s : FSt) : CAct FOp → FAct
  | .invoke t op => .invoke t op
  | .tau t =>
    match s.pc t with
    | .cas _ _ => .cas t
    | _ => .load t

theorem relF_apply (g : GState) (s s' : FSt) (t : Nat) (hs : List (Nat × Ev)) (o : Out) (h : RelF g s)
    (ho : o.mem.cell = s'.val ∧ o.conf = confF (s'.pc t) ∧ s'.pc = Got.Model.Atomics.upd s.pc t (s'.pc t)) :
    RelF (GState.apply { g with hist := hs } t o) s' :=
  ⟨ho.1, apply_conf g t hs o h.conf (fun u hu => by rw [ho.2.2, upd_other hu]) ho.2.1⟩

theorem confF_idle_iff (p : FPc) : confF p = .idle ↔ p = .idle := by
  cases p with
  | idle => simp [confF]
  | load op => cases op <;> simp [confF]
  | cas op last => cases op <;> simp [confF]

attribute [local simp] confF ctl addB remB aiB addFlag removeFlag addIf64 loopOf stepF stepA toF startThread
  FOp.apply predOf

theorem simF (g : GState) (s : FSt) (a : CAct FOp) (h : RelF g s) : RelF (flagStep g a) (stepF s (toF s a)) := by
  have hc := h.cell
  cases a with
  | invoke t op =>
    have ht := h.conf t
    by_cases hp : s.pc t = .idle
    · rw [hp] at ht
      cases op
      all_goals
        show RelF (step flagProg noPred g (.inv t _ _)) _
        rw [step_inv_idle noPred _ flagProg g t ht rfl rfl]
        exact relF_apply g s _ t _ _ h (by simp [ir_sem, hp, hc])
    · have e : flagStep g (.invoke t op) = g := by
        cases op <;> exact step_inv_busy noPred _ flagProg g t _ (by rw [ht]; exact mt (confF_idle_iff _).1 hp)
      have e2 : stepF s (toF s (.invoke t op)) = s := by simp only [toF, stepF]
      rw [e, e2]; exact h
  | tau t =>
    have ht := h.conf t
    show RelF (step flagProg noPred g (.tau t)) _
    cases hp : s.pc t with
    | idle =>
      rw [hp] at ht
      have e2 : stepF s (toF s (.tau t)) = s := by simp [hp]
      rw [step_tau_halted noPred flagProg g t (by rw [ht]; rfl), e2]; exact h
    | load op =>
      cases op
      all_goals
        rw [step_tau_run noPred flagProg g t (by rw [ht, hp, confF])]
        exact relF_apply g s _ t g.hist _ h (by simp [ir_sem, hp, hc])
    | cas op last =>
      cases op
      all_goals
        rw [step_tau_run noPred flagProg g t (by rw [ht, hp, confF])]
        by_cases hv : s.val = last <;> exact relF_apply g s _ t g.hist _ h (by simp [ir_sem, hp, hc, hv])

theorem flagInit_rel (v0 : W64) : RelF (flagInit v0) (initF v0) := ⟨rfl, fun _ => rfl⟩

/-- every run of the generated Flag LTS is, action for action, a run of the hand-written model -/
theorem flagRun_rel (v0 : W64) (acts : List (CAct FOp)) :
    ∃ facts : List FAct, facts.length = acts.length ∧ RelF (flagRun v0 acts) (runF (initF v0) facts) :=
  ⟨_, Got.Lemmas.Lts.length_answers stepF toF _ acts, Got.Lemmas.Lts.foldl_sim (R := RelF) toF simF acts (flagInit_rel v0)⟩

def confA (x : W64 × W64) : APc → Config
  | .idle => .idle
  | .load d => .run (ctl aiB [.pop 3, .loopEnd aiB]) [.i64 d, .i64 x.1, .i64 x.2] [.i64 d]
  | .cas d e => .run (ctl (aiB.drop 3) [.pop 3, .loopEnd aiB]) [.i64 d, .i64 e, .i64 (e + d)] [.i64 d]

structure RelA (g : GState) (s : ASt) (aux : Nat → W64 × W64) : Prop where
  cell : g.mem.cell = s.val
  conf : ∀ t, g.conf t = confA (aux t) (s.pc t)

def toA (s : ASt) : CAct W64 → AAct
  | .invoke t d => .invoke t d
  | .tau t =>
    match s.pc t with
    | .cas _ _ => .cas t
    | _ => .load t

/-- the dead locals after a step: `(0, 0)` at the invocation (`var expect, update int64`), the stale pair after a
    failed CAS -/
def auxA (s : ASt) (aux : Nat → W64 × W64) : CAct W64 → Nat → W64 × W64
  | .invoke t _ => if s.pc t = .idle then Got.Model.Atomics.upd aux t (0, 0) else aux
  | .tau t =>
    match s.pc t with
    | .cas d e => Got.Model.Atomics.upd aux t (e, e + d)
    | _ => aux

theorem relA_apply (g : GState) (s s' : ASt) (aux aux' : Nat → W64 × W64) (t : Nat) (hs : List (Nat × Ev)) (o : Out)
    (h : RelA g s aux) (haux : ∀ u, u ≠ t → aux' u = aux u)
    (ho : o.mem.cell = s'.val ∧ o.conf = confA (aux' t) (s'.pc t) ∧
      s'.pc = Got.Model.Atomics.upd s.pc t (s'.pc t)) :
    RelA (GState.apply { g with hist := hs } t o) s' aux' :=
  ⟨ho.1, apply_conf g t hs o h.conf (fun u hu => by rw [ho.2.2, upd_other hu, haux u hu]) ho.2.1⟩

theorem confA_idle_iff (x : W64 × W64) (p : APc) : confA x p = .idle ↔ p = .idle := by
  cases p <;> simp [confA]

attribute [local simp] confA toA

theorem simA (pred : W64 → W64 → Bool) (g : GState) (s : ASt) (aux : Nat → W64 × W64) (a : CAct W64)
    (h : RelA g s aux) : RelA (addIfStep pred g a) (stepA pred s (toA s a)) (auxA s aux a) := by
  have hc := h.cell
  have fresh : ∀ t x u, u ≠ t → Got.Model.Atomics.upd aux t x u = aux u := fun _ _ u hu => upd_other hu
  cases a with
  | invoke t d =>
    have ht := h.conf t
    show RelA (step addIfProg (predOf pred) g (.inv t 0 [.i64 d])) _ _
    by_cases hp : s.pc t = .idle
    · rw [hp] at ht
      rw [step_inv_idle (predOf pred) _ addIfProg g t ht rfl rfl]
      simp only [auxA, hp, if_true]
      exact relA_apply g s _ aux _ t _ _ h (fresh t _) (by simp [ir_sem, hp, hc])
    · have e2 : stepA pred s (toA s (.invoke t d)) = s := by simp only [toA, stepA]
      rw [step_inv_busy (predOf pred) _ addIfProg g t _ (by rw [ht]; exact mt (confA_idle_iff _ _).1 hp), e2]
      simp only [auxA, hp, if_false]; exact h
  | tau t =>
    have ht := h.conf t
    show RelA (step addIfProg (predOf pred) g (.tau t)) _ _
    cases hp : s.pc t with
    | idle =>
      rw [hp] at ht
      have e2 : stepA pred s (toA s (.tau t)) = s := by simp [hp]
      rw [step_tau_halted (predOf pred) addIfProg g t (by rw [ht]; rfl), e2]; simp only [auxA, hp]; exact h
    | load d =>
      rw [step_tau_run (predOf pred) addIfProg g t (by rw [ht, hp, confA])]
      simp only [auxA, hp]
      by_cases hq : pred d s.val = true <;>
        exact relA_apply g s _ aux aux t g.hist _ h (fun _ _ => rfl) (by simp [ir_sem, hp, hc, hq])
    | cas d e' =>
      rw [step_tau_run (predOf pred) addIfProg g t (by rw [ht, hp, confA])]
      simp only [auxA, hp]
      by_cases hv : s.val = e' <;> exact relA_apply g s _ aux _ t g.hist _ h (fresh t _) (by simp [ir_sem, hp, hc, hv])

theorem addIfInit_rel (v0 : W64) : RelA (addIfInit v0) (initA v0) (fun _ => (0, 0)) := ⟨rfl, fun _ => rfl⟩

theorem addIfRun_rel (pred : W64 → W64 → Bool) (v0 : W64) (acts : List (CAct W64)) :
    ∃ (aacts : List AAct) (aux : Nat → W64 × W64), RelA (addIfRun pred v0 acts) (runA pred (initA v0) aacts) aux :=
  ⟨_, Got.Lemmas.Lts.foldl_sim (R := fun g s => ∃ aux, RelA g s aux) toA
    (fun g s a ⟨aux, h⟩ => ⟨_, simA pred g s aux a h⟩) acts ⟨_, addIfInit_rel v0⟩⟩

end Got.Lemmas.AtomicsAst
