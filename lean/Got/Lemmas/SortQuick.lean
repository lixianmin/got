import Got.Lemmas.SortPivot
import Got.Lemmas.SortInsertion
import Got.Lemmas.SortHeap
namespace Got.Lemmas.Sort
open Got.Model.Sort

variable {K V : Type} {lt : K → K → Bool}

theorem sorted_of_zones (sw : StrictWeak lt) (ks : Array K) (a mlo mhi b : Nat) (p : K)
    (h1 : AllK ks a mhi (fun x => lt p x = false)) (h2 : AllK ks mlo b (fun x => lt x p = false))
    (s1 : SortedOn lt ks a mlo) (s2 : SortedOn lt ks mhi b) : SortedOn lt ks a b := by
  intro i j x y hi hij hj hx hy
  by_cases c1 : j < mlo
  · exact s1 i j x y hi hij c1 hx hy
  · by_cases c2 : mhi ≤ i
    · exact s2 i j x y c2 hij hj hx hy
    · -- x ≤ p ≤ y
      exact sw.le_trans (h1 i x hi (Nat.lt_of_not_le c2) hx) (h2 j y (Nat.le_of_not_lt c1) hj hy)

theorem quickSort_sorted (sw : StrictWeak lt) (d a b : Nat) (s : St K V) (hb : b ≤ s.keys.size) :
    SortedOn lt (quickSort (stdLess lt) a b d s).keys a b := by
  induction d generalizing a b s with
  | zero =>
    rw [quickSort]
    split
    · exact heapSort_sorted sw a b s (by omega) hb
    · exact smallSort_sorted sw a b s hb
  | succ d ih =>
    rw [quickSort]
    split
    · rename_i hgt
      have hthr := thrInsertion_ge5
      have hst := doPivot_run (stdLess lt) a b s (by omega)
      obtain ⟨p, _, z1, z2, hlt⟩ := doPivot_sem sw a b s (by omega) hb
      dsimp only
      generalize doPivot (stdLess lt) a b s = pv at *
      obtain ⟨⟨st, -⟩, ⟨b1, b2, b3, b4⟩, -⟩ := hst
      have hsz := st.keys_size
      split
      · -- left part first; each call is `Steps` inside its zone: the zone facts (`Steps.allK`) and the part sorted first survive it
        have stL := (quickSort_run (stdLess lt) a pv.1 d pv.2.2).1
        have sL := ih a pv.1 pv.2.2 (by omega)
        generalize quickSort (stdLess lt) a pv.1 d pv.2.2 = t1 at *
        have hsz1 := stL.keys_size
        have stR := (quickSort_run (stdLess lt) pv.2.1 b d t1).1
        have sR := ih pv.2.1 b t1 (by omega)
        generalize quickSort (stdLess lt) pv.2.1 b d t1 = t2 at *
        refine sorted_of_zones sw t2.keys a pv.1 pv.2.1 b p ?_ ?_ ?_ sR
        · exact stR.allK (Or.inr (Or.inl (Nat.le_refl _))) (stL.allK (Or.inl ⟨Nat.le_refl _, Nat.le_of_lt hlt⟩) z1)
        · exact stR.allK (Or.inl ⟨Nat.le_of_lt hlt, Nat.le_refl _⟩) (stL.allK (Or.inr (Or.inr (Nat.le_refl _))) z2)
        · exact stR.sortedOn_disjoint (Or.inl (Nat.le_of_lt hlt)) sL
      · -- right part first
        have stR := (quickSort_run (stdLess lt) pv.2.1 b d pv.2.2).1
        have sR := ih pv.2.1 b pv.2.2 (by omega)
        generalize quickSort (stdLess lt) pv.2.1 b d pv.2.2 = t1 at *
        have hsz1 := stR.keys_size
        have stL := (quickSort_run (stdLess lt) a pv.1 d t1).1
        have sL := ih a pv.1 t1 (by omega)
        generalize quickSort (stdLess lt) a pv.1 d t1 = t2 at *
        refine sorted_of_zones sw t2.keys a pv.1 pv.2.1 b p ?_ ?_ sL ?_
        · exact stL.allK (Or.inl ⟨Nat.le_refl _, Nat.le_of_lt hlt⟩) (stR.allK (Or.inr (Or.inl (Nat.le_refl _))) z1)
        · exact stL.allK (Or.inr (Or.inr (Nat.le_refl _))) (stR.allK (Or.inl ⟨Nat.le_of_lt hlt, Nat.le_refl _⟩) z2)
        · exact stL.sortedOn_disjoint (Or.inr (Nat.le_of_lt hlt)) sR
    · exact smallSort_sorted sw a b s hb

theorem quickSortLevels_spec (less : LessFn K V) (d a b : Nat) (s : St K V) :
    (quickSortLevels less a b d s).1 = quickSort less a b d s ∧ (quickSortLevels less a b d s).2 ≤ d := by
  induction d generalizing a b s with
  | zero =>
    rw [quickSortLevels, quickSort]
    exact ⟨rfl, Nat.le_refl _⟩
  | succ d ih =>
    rw [quickSortLevels, quickSort]
    split
    · dsimp only
      split
      · have h1 := ih a (doPivot less a b s).1 (doPivot less a b s).2.2
        have h2 := ih (doPivot less a b s).2.1 b (quickSortLevels less a (doPivot less a b s).1 d (doPivot less a b s).2.2).1
        refine ⟨by rw [h2.1, h1.1], ?_⟩
        dsimp only
        omega
      · have h1 := ih (doPivot less a b s).2.1 b (doPivot less a b s).2.2
        have h2 := ih a (doPivot less a b s).1 (quickSortLevels less (doPivot less a b s).2.1 b d (doPivot less a b s).2.2).1
        refine ⟨by rw [h2.1, h1.1], ?_⟩
        dsimp only
        omega
    · exact ⟨rfl, Nat.zero_le _⟩

theorem maxDepthLoop_eq (i d : Nat) : maxDepthLoop i d = if i = 0 then d else d + i.log2 + 1 := by
  fun_induction maxDepthLoop i d with
  | case1 i d h ih =>
    rw [Nat.shiftRight_eq_div_pow, Nat.pow_one] at ih ⊢
    rw [ih, if_neg (c := i = 0) (Nat.ne_of_gt h), Nat.log2_def i]
    split <;> split <;> omega
  | case2 i d h => rw [if_pos (Nat.eq_zero_of_not_pos h)]

/-- `maxDepth n = 2·⌈lg(n+1)⌉` -/
theorem maxDepth_spec (n : Nat) :
    ∃ k, maxDepth n = 2 * k ∧ n + 1 ≤ 2 ^ k ∧ ∀ k', n + 1 ≤ 2 ^ k' → k ≤ k' := by
  refine ⟨maxDepthLoop n 0, by unfold maxDepth; omega, ?_⟩
  rw [maxDepthLoop_eq]
  split
  · next h => subst h; exact ⟨Nat.le_refl _, fun _ _ => Nat.zero_le _⟩
  · next h =>
    rw [Nat.zero_add]
    exact ⟨Nat.lt_log2_self, fun k' hk' => (Nat.log2_lt h).2 hk'⟩

end Got.Lemmas.Sort
