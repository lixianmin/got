import Got.Lemmas.AntsEnabled
/- ants model: the timing bound under maximal progress (C08_bound_partial) -/
namespace Got.Model.Ants

/-- the dispatcher is inside `run` and outside `runTaskOnce` -/
def TPc.between : TPc → Bool
  | .loopTest | .onError | .wgDone => true
  | _ => false

/-- timing invariant of one task at clock value `now`, `pickAt + att * T` being the budget of the attempts begun. The current
    deadline is within it (`dlc`); while the attempt lasts the clock has not passed that deadline (`inAtt`, kept by `time_advance`),
    so between attempts the clock is within the budget (`loop`), and a deadline set then, at most `T` later (`ctxDeadline_bounds`),
    is within the budget of one attempt more -/
structure TimeOK (now : Nat) (t : Task) : Prop where
  dlc : 1 ≤ t.att → (t.at_ t.cur).deadline ≤ t.pickAt + t.att * t.T
  inAtt : t.pc.inAttempt = true → now ≤ (t.at_ t.cur).deadline
  loop : t.pc.between = true → now ≤ t.pickAt + t.att * t.T
  done : t.pc = .done → t.doneAt ≤ t.pickAt + t.att * t.T

theorem timeOK_pre {now : Nat} {t : Task} (h0 : t.att = 0) (hp : t.pc.pre = true) : TimeOK now t := by
  have ⟨a, b, d⟩ : t.pc.inAttempt = false ∧ t.pc.between = false ∧ t.pc ≠ .done := by
    generalize t.pc = p at hp
    cases p <;> first | (cases hp; done) | exact ⟨rfl, rfl, nofun⟩
  exact ⟨fun h => absurd h (by omega), fun h => Bool.noConfusion (a.symm.trans h),
    fun h => Bool.noConfusion (b.symm.trans h), fun h => absurd h d⟩

theorem timeOK_default (now : Nat) : TimeOK now {} := timeOK_pre rfl rfl

theorem timeOK_move {now : Nat} {t t' : Task} (tk : TimeOK now t) (h1 : t'.att = t.att) (h2 : t'.pickAt = t.pickAt)
    (h3 : t'.T = t.T) (h4 : ∀ a, (t'.at_ a).deadline = (t.at_ a).deadline)
    (hin : t'.pc.inAttempt = true → t.pc.inAttempt = true)
    (hloop : t'.pc.between = true → now ≤ t.pickAt + t.att * t.T)
    (hdone : t'.pc = .done → t'.doneAt ≤ t.pickAt + t.att * t.T) : TimeOK now t' := by
  have hc : t'.cur = t.cur := by simp [Task.cur, h1]
  constructor
  · rw [h1, hc, h4, h2, h3]; exact tk.dlc
  · rw [hc, h4]; exact fun h => tk.inAtt (hin h)
  · rw [h1, h2, h3]; exact hloop
  · rw [h1, h2, h3]; exact hdone

theorem ctxDeadline_bounds (c : Cfg) (now T : Nat) : now ≤ ctxDeadline c now T ∧ ctxDeadline c now T ≤ now + T := by
  unfold ctxDeadline
  split
  · split
    · simp only [Nat.min_def]; split <;> omega
    · omega
  · omega

theorem time_tstep {c : Cfg} {now qlen : Nat} {t t' : Task} {act : Act} (ok : TaskOK t)
    (tk : TimeOK now t) (h : TStep c now qlen t act t') : TimeOK now t' := by
  cases h
  case fire | wTake | wStart | wEnd | checkDone | checkLive | hook1Old | hook1 | casWin | casLose | hook4 | wWrite
      | wClose =>
    exact timeOK_move tk rfl rfl rfl (upd_proj (·.deadline) rfl) id tk.loop tk.done
  case send hp | busyFull hp _ | busyFree hp _ | discardCb hp | enq hp =>
    exact timeOK_pre (ok.pre0 (by rw [hp]; rfl)) rfl
  case take hp =>
    have h0 : t.att = 0 := ok.pre0 (by rw [hp]; rfl)
    exact ⟨fun (h : 1 ≤ t.att) => absurd h (by omega), fun e => Bool.noConfusion e, fun _ => Nat.le_add_right _ _,
      fun e => TPc.noConfusion e⟩
  case begin hp hlt =>
    -- the fresh context's deadline is at most `now + T`, and `now` is within the budget of the attempts so far
    have hl := tk.loop (by rw [hp]; rfl)
    have hcd := ctxDeadline_bounds c now t.T
    constructor <;> simp [Task.cur, Task.setAt, Nat.add_mul, TPc.between] <;> omega
  case hook3 hp | selDoneOld hp _ | selDone hp _ | selCtx hp | hook2Old hp _ | hook2 hp _ | decideLose hp _ | writeDE hp
      | waitDone hp =>
    exact timeOK_move tk rfl rfl rfl (fun _ => rfl) (fun _ => by simp only [hp, TPc.inAttempt])
      (fun e => Bool.noConfusion e) (fun e => TPc.noConfusion e)
  case sendCl hp | decideWin hp _ | cancel hp =>
    exact timeOK_move tk rfl rfl rfl (upd_proj (·.deadline) rfl) (fun _ => by simp only [hp, TPc.inAttempt])
      (fun e => Bool.noConfusion e) (fun e => TPc.noConfusion e)
  case errNil hp _ | errRetry hp _ =>
    -- the attempt just finished was within its deadline, which is within the budget
    have hatt : 1 ≤ t.att := ok.att_pos (by rw [hp]; rfl) (by rw [hp]; exact nofun)
    exact timeOK_move tk rfl rfl rfl (fun _ => rfl) (fun e => Bool.noConfusion e)
      (fun _ => Nat.le_trans (tk.inAtt (by rw [hp]; rfl)) (tk.dlc hatt)) (fun e => TPc.noConfusion e)
  case giveUp hp _ | onError hp =>
    exact timeOK_move tk rfl rfl rfl (fun _ => rfl) (fun e => Bool.noConfusion e)
      (fun _ => tk.loop (by rw [hp]; rfl)) (fun e => TPc.noConfusion e)
  case wgDone hp =>
    exact timeOK_move tk rfl rfl rfl (fun _ => rfl) (fun e => Bool.noConfusion e) (fun e => Bool.noConfusion e)
      (fun _ => tk.loop (by rw [hp]; rfl))

theorem TPc.blocked_cases {p : TPc} (h : p.inAttempt = true) (hf : p.free = false) :
    p = .sendCl ∨ p = .select ∨ p = .waitDone := by
  cases p <;> first | (cases h; done) | (cases hf; done) | exact .inl rfl | exact .inr (.inl rfl) | exact .inr (.inr rfl)

theorem TPc.free_of_between {p : TPc} (h : p.between = true) : p.free = true := by
  cases p <;> first | rfl | cases h

theorem TPc.dispatching_cases {p : TPc} (h : p.dispatching = true) : p.inAttempt = true ∨ p.between = true := by
  cases p <;> first | (cases h; done) | exact .inl rfl | exact .inr rfl

theorem timers_le {s : State} {t' : Nat} (h : timersAllow s t' = true) {k : Nat} (hk : k ∈ s.tasks) {a : Nat}
    (ha : a < (s.task k).att) (hd : ((s.task k).at_ a).ctxDone = false) : t' ≤ ((s.task k).at_ a).deadline := by
  simp only [timersAllow, List.all_eq_true] at h
  have := h k hk a (by simp [ha])
  simpa [hd] using this

/-- the clock may move to `t'`: an attempt in progress still has its timer armed (a done context would let the
    dispatcher or the closure that won the flag go on), and at the stages between attempts the dispatcher is never stuck -/
theorem time_advance {c : Cfg} {s : State} {t' : Nat} (k : Nat) (ok : TaskOK (s.task k))
    (hk : k ∈ s.tasks) (tk : TimeOK s.now (s.task k)) (hq : Stuck c s)
    (hns : (s.task k).pc ≠ .sendCl) (hta : timersAllow s t' = true) :
    TimeOK t' (s.task k) := by
  have hfree := hq.free k
  refine ⟨tk.dlc, fun hp => ?_, fun hp => ?_, tk.done⟩
  · have hcur : (s.task k).cur < (s.task k).att := Task.cur_lt (att_pos_of_inAttempt ok hp)
    cases hd : ((s.task k).at_ (s.task k).cur).ctxDone
    · exact timers_le hta hk hcur hd
    · exfalso
      rcases TPc.blocked_cases hp hfree with hpc | hpc | hpc
      · exact hns hpc
      · exact hq.not_step rfl (.plain rfl (.selCtx (k := k) ⟨hpc, hd⟩))
      · -- waitDone: either doneChan is closed, or the closure that won the flag can take a step
        cases hcl : ((s.task k).at_ (s.task k).cur).closedCh
        · have ax := ok.atts (s.task k).cur
          have hac := (ax.of_dec1 (ok.wDone hpc)).2.2
          have hncl : ((s.task k).at_ (s.task k).cur).pc ≠ .closed := by
            intro h; have := ax.closed_iff.2 h; rw [hcl] at this; cases this
          have := hq.busy k (s.task k).cur
          generalize ((s.task k).at_ (s.task k).cur).pc = p at hac hncl this
          cases p <;> first | (cases hac; done) | (cases this; done) | exact hncl rfl
        · exact hq.not_step rfl (.plain rfl (.waitDone (k := k) ⟨hpc, hcl⟩))
  · rw [TPc.free_of_between hp] at hfree; cases hfree

def clockOK (c : Cfg) (k : Nat) (s : State) : Act → Bool
  | .advance _ => quiescent c s && decide ((s.task k).pc ≠ .sendCl)
  | _ => true

/-- like `run`, but the clock moves only in quiescent states (maximal progress = the faketime semantics) and never
    while the dispatcher of task `k` is blocked in `sendInnerCallback` (pc = sendCl): that send has no deadline, and behind a
    handler that ignores its context it waits for as long as that handler likes (C08_bound_full_false) -/
def runMP (c : Cfg) (k : Nat) (s : State) : List Act → Option State
  | [] => some s
  | a :: rest =>
    if clockOK c k s a then
      match step c s a with
      | none => none
      | some s' => runMP c k s' rest
    else none

theorem runMP_run {c : Cfg} {k : Nat} {acts : List Act} {s s2 : State} (h : runMP c k s acts = some s2) :
    run c s acts = some s2 := by
  induction acts generalizing s with
  | nil => simpa [runMP, run] using h
  | cons a rest ih =>
    simp only [runMP] at h
    split at h
    · simp only [run]
      split at h
      · cases h
      · rename_i s1 hs; simp only [hs]; exact ih h
    · cases h

theorem time_step {c : Cfg} {s s2 : State} {act : Act} (k : Nat) (hinv : Inv s) (hs : Supp s)
    (tk : TimeOK s.now (s.task k)) (hck : clockOK c k s act = true) (h : step c s act = some s2) :
    TimeOK s2.now (s2.task k) := by
  rcases step_now h with e | ⟨t, rfl⟩
  · rw [e]
    rcases step_task_cases h k with e | ⟨rfl, ht⟩
    · rw [e]; exact tk
    · exact time_tstep (hinv _) tk ht
  · cases Step.of_step h with
    | plain hp => cases hp
    | advance hg =>
      simp only [clockOK, Bool.and_eq_true, decide_eq_true_eq] at hck
      by_cases hk : k ∈ s.tasks
      · exact time_advance (s := s) k (hinv k) hk tk (quiescent_stuck hinv hs hck.1) hck.2 hg.2
      · rw [hs k hk]; exact timeOK_default t

theorem time_runMP {c : Cfg} (hc : c.old = false) (k : Nat) {acts : List Act} {s s2 : State} (hinv : Inv s) (hs : Supp s)
    (tk : TimeOK s.now (s.task k)) (h : runMP c k s acts = some s2) :
    Inv s2 ∧ TimeOK s2.now (s2.task k) := by
  induction acts generalizing s with
  | nil => cases h; exact ⟨hinv, tk⟩
  | cons a rest ih =>
    simp only [runMP] at h
    split at h
    · split at h
      · cases h
      · exact ih (inv_step hc hinv ‹_›) (supp_step hs ‹_›) (time_step k hinv hs tk ‹_› ‹_›) h
    · cases h

end Got.Model.Ants
