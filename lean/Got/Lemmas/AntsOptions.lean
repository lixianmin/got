import Got.Model.Ants
import Got.Lemmas.Lts
/- ants model: the option functions as a left fold (task_option.go, pool_option.go) -/
namespace Got.Model.Ants

theorem applyOptions_nil : applyOptions [] = defaultOpts := rfl

theorem applyOptions_snoc (l : List TOpt) (x : TOpt) : applyOptions (l ++ [x]) = TOpt.apply (applyOptions l) x := by
  simp [applyOptions, List.foldl_append]

theorem apply_timeout_nonpos (o : Opts) {d : Int} (h : d ≤ 0) : TOpt.apply o (.timeout d) = o := by
  simp [TOpt.apply]; omega

theorem apply_retry_nonpos (o : Opts) {n : Int} (h : n ≤ 0) : TOpt.apply o (.retry n) = o := by
  simp [TOpt.apply]; omega

theorem applyOptions_drop_nonpos (l1 l2 : List TOpt) (x : TOpt)
    (hx : (∃ d, x = .timeout d ∧ d ≤ 0) ∨ (∃ n, x = .retry n ∧ n ≤ 0)) :
    applyOptions (l1 ++ x :: l2) = applyOptions (l1 ++ l2) := by
  have : ∀ o, TOpt.apply o x = o := by
    intro o
    rcases hx with ⟨d, rfl, h⟩ | ⟨n, rfl, h⟩
    · exact apply_timeout_nonpos o h
    · exact apply_retry_nonpos o h
  simp [applyOptions, List.foldl_append, List.foldl_cons, this]

theorem defaultOpts_pos : 0 < defaultOpts.timeout ∧ 0 < defaultOpts.retry := by decide

theorem apply_pos (o : Opts) (x : TOpt) (h : 0 < o.timeout ∧ 0 < o.retry) :
    0 < (TOpt.apply o x).timeout ∧ 0 < (TOpt.apply o x).retry := by
  cases x <;> simp only [TOpt.apply] <;> (try split) <;> simp_all

/-- the folded record always has a positive timeout and retry count, so `Send` uses them as they are -/
theorem applyOptions_pos (l : List TOpt) : 0 < (applyOptions l).timeout ∧ 0 < (applyOptions l).retry :=
  Lemmas.Lts.foldl_inv (P := fun o : Opts => 0 < o.timeout ∧ 0 < o.retry) apply_pos l defaultOpts_pos

theorem effT_applyOptions (l : List TOpt) : effT (applyOptions l) = (applyOptions l).timeout.toNat := by
  simp [effT, (applyOptions_pos l).1]

theorem effR_applyOptions (l : List TOpt) : effR (applyOptions l) = (applyOptions l).retry.toNat := by
  simp [effR, (applyOptions_pos l).2]

/-- the last positive WithTimeout wins; later non-positive ones do not reset it -/
theorem applyOptions_timeout_then_nonpos (l : List TOpt) (T d : Int) (hT : 0 < T) (hd : d ≤ 0) :
    (applyOptions (l ++ [.timeout T, .timeout d])).timeout = T := by
  have : l ++ [TOpt.timeout T, TOpt.timeout d] = (l ++ [TOpt.timeout T]) ++ [TOpt.timeout d] := by simp
  rw [this, applyOptions_snoc, apply_timeout_nonpos _ hd, applyOptions_snoc]
  simp [TOpt.apply, hT]

theorem applyPoolOptions_snoc (l : List POpt) (x : POpt) :
    applyPoolOptions (l ++ [x]) = POpt.apply (applyPoolOptions l) x := by
  simp [applyPoolOptions, List.foldl_append]

theorem poolApply_size_nonpos (o : PoolOpts) {n : Int} (h : n ≤ 0) : POpt.apply o (.size n) = o := by
  simp [POpt.apply]; omega

theorem poolApply_nil_builder (o : PoolOpts) : POpt.apply o (.ctxBuilder false) = o := by
  simp [POpt.apply]

theorem poolApply_size_pos (o : PoolOpts) (x : POpt) (h : 1 ≤ o.size) : 1 ≤ (POpt.apply o x).size := by
  cases x <;> simp only [POpt.apply] <;> split <;> simp_all <;> omega

/-- the pool size is always ≥ 1 (the hypothesis `1 ≤ c.N` of C08_bound_honour) -/
theorem applyPoolOptions_size_pos (l : List POpt) : 1 ≤ (applyPoolOptions l).size :=
  Lemmas.Lts.foldl_inv (P := fun o : PoolOpts => 1 ≤ o.size) poolApply_size_pos l (by decide)

end Got.Model.Ants
