import Got.Lemmas.CacheCore
/-
`SweepEq` (equality up to rotted map entries; the sweep, removeRotted, is invisible: C05_sweep_invisible_* in Props/C05):
how `Hidden`, `VisEq` and `PcEq` behave when the state changes, and that what a client step reads of a map entry (Load's
decision, Get2's switch, Set's orphan mark) does not tell a hidden entry from an absent one.
-/
namespace Got.Lemmas.Cache
open Got.Model.Cache Got.Spec.Cache

theorem hidden_congr (cfg : Cfg) (s t : State) (o : Option FutId) (hn : s.now = t.now)
    (hf : ∀ f, o = some f → view (s.fut f) = view (t.fut f)) : Hidden cfg s o ↔ Hidden cfg t o := by
  unfold Hidden; rw [statusAt_view_congr cfg s t o hn hf]

theorem visEq_refl (cfg : Cfg) (s : State) (a : Option FutId) : VisEq cfg s a a := Or.inl rfl

theorem pcEq_refl (cfg : Cfg) (s : State) (p : CPc) : PcEq cfg s p p := by
  cases p <;> first | rfl | exact visEq_refl ..

theorem pcEq_cases {cfg : Cfg} {s : State} {p q : CPc} (h : PcEq cfg s p q) :
    p = q ∨ ∃ a b, p = .g2Status a ∧ q = .g2Status b ∧ VisEq cfg s a b := by
  cases p <;> try exact .inl h
  cases q <;> first | exact .inl h | exact .inr ⟨_, _, rfl, rfl, h⟩

theorem visEq_congr (cfg : Cfg) (s t : State) (a b : Option FutId) (hn : s.now = t.now)
    (hf : ∀ f, a = some f ∨ b = some f → view (s.fut f) = view (t.fut f)) (h : VisEq cfg s a b) : VisEq cfg t a b := by
  rcases h with h | ⟨ha, hb⟩
  · exact Or.inl h
  · exact Or.inr ⟨(hidden_congr cfg s t a hn (fun f hf' => hf f (Or.inl hf'))).1 ha,
                  (hidden_congr cfg s t b hn (fun f hf' => hf f (Or.inr hf'))).1 hb⟩

theorem pcEq_congr (cfg : Cfg) (s t : State) (p q : CPc) (hn : s.now = t.now)
    (hf : ∀ f, (p = .g2Status (some f) ∨ q = .g2Status (some f)) → view (s.fut f) = view (t.fut f))
    (h : PcEq cfg s p q) : PcEq cfg t p q := by
  rcases pcEq_cases h with rfl | ⟨a, b, rfl, rfl, h⟩
  · exact pcEq_refl ..
  · exact visEq_congr cfg s t a b hn (fun f hf' => hf f (by simpa using hf')) h

theorem visEq_congrFun {β : Type} {cfg : Cfg} {s : State} {a b : Option FutId} (F : Option FutId → β)
    (hF : ∀ o, Hidden cfg s o → F o = F none) (h : VisEq cfg s a b) : F a = F b := by
  rcases h with rfl | ⟨ha, hb⟩
  · rfl
  · rw [hF a ha, hF b hb]

theorem loadOut_visEq (cfg : Cfg) (s : State) (a b : Option FutId) (old : Bool) (sh nf k ld : Nat)
    (h : VisEq cfg s a b) :
    loadOut old sh a (statusAt cfg s a) nf k ld = loadOut old sh b (statusAt cfg s b) nf k ld :=
  visEq_congrFun (fun o => loadOut old sh o (statusAt cfg s o) nf k ld)
    (fun _ ho => (loadOut_hidden _ _ _ _ _ _ _ (hidden_status ho)).trans (loadOut_hidden _ _ _ _ _ _ _ (.inr rfl)).symm) h

theorem g2Next_visEq (cfg : Cfg) (s : State) (a b : Option FutId) (h : VisEq cfg s a b) :
    g2Next (statusAt cfg s a) a = g2Next (statusAt cfg s b) b :=
  visEq_congrFun (fun o => g2Next (statusAt cfg s o) o)
    (fun o ho => (g2Next_hidden _ o (hidden_status ho)).trans (g2Next_hidden _ none (.inr rfl)).symm) h

theorem orphanMark_visEq (cfg : Cfg) (s : State) (a b : Option FutId) (h : VisEq cfg s a b) :
    orphanMark s.fut a = orphanMark s.fut b := by
  refine visEq_congrFun (orphanMark s.fut) (fun o ho => ?_) h
  cases o with
  | none => rfl
  | some l =>
    cases hres : (s.fut l).res with
    | none =>
      rcases ho with ho | ho
      · cases ho
      · rw [statusAt_unresolved cfg s l hres] at ho; cases ho
    | some r => simp [orphanMark, hres]

theorem view_orphanMark (fut : FutId → Fut) (o : Option FutId) (f : FutId) :
    view (orphanMark fut o f) = view (fut f) := by
  rw [orphanMark_apply]; split <;> rfl

theorem pcEq_of_not_g2 (cfg : Cfg) (s : State) (p q : CPc) (h : PcEq cfg s p q) (hp : ∀ a, p ≠ .g2Status a) : q = p := by
  rcases pcEq_cases h with e | ⟨a, _, e, _⟩
  · exact e.symm
  · exact absurd e (hp a)

theorem pcEq_g2 (cfg : Cfg) (s : State) (a : Option FutId) (q : CPc) (h : PcEq cfg s (.g2Status a) q) :
    ∃ b, q = .g2Status b ∧ VisEq cfg s a b := by
  rcases pcEq_cases h with rfl | ⟨_, b, e, rfl, h⟩
  · exact ⟨a, rfl, visEq_refl ..⟩
  · cases e; exact ⟨b, rfl, h⟩

theorem sweepEq_shape (cfg : Cfg) (s t : State) (h : SweepEq cfg s t) : t = { s with map := t.map, cpc := t.cpc } := by
  cases s; cases t; cases h; simp_all

/-- both steps disabled, or both enabled with related results -/
def OptRel (R : State → State → Prop) : Option State → Option State → Prop
  | some a, some b => R a b
  | none, none => True
  | _, _ => False

theorem hidden_mono (cfg : Cfg) (s : State) (d : Nat) (o : Option FutId) (h : Hidden cfg s o) :
    Hidden cfg { s with now := s.now + d } o := by
  rcases h with h | h
  · exact Or.inl h
  · cases o with
    | none => exact Or.inl rfl
    | some f =>
      right
      rw [statusAt_some] at *
      exact status_rotted_mono _ _ _ _ _ _ _ (Nat.le_add_right _ _) h

theorem mapWF_init : MapWF init := ⟨fun _ _ h => by simp [init] at h, fun _ _ h => by simp [init] at h⟩

theorem mapWF_setPc (s : State) (c : Cid) (p : CPc) (h : MapWF s) (hp : ∀ f, p = .g2Status (some f) → f < s.nfut) :
    MapWF (setPc s c p) := by
  refine ⟨h.map, ?_⟩
  intro c' f hf
  simp only [setPc, upd_apply] at hf
  split at hf
  · exact hp f hf
  · exact h.pc c' f hf

end Got.Lemmas.Cache
