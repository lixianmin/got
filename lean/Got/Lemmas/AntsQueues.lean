import Got.Lemmas.AntsSlots
import Got.Lemmas.ListFacts
/- ants model: what the two channels hold (`QueueInv`); the list of task ids has no duplicates (`TasksInv`), and at most N of
   them are being dispatched (`disp_step`) -/
namespace Got.Model.Ants

/-- the two channels hold each item once, and what they hold is in the `queued` stage: the extra guards
    `pc = queued` of `take` / `wTake` in the model are therefore never the reason a transition is disabled -/
structure QueueInv (s : State) : Prop where
  tq : ∀ k, k ∈ s.taskQ → (s.task k).pc = .queued
  tnd : s.taskQ.Nodup
  iq : ∀ k a, (k, a) ∈ s.innerQ → ((s.task k).at_ a).pc = .queued
  ind : s.innerQ.Nodup

theorem queueInv_init : QueueInv init := by
  constructor <;> simp [init]

/-- the control flow of the goroutine acting for task `k` (a client inside `Send`, then a dispatcher): transition `act`
    takes it from stage `p` to stage `p'` (the closures' half of the graph is `CMove`) -/
inductive TMove (k : Nat) : TPc → Act → TPc → Prop
  | send {o} : TMove k .none (.send k o) .sendTest
  | busyFull : TMove k .sendTest (.busyTest k) .discardCb
  | busyFree : TMove k .sendTest (.busyTest k) .enq
  | discardCb : TMove k .discardCb (.discardCb k) .discarded
  | enq : TMove k .enq (.enq k) .queued
  | take : TMove k .queued (.take k) .loopTest
  | begin : TMove k .loopTest (.loopTest k) .sendCl
  | giveUp : TMove k .loopTest (.loopTest k) .onError
  | sendCl : TMove k .sendCl (.sendCl k) .hook3
  | hook3 : TMove k .hook3 (.hook3 k) .select
  | selDoneOld : TMove k .select (.selDone k) .cancel
  | selDone : TMove k .select (.selDone k) .decide
  | selCtx : TMove k .select (.selCtx k) .hook2
  | hook2Old : TMove k .hook2 (.hook2 k) .writeDE
  | hook2 : TMove k .hook2 (.hook2 k) .decide
  | decideWin : TMove k .decide (.decide k) .writeDE
  | decideLose : TMove k .decide (.decide k) .waitDone
  | writeDE : TMove k .writeDE (.writeDE k) .cancel
  | waitDone : TMove k .waitDone (.waitDone k) .cancel
  | cancel : TMove k .cancel (.cancel k) .errTest
  | errNil : TMove k .errTest (.errTest k) .wgDone
  | errRetry : TMove k .errTest (.errTest k) .loopTest
  | onError : TMove k .onError (.onError k) .wgDone
  | wgDone : TMove k .wgDone (.wgDone k) .done

theorem tstep_pc {c : Cfg} {now qlen : Nat} {t t' : Task} {act : Act} (h : TStep c now qlen t act t') :
    t'.pc = t.pc ∧ act.att?.isSome = true ∨ ∃ k, TMove k t.pc act t'.pc := by
  cases h
  case fire | wTake | wStart | wEnd | checkDone | checkLive | hook1Old | hook1 | casWin | casLose | hook4 | wWrite
      | wClose => exact .inl ⟨rfl, rfl⟩
  case sendCl hp | selDoneOld hp _ | selDone hp _ | selCtx hp | waitDone hp =>
    exact .inr ⟨_, by rw [hp.1]; constructor⟩
  all_goals exact .inr ⟨_, by rw [‹t.pc = _›]; constructor⟩

theorem tstep_queued_iff {c : Cfg} {now qlen : Nat} {t t' : Task} {act : Act} (h : TStep c now qlen t act t') :
    t'.pc = .queued ↔ t.pc = .queued ∧ act ≠ .take act.task ∨ act = .enq act.task := by
  rcases tstep_pc h with ⟨e, ha⟩ | ⟨k, m⟩
  · rw [e]
    have h1 : act ≠ .take act.task := by rintro e; rw [e] at ha; cases ha
    have h2 : act ≠ .enq act.task := by rintro e; rw [e] at ha; cases ha
    simp only [ne_eq, h1, not_false_eq_true, and_true, h2, or_false]
  · generalize t.pc = p, t'.pc = p' at m
    cases m <;> simp [Act.task]

theorem step_queued {c : Cfg} {s s2 : State} {act : Act} (h : step c s act = some s2) (i : Nat) :
    (s2.task i).pc = .queued ↔ (s.task i).pc = .queued ∧ act ≠ .take i ∨ act = .enq i := by
  rcases step_task h with ⟨_, rfl, e⟩ | ⟨t', ht, e⟩
  · rw [e]; simp
  rw [e]
  by_cases hi : i = act.task
  · subst hi
    rw [upd_same]
    exact tstep_queued_iff (.of_tstep ht)
  · rw [upd_other hi]
    have h1 : act ≠ .take i := by rintro rfl; exact hi rfl
    have h2 : act ≠ .enq i := by rintro rfl; exact hi rfl
    simp [h1, h2]

theorem tstep_cl_queued_iff {c : Cfg} {now qlen : Nat} {t t' : Task} {act : Act} (ok : TaskOK t)
    (h : TStep c now qlen t act t') (b : Nat) :
    (t'.at_ b).pc = .queued ↔
      (t.at_ b).pc = .queued ∧ (∀ w, act ≠ .wTake act.task b w) ∨ act = .sendCl act.task ∧ b = t.cur := by
  rcases tstep_cpc ok h b with e | ⟨k, m, hc⟩
  · rw [e]
    refine ⟨fun hq => .inl ⟨hq, ?_⟩, fun hq => hq.elim (·.1) ?_⟩
    · intro w ha
      rw [ha] at h
      cases h with | wTake hp => rw [hp] at e; simp at e
    · rintro ⟨ha, rfl⟩
      rw [ha] at h
      cases h with | sendCl hp => rw [hp.2] at e; simp at e
  · generalize (t.at_ b).pc = p, (t'.at_ b).pc = p' at m
    cases m <;> simp [Act.task]
    exact hc rfl

theorem step_cl_queued {c : Cfg} {s s2 : State} {act : Act} (hinv : Inv s) (h : step c s act = some s2) (p : Nat × Nat) :
    ((s2.task p.1).at_ p.2).pc = .queued ↔
      ((s.task p.1).at_ p.2).pc = .queued ∧ (∀ w, act ≠ .wTake p.1 p.2 w) ∨ act = .sendCl p.1 ∧ p.2 = (s.task p.1).cur := by
  rcases step_task h with ⟨_, rfl, e⟩ | ⟨t', ht, e⟩
  · rw [e]; simp
  rw [e]
  by_cases hi : p.1 = act.task
  · rw [hi, upd_same]
    exact tstep_cl_queued_iff (hinv _) (.of_tstep ht) p.2
  · rw [upd_other hi]
    have h1 : ∀ w, act ≠ .wTake p.1 p.2 w := by rintro w rfl; exact hi rfl
    have h2 : act ≠ .sendCl p.1 := by rintro rfl; exact hi rfl
    simp [h1, h2]

theorem queueInv_step {c : Cfg} {s s2 : State} {act : Act} (hinv : Inv s) (hq : QueueInv s)
    (h : step c s act = some s2) : QueueInv s2 := by
  have hp := step_queued h
  have hc := step_cl_queued hinv h
  constructor
  · intro k' hk'
    rcases step_taskQ h with ⟨k, rfl, _, e⟩ | ⟨k, rfl, _, e⟩ | ⟨_, n2, e⟩ <;> rw [hp k']
    · rw [e, List.mem_append, List.mem_singleton] at hk'
      exact hk'.elim (fun hm => .inl ⟨hq.tq _ hm, nofun⟩) fun e => .inr (e ▸ rfl)
    · have hnd := hq.tnd; rw [e] at hnd
      exact .inl ⟨hq.tq _ (e ▸ List.mem_cons_of_mem _ hk'), fun e' => (List.nodup_cons.mp hnd).1 (Act.take.inj e' ▸ hk')⟩
    · exact .inl ⟨hq.tq _ (e ▸ hk'), n2 k'⟩
  · rcases step_taskQ h with ⟨k, rfl, _, e⟩ | ⟨k, rfl, _, e⟩ | ⟨_, _, e⟩
    · rw [e]; refine hq.tnd.snoc fun hm => ?_
      have := step_self rfl h; generalize s2.task _ = t' at this
      cases this with | enq hpc => exact nomatch (hq.tq k hm).symm.trans hpc
    · exact (List.nodup_cons.mp (e ▸ hq.tnd)).2
    · exact e ▸ hq.tnd
  · intro k' a' hk'
    rcases step_innerQ h with ⟨k, rfl, e⟩ | ⟨k, a, w, rfl, e⟩ | ⟨_, n2, e⟩ <;> rw [hc (k', a')]
    · rw [e, List.mem_append, List.mem_singleton] at hk'
      exact hk'.elim (fun hm => .inl ⟨hq.iq _ _ hm, nofun⟩) fun e => by cases e; exact .inr ⟨rfl, rfl⟩
    · have hnd := hq.ind; rw [e] at hnd
      exact .inl ⟨hq.iq _ _ (e ▸ List.mem_cons_of_mem _ hk'), fun w' e' => by
        cases e'; exact (List.nodup_cons.mp hnd).1 hk'⟩
    · exact .inl ⟨hq.iq _ _ (e ▸ hk'), n2 k' a'⟩
  · rcases step_innerQ h with ⟨k, rfl, e⟩ | ⟨k, a, w, rfl, e⟩ | ⟨_, _, e⟩
    · rw [e]; refine hq.ind.snoc fun hm => ?_
      have := step_self rfl h; generalize s2.task _ = t' at this
      cases this with | sendCl hpc => exact nomatch (hq.iq _ _ hm).symm.trans hpc.2
    · exact (List.nodup_cons.mp (e ▸ hq.ind)).2
    · exact e ▸ hq.ind

structure TasksInv (s : State) : Prop where
  pcs : ∀ k, k ∈ s.tasks → (s.task k).pc ≠ .none
  nd : s.tasks.Nodup

theorem tasksInv_init : TasksInv init := by
  constructor <;> simp [init]

theorem tstep_pc_ne_none {c : Cfg} {now qlen : Nat} {t t' : Task} {act : Act} (h : TStep c now qlen t act t')
    (hk : t.pc ≠ .none) : t'.pc ≠ .none := by
  rcases tstep_pc h with ⟨e, _⟩ | ⟨k, m⟩
  · exact e ▸ hk
  · generalize t.pc = p, t'.pc = p' at m
    cases m <;> exact nofun

theorem tstep_send {c : Cfg} {now qlen : Nat} {t t' : Task} {act : Act} (hs : act.isSend = true)
    (h : TStep c now qlen t act t') : t.pc = .none ∧ t'.pc = .sendTest := by
  cases h
  case send hp => exact ⟨hp, rfl⟩
  all_goals cases hs

theorem tasksInv_step {c : Cfg} {s s2 : State} {act : Act} (ht : TasksInv s)
    (h : step c s act = some s2) : TasksInv s2 := by
  have hpcs : ∀ k, (s.task k).pc ≠ .none → (s2.task k).pc ≠ .none := fun k hk => by
    rcases step_task_cases h k with e | ⟨rfl, hT⟩
    · rw [e]; exact hk
    · exact tstep_pc_ne_none hT hk
  have e := step_tasks h
  cases hs : act.isSend <;> simp only [hs, Bool.false_eq_true, ↓reduceIte] at e
  · exact ⟨fun k hk => hpcs k (ht.pcs k (e ▸ hk)), e ▸ ht.nd⟩
  · have hT := tstep_send hs (step_self (by cases act <;> first | rfl | cases hs) h)
    have hnot : act.task ∉ s.tasks := fun hm => ht.pcs _ hm hT.1
    constructor
    · intro k hk
      rw [e] at hk
      rcases List.mem_append.mp hk with h1 | h1
      · exact hpcs k (ht.pcs k h1)
      · rw [List.mem_singleton.mp h1, hT.2]; exact nofun
    · rw [e]
      exact ht.nd.snoc hnot

theorem countP_le_succ_of_nodup (l : List Nat) (hn : l.Nodup) (p q : Nat → Bool) (k : Nat)
    (h : ∀ x, x ∈ l → x ≠ k → q x = true → p x = true) : l.countP q ≤ l.countP p + 1 := by
  by_cases hk : k ∈ l
  · have hp := List.perm_cons_erase hk
    have : (l.erase k).countP q ≤ (l.erase k).countP p := List.countP_mono_left fun x hx =>
      have hx' := hn.mem_erase_iff.mp hx
      h x hx'.2 hx'.1
    rw [hp.countP_eq q, hp.countP_eq p, List.countP_cons, List.countP_cons]
    split <;> omega
  · exact Nat.le_succ_of_le (List.countP_mono_left fun x hx => h x hx fun e => hk (e ▸ hx))

theorem dispatching_eq (s : State) : dispatching s = s.tasks.countP (fun k => (s.task k).pc.dispatching) := by
  simp [dispatching, List.countP_eq_length_filter]

theorem tstep_disp {c : Cfg} {now qlen : Nat} {t t' : Task} {act : Act} (hn : ∀ k, act ≠ .take k)
    (h : TStep c now qlen t act t') : t'.pc.dispatching = true → t.pc.dispatching = true := by
  rcases tstep_pc h with ⟨e, _⟩ | ⟨k, m⟩
  · rw [e]; exact id
  · generalize t.pc = p, t'.pc = p' at m
    cases m
    case take => exact absurd rfl (hn _)
    all_goals first | exact fun _ => rfl | exact fun e => Bool.noConfusion e

theorem disp_step {c : Cfg} {s s2 : State} {act : Act} (ht : TasksInv s)
    (hd : dispatching s ≤ c.N) (h : step c s act = some s2) : dispatching s2 ≤ c.N := by
  rw [dispatching_eq] at hd ⊢
  rw [show s2.tasks = _ from step_tasks h]
  by_cases htk : ∃ k, act = .take k
  · obtain ⟨k, rfl⟩ := htk
    have hg : dispatching s < c.N := by
      rcases step_taskQ h with ⟨_, e, _⟩ | ⟨_, _, hg, _⟩ | ⟨_, n, _⟩
      · cases e
      · exact hg
      · exact absurd rfl (n k)
    rw [dispatching_eq] at hg
    have := countP_le_succ_of_nodup s.tasks ht.nd (fun k => (s.task k).pc.dispatching)
      (fun k => (s2.task k).pc.dispatching) k
      (fun x _ hx hq => by
        rcases step_task_cases h x with e | ⟨e, _⟩
        · rw [← e]; exact hq
        · exact absurd e hx)
    simp only [Act.isSend, Bool.false_eq_true, ↓reduceIte]
    omega
  · have hn : ∀ k, act ≠ .take k := fun k e => htk ⟨k, e⟩
    have hmono : ∀ x, (s2.task x).pc.dispatching = true → (s.task x).pc.dispatching = true := by
      intro x hq
      rcases step_task_cases h x with e | ⟨rfl, hT⟩
      · rw [← e]; exact hq
      · exact tstep_disp hn hT hq
    have h1 : s.tasks.countP (fun k => (s2.task k).pc.dispatching) ≤ s.tasks.countP (fun k => (s.task k).pc.dispatching) :=
      List.countP_mono_left (fun x _ hq => hmono x hq)
    split
    · -- a Send: the new task is not being dispatched
      rename_i hs
      have h2 : (s2.task act.task).pc.dispatching = false := by
        rw [(tstep_send hs (step_self (by cases act <;> first | rfl | cases hs) h)).2]; rfl
      simp [List.countP_append, h2]
      omega
    · omega

end Got.Model.Ants
