import Got.Model.Search
/-
Helper lemmas for C14 (sortx.Search): what the bisection loop returns (`LoopPost`, by one induction over `loop`) and what
`search` makes of it (`search_eq`), both for arbitrary predicates.
-/
namespace Got.Lemmas.Search
open Got.Model.Search

def isLess : Probe → Bool
  | .less _ => true
  | .equal _ => false

def idx : Probe → Int
  | .less k => k
  | .equal k => k

def countLess (l : List Probe) : Nat := (l.filter isLess).length

theorem countLess_single (k : Int) : countLess [Probe.less k] = 1 := by
  simp [countLess, List.filter, isLess]

theorem countLess_append (a b : List Probe) : countLess (a ++ b) = countLess a + countLess b := by
  simp [countLess, List.filter_append]

/-- what the bisection loop started at `(i, j)` returns and logs (`ext`): `less` holds at `r - 1` and fails at `r` unless that
    end was never probed (`r - 1 = i`, `r = j`); `count` says `ext.length ≤ ⌈lg (j - i)⌉` with no logarithm to define -/
structure LoopPost (less : Int → Bool) (i j r : Int) (ext : List Probe) : Prop where
  lo : i < r
  hi : r ≤ j
  below : r - 1 = i ∨ less (r - 1) = true
  stop : r = j ∨ less r = false
  probes : ∀ p ∈ ext, isLess p = true ∧ i < idx p ∧ idx p < j
  count : ∀ c : Nat, j - i ≤ (2 : Int) ^ c → ext.length ≤ c

/-- one probe takes the gap `g` (at least 2) to `g'`, about half of it -/
theorem count_succ {g g' : Int} {k : Nat} (h : ∀ c : Nat, g' ≤ (2 : Int) ^ c → k ≤ c) (h2 : 2 ≤ g) (hg : 2 * g' ≤ g + 1) :
    ∀ c : Nat, g ≤ (2 : Int) ^ c → k + 1 ≤ c
  | 0, hc => by omega
  | c + 1, hc => Nat.succ_le_succ (h c (by rw [Int.pow_succ] at hc; omega))

theorem loop_spec (less : Int → Bool) (i j : Int) (log : List Probe) (h : i < j) :
    ∃ r ext, loop less i j log = some (r, log ++ ext) ∧ LoopPost less i j r ext := by
  fun_induction loop less i j log with
  | case1 =>
    exact ⟨_, [], by rw [List.append_nil], by omega, Int.le_refl _, .inl (by omega), .inl rfl, nofun, fun _ _ => Nat.zero_le _⟩
  | case2 i j log hne hlt mid hl ih =>
    obtain ⟨r, ext, he, hp⟩ := ih (by omega)
    refine ⟨r, Probe.less mid :: ext, by rw [he, List.append_assoc]; rfl, by have := hp.lo; omega, hp.hi,
      hp.below.elim (fun e => .inr (by rw [e]; exact hl)) .inr, hp.stop, fun p hp' => ?_,
      count_succ hp.count (by omega) (by omega)⟩
    rcases List.mem_cons.mp hp' with rfl | h
    · exact ⟨rfl, by simp only [idx]; omega, by simp only [idx]; omega⟩
    · exact ⟨(hp.probes p h).1, by have := (hp.probes p h).2.1; omega, (hp.probes p h).2.2⟩
  | case3 i j log hne hlt mid hl ih =>
    obtain ⟨r, ext, he, hp⟩ := ih (by omega)
    refine ⟨r, Probe.less mid :: ext, by rw [he, List.append_assoc]; rfl, hp.lo, by have := hp.hi; omega, hp.below,
      hp.stop.elim (fun e => .inr (by rw [e]; simpa using hl)) .inr, fun p hp' => ?_,
      count_succ hp.count (by omega) (by omega)⟩
    rcases List.mem_cons.mp hp' with rfl | h
    · exact ⟨rfl, by simp only [idx]; omega, by simp only [idx]; omega⟩
    · exact ⟨(hp.probes p h).1, (hp.probes p h).2.1, by have := (hp.probes p h).2.2; omega⟩
  | case4 => omega

theorem LoopPost.result {less : Int → Bool} {i j r : Int} {ext : List Probe} (hp : LoopPost less i j r ext) {b : Int}
    (hmono : ∀ k, i < k → k < j → (less k = true ↔ k < b)) (hib : i < b) (hbj : b ≤ j) : r = b := by
  have h1 := hp.lo
  have h2 := hp.hi
  have hle : r ≤ b := by
    by_cases e : r - 1 = i
    · omega
    · have := (hmono (r - 1) (by omega) (by omega)).mp (hp.below.resolve_left e); omega
  by_cases e : r = j
  · omega
  · have := mt (hmono r h1 (by omega)).mpr (by rw [hp.stop.resolve_left e]; nofun); omega

/-- the middle conjunct is for the translator tie (`SearchAst.search_ast_refines`), which follows the loop itself -/
theorem search_eq (less equal : Int → Bool) {n : Int} (hn : 0 < n) :
    ∃ j lg, LoopPost less (-1) n j lg ∧ loop less (-1) n [] = some (j, lg) ∧
      search n less equal =
        some (if j < n ∧ equal j = true then j else compl j, if j < n then lg ++ [Probe.equal j] else lg) := by
  obtain ⟨j, lg, hl, hp⟩ := loop_spec less (-1) n [] (by omega)
  rw [List.nil_append] at hl
  refine ⟨j, lg, hp, hl, ?_⟩
  unfold search
  rw [if_neg (by omega), hl]
  by_cases hj : j = n
  · simp [hj]
  · have : j < n := by have := hp.hi; omega
    cases he : equal j <;> simp [hj, he, this]

theorem match_iff {n b : Int} {equal : Int → Bool} (hb0 : 0 ≤ b)
    (heq : ∀ k, 0 ≤ k → k < n → equal k = true → b ≤ k ∧ ∀ j, b ≤ j → j ≤ k → equal j = true) :
    (∃ k, 0 ≤ k ∧ k < n ∧ equal k = true) ↔ b < n ∧ equal b = true :=
  ⟨fun ⟨k, h0, hn, he⟩ => ⟨Int.lt_of_le_of_lt (heq k h0 hn he).1 hn, (heq k h0 hn he).2 b (Int.le_refl b) (heq k h0 hn he).1⟩,
   fun h => ⟨b, hb0, h.1, h.2⟩⟩

theorem lt_iff_lt_filter_length (l : List Int) (x : Int) (hs : l.Pairwise (· ≤ ·)) (k : Nat) (hk : k < l.length) :
    l[k] < x ↔ k < (l.filter (· < x)).length := by
  induction l generalizing k with
  | nil => simp at hk
  | cons a t ih =>
    have hs' := List.pairwise_cons.mp hs
    by_cases hax : a < x
    · rw [List.filter_cons_of_pos (by simpa using hax)]
      cases k with
      | zero => simp [hax]
      | succ k =>
        simp only [List.getElem_cons_succ, List.length_cons, Nat.add_lt_add_iff_right]
        exact ih hs'.2 k (by simpa using hk)
    · -- the head is not below `x`, so nothing is
      have hnil : t.filter (· < x) = [] := List.filter_eq_nil_iff.2 (fun y hy => by have := hs'.1 y hy; simp; omega)
      rw [List.filter_cons_of_neg (by simpa using hax), hnil]
      simp only [List.length_nil, Nat.not_lt_zero, iff_false]
      cases k with
      | zero => simpa using hax
      | succ k =>
        have := hs'.1 _ (List.getElem_mem (by simpa using hk : k < t.length))
        simp only [List.getElem_cons_succ]; omega

/-- two's complement read without a case distinction, so that `omega` can take it as it stands -/
theorem toInt_emod (x : BitVec 64) :
    x.toInt = ((x.toNat : Int) + 9223372036854775808) % 18446744073709551616 - 9223372036854775808 := by
  have := x.isLt
  rw [BitVec.toInt_eq_toNat_cond]
  split <;> omega

/-- `int(uint(i+j) >> 1)` on 64-bit words; stated as the obligation `C14_mid_bitvec` -/
theorem mid_bitvec (i j : BitVec 64) (h0 : 0 ≤ i.toInt + j.toInt) :
    ((i + j) >>> 1).toInt = (i.toInt + j.toInt) / 2 := by
  have hi := i.isLt
  have hj := j.isLt
  rw [toInt_emod i, toInt_emod j] at h0
  rw [toInt_emod, toInt_emod i, toInt_emod j, BitVec.toNat_ushiftRight, BitVec.toNat_add]
  simp only [Nat.shiftRight_eq_div_pow, Nat.pow_one, Nat.reducePow] at *
  omega

end Got.Lemmas.Search
