import Got.Model.SortUnique
namespace Got.Lemmas.SortUnique
open Got.Model.SortUnique

variable {α : Type} [DecidableEq α]

/-- the kept prefix grows by the collapse of the unread suffix -/
theorem uniqueLoop_spec (size i j : Nat) (a : Array α) (hj : j < i) (hi : i ≤ size) (hs : a.size = size)
    (y : α) (hy : a[j]? = some y) :
    ∃ j' a', uniqueLoop size i j a = some (j', a') ∧ a'.size = size ∧ j' < size ∧
      a'.toList.take (j' + 1) = a.toList.take (j + 1) ++ collapseFrom y (a.toList.drop i) := by
  induction hn : size - i generalizing i j a y with
  | zero =>
    have : i = size := by omega
    subst this
    rw [uniqueLoop, if_neg (by omega)]
    refine ⟨j, a, rfl, hs, by omega, ?_⟩
    rw [List.drop_of_length_le (by simp [hs])]
    simp [collapseFrom]
  | succ n ih =>
    have hlt : i < size := by omega
    have hil : i < a.toList.length := by simp [hs, hlt]
    have hxi : a[i]? = some (a[i]'(by omega)) := Array.getElem?_eq_getElem (by omega)
    have hd : a.toList.drop i = a[i]'(by omega) :: a.toList.drop (i + 1) := by
      rw [List.drop_eq_getElem_cons hil]; simp
    rw [uniqueLoop, if_pos hlt]
    simp only [hxi, hy]
    rw [hd]
    generalize a[i]'(by omega) = x at *
    by_cases hxy : x = y
    · -- same run: skip
      subst hxy
      simp only [ne_eq, not_true_eq_false, if_false, collapseFrom, if_true]
      exact ih (i + 1) j a (by omega) (by omega) hs x hy (by omega)
    · simp only [ne_eq, hxy, not_false_eq_true, if_true, collapseFrom, if_false]
      by_cases hji : j + 1 = i
      · -- adjacent: no write
        simp only [hji, not_true_eq_false, if_false]
        obtain ⟨j', a', h1, h2, h3, h4⟩ := ih (i + 1) i a (by omega) (by omega) hs x hxi (by omega)
        refine ⟨j', a', ?_, h2, h3, ?_⟩
        · rw [← hji] at h1 ⊢; exact h1
        · rw [h4, List.take_add_one, Array.getElem?_toList, hxi]; simp
      · have hlt2 : j + 1 < a.size := by omega
        simp only [hji, not_false_eq_true, if_true, hlt2]
        have hset : (a.set! (j + 1) x)[j + 1]? = some x := by
          simp [Array.set!_eq_setIfInBounds, hlt2]
        obtain ⟨j', a', h1, h2, h3, h4⟩ := ih (i + 1) (j + 1) (a.set! (j + 1) x) (by omega) (by omega) (by simp [hs]) x
          hset (by omega)
        refine ⟨j', a', h1, h2, h3, ?_⟩
        rw [h4]
        simp only [Array.set!_eq_setIfInBounds, Array.toList_setIfInBounds]
        rw [List.drop_set_of_lt (by omega), List.take_add_one, List.take_set_of_le (by omega)]
        simp [hlt2]

/-- for `C15_unique_spec_eraseReps`; `List.eraseRepsBy.loop` is the auxiliary of core's `List.eraseRepsBy`, so a rename there breaks this -/
theorem eraseReps_loop (a : α) (as acc : List α) :
    List.eraseRepsBy.loop (fun x y => x == y) a as acc = acc.reverse ++ a :: collapseFrom a as := by
  induction as generalizing a acc with
  | nil => simp [List.eraseRepsBy.loop, collapseFrom]
  | cons b t ih =>
    rw [List.eraseRepsBy.loop]
    by_cases h : b = a
    · subst h; simp [collapseFrom, ih]
    · have h' : (a == b) = false := by simp; exact fun e => h e.symm
      simp [h', collapseFrom, h, ih]

theorem collapseFrom_sublist (last : α) (t : List α) : (collapseFrom last t).Sublist t := by
  induction t generalizing last with
  | nil => exact .slnil
  | cons b t ih =>
    simp only [collapseFrom]
    split
    · exact (ih last).cons b
    · exact (ih b).cons_cons b

theorem collapseRuns_sublist (l : List α) : (collapseRuns l).Sublist l := by
  cases l with
  | nil => exact .slnil
  | cons x t => exact (collapseFrom_sublist x t).cons_cons x

def NoAdjEq : List α → Prop
  | x :: y :: t => x ≠ y ∧ NoAdjEq (y :: t)
  | _ => True

theorem collapseFrom_noAdjEq (last : α) (t : List α) : NoAdjEq (last :: collapseFrom last t) := by
  induction t generalizing last with
  | nil => simp [collapseFrom, NoAdjEq]
  | cons b t ih =>
    simp only [collapseFrom]
    split
    · exact ih last
    · rename_i h
      exact ⟨fun e => h e.symm, ih b⟩

omit [DecidableEq α] in
/-- in a list sorted by an antisymmetric relation, distinct neighbours make all elements distinct -/
theorem NoAdjEq.strict {le : α → α → Prop} (antisymm : ∀ x y, le x y → le y x → x = y) :
    ∀ {l : List α}, List.Pairwise le l → NoAdjEq l → List.Pairwise (fun x y => le x y ∧ x ≠ y) l
  | [], _, _ => .nil
  | [_], _, _ => List.pairwise_singleton _ _
  | x :: y :: t, hs, hn => by
    obtain ⟨hx, hyt⟩ := List.pairwise_cons.1 hs
    have hxy : x ≠ y := hn.1
    refine List.pairwise_cons.2 ⟨fun z hz => ⟨hx z hz, ?_⟩, NoAdjEq.strict antisymm hyt hn.2⟩
    rintro rfl
    -- `x` occurs again behind `y`: `x ≤ y ≤ x`
    rcases List.mem_cons.1 hz with h | h
    · exact hxy h
    · exact hxy (antisymm x y (hx y (by simp)) ((List.pairwise_cons.1 hyt).1 x h))

/-- the input is recovered by repeating each result element `n + 1` times -/
theorem collapseFrom_runs (last : α) (t : List α) :
    ∃ ns : List Nat, ns.length = (collapseFrom last t).length + 1 ∧
      last :: t = (List.zipWith (fun n x => List.replicate (n + 1) x) ns (last :: collapseFrom last t)).flatten := by
  induction t generalizing last with
  | nil => exact ⟨[0], by simp [collapseFrom]⟩
  | cons b t ih =>
    simp only [collapseFrom]
    split
    · rename_i h
      subst h
      obtain ⟨ns, h1, h2⟩ := ih b
      match ns, h1 with
      | n :: ns', h1 =>
        refine ⟨(n + 1) :: ns', by simpa using h1, ?_⟩
        simp only [List.zipWith_cons_cons, List.flatten_cons] at h2 ⊢
        rw [List.replicate_succ, List.cons_append, ← h2]
    · obtain ⟨ns, h1, h2⟩ := ih b
      refine ⟨0 :: ns, by simpa using h1, ?_⟩
      simp only [List.zipWith_cons_cons, List.flatten_cons]
      rw [← h2]; simp

end Got.Lemmas.SortUnique
