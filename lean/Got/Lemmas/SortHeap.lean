import Got.Lemmas.SortOrder
import Got.Lemmas.SortBounds
namespace Got.Lemmas.Sort
open Got.Model.Sort

variable {K V : Type} {lt : K → K → Bool}

/-- max-heap property (tree indices relative to `first`): no child `< hi` of a parent `≥ lo` is above its parent -/
def HeapFrom (lt : K → K → Bool) (ks : Array K) (first lo hi : Nat) : Prop :=
  ∀ r c, lo ≤ r → c < hi → (c = 2 * r + 1 ∨ c = 2 * r + 2) → KLe lt ks (first + c) (first + r)

theorem pickChild_spec (sw : StrictWeak lt) (hi first child : Nat) (s : St K V) :
    (pickChild (stdLess lt) hi first child s).2.keys = s.keys ∧
    ∀ c, (c = child ∨ c = child + 1) → c < hi →
      KLe lt s.keys (first + c) (first + (pickChild (stdLess lt) hi first child s).1) := by
  unfold pickChild
  split
  · refine ⟨rfl, fun c hcc hch => ?_⟩
    dsimp only
    cases hlr : stdLess lt s (first + child) (first + child + 1) <;>
      simp only [if_true, Bool.false_eq_true, if_false] <;> rcases hcc with rfl | rfl
    · exact KLe.refl sw _ _
    · exact KLe.of_stdLess_false hlr
    · exact KLe.of_stdLess sw hlr
    · exact KLe.refl sw _ _
  · refine ⟨rfl, fun c hcc hch => ?_⟩
    obtain rfl : c = child := by omega
    exact KLe.refl sw _ _

/-- `H1`: all parents `≥ lo` except `root` are fine; `H2`: the children of `root` do not exceed the parent of `root` -/
theorem siftDown_heap (sw : StrictWeak lt) (hi first lo root : Nat) (s : St K V) (hsz : first + hi ≤ s.keys.size)
    (H1 : ∀ r c, lo ≤ r → r ≠ root → c < hi → (c = 2 * r + 1 ∨ c = 2 * r + 2) → KLe lt s.keys (first + c) (first + r))
    (H2 : ∀ p c, lo ≤ p → (root = 2 * p + 1 ∨ root = 2 * p + 2) → c < hi → (c = 2 * root + 1 ∨ c = 2 * root + 2) →
      KLe lt s.keys (first + c) (first + p)) :
    HeapFrom lt (siftDown (stdLess lt) hi first root s).keys first lo hi := by
  fun_induction siftDown (stdLess lt) hi first root s with
  | case1 root s child h =>
    exact fun r c h1 h2 h3 => H1 r c h1 (by omega) h2 h3
  | case2 root s child h pc r s1 hr =>
    obtain ⟨hk, hc2⟩ : pc.2.keys = s.keys ∧ ∀ c, (c = child ∨ c = child + 1) → c < hi →
        KLe lt s.keys (first + c) (first + pc.1) := pickChild_spec sw hi first child s
    have hf : child ≤ pc.1 ∧ pc.1 < hi ∧ pc.1 ≤ child + 1 := pickChild_fst (stdLess lt) hi first child s (Nat.lt_of_not_ge h)
    have hle : KLe lt s.keys (first + pc.1) (first + root) := by
      rw [← hk]; exact KLe.of_stdLess_false (by simpa using hr)
    intro r' c h1 h2 h3
    show KLe lt pc.2.keys _ _
    rw [hk]
    by_cases hrr : r' = root
    · subst hrr; exact (hc2 c (by omega) h2).trans sw (by omega) hle
    · exact H1 r' c h1 hrr h2 h3
  | case3 root s child h pc r s1 hr ih =>
    obtain ⟨hk, hc2⟩ : pc.2.keys = s.keys ∧ ∀ c, (c = child ∨ c = child + 1) → c < hi →
        KLe lt s.keys (first + c) (first + pc.1) := pickChild_spec sw hi first child s
    have hf : child ≤ pc.1 ∧ pc.1 < hi ∧ pc.1 ≤ child + 1 := pickChild_fst (stdLess lt) hi first child s (Nat.lt_of_not_ge h)
    have hchild : child = 2 * root + 1 := rfl
    have hlt : KLe lt s.keys (first + root) (first + pc.1) := by rw [← hk]; exact KLe.of_stdLess sw (by simpa using hr)
    have hu : first + root < s.keys.size := by omega
    have hv : first + pc.1 < s.keys.size := by omega
    have hkeys : (s1.swap (first + root) (first + pc.1)).keys = s.keys.swapIfInBounds (first + root) (first + pc.1) := by
      rw [← hk]; rfl
    generalize pc.1 = c' at *
    rw [hkeys] at ih
    refine ih (by rw [Array.size_swapIfInBounds]; exact hsz) (fun r' c h1 h2 h3 h4 => KLe.swap hu hv ?_)
      (fun p c h1 h2 h3 h4 => KLe.swap hu hv ?_)
    · by_cases hrr : r' = root
      · subst hrr
        rw [tr_left]
        by_cases hcc : c = c'
        · subst hcc; rw [tr_right]; exact hlt
        · rw [tr_of_ne (by omega) (by omega)]; exact hc2 c (by omega) h3
      · rw [tr_of_ne (k := first + r') (by omega) (by omega)]
        by_cases hcr : c = root
        · subst hcr; rw [tr_left]; exact H2 r' c' h1 (by omega) (by omega) (by omega)
        · rw [tr_of_ne (by omega) (by omega)]; exact H1 r' c h1 hrr h3 h4
    · obtain rfl : p = root := by omega
      rw [tr_left, tr_of_ne (by omega) (by omega)]
      exact H1 c' c (by omega) (by omega) h3 h4

theorem siftDown_heap_from (sw : StrictWeak lt) (hi first root : Nat) (s : St K V) (hsz : first + hi ≤ s.keys.size)
    (H : HeapFrom lt s.keys first (root + 1) hi) :
    HeapFrom lt (siftDown (stdLess lt) hi first root s).keys first root hi :=
  siftDown_heap sw hi first root root s hsz (fun r c h1 h2 => H r c (by omega)) (fun p c h1 h2 => by omega)

theorem heapBuild_heap (sw : StrictWeak lt) (hi first i : Nat) (s : St K V) (hsz : first + hi ≤ s.keys.size)
    (H : HeapFrom lt s.keys first (i + 1) hi) :
    HeapFrom lt (heapBuild (stdLess lt) hi first i s).keys first 0 hi := by
  fun_induction heapBuild (stdLess lt) hi first i s with
  | case1 s => exact siftDown_heap_from sw hi first 0 s hsz H
  | case2 i s ih =>
    exact ih (by rw [(siftDown_run (stdLess lt) hi first (i + 1) s).1.keys_size]; exact hsz)
      (siftDown_heap_from sw hi first (i + 1) s hsz H)

theorem heap_root_max (sw : StrictWeak lt) (ks : Array K) (first h : Nat) (hsz : first + h ≤ ks.size)
    (H : HeapFrom lt ks first 0 h) : ∀ k, k < h → KLe lt ks (first + k) first := by
  intro k
  induction k using Nat.strongRecOn with
  | _ k ih =>
    intro hk
    by_cases h0 : k = 0
    · subst h0; exact KLe.refl sw _ _
    · -- `k` is a child of `q = (k - 1) / 2`, which comes before it
      obtain ⟨hq, hc⟩ : (k - 1) / 2 < k ∧ (k = 2 * ((k - 1) / 2) + 1 ∨ k = 2 * ((k - 1) / 2) + 2) := by omega
      generalize (k - 1) / 2 = q at hq hc
      exact (H q k (Nat.zero_le _) hk hc).trans sw (by omega) (ih q hq (by omega))

/-- `U`: every place `q ≥ i` (counted from `first`) already holds a key not below any key before it -/
theorem heapPop_sorted (sw : StrictWeak lt) (first n i : Nat) (s : St K V) (hsz : first + n ≤ s.keys.size) (hin : i ≤ n)
    (H : HeapFrom lt s.keys first 0 i)
    (U : ∀ p q, p < q → i ≤ q → q < n → KLe lt s.keys (first + p) (first + q)) :
    ∀ p q, p < q → q < n → KLe lt (heapPop (stdLess lt) first i s).keys (first + p) (first + q) := by
  fun_induction heapPop (stdLess lt) first i s with
  | case1 s => exact fun p q h1 h2 => U p q h1 (Nat.zero_le _) h2
  | case2 i s ih =>
    have hmax := heap_root_max sw s.keys first (i + 1) (by omega) H
    have hu : first < s.keys.size := by omega
    have hv : first + i < s.keys.size := by omega
    have hH : HeapFrom lt (siftDown (stdLess lt) i first 0 (s.swap first (first + i))).keys first 0 i :=
      siftDown_heap_from sw i first 0 _ (by rw [swap_keys, Array.size_swapIfInBounds]; omega)
        (fun r c h1 h2 h3 => KLe.swap hu hv (by
          rw [tr_of_ne (by omega) (by omega), tr_of_ne (by omega) (by omega)]; exact H r c (Nat.zero_le _) (by omega) h3))
    have st2 := (siftDown_run (stdLess lt) i first 0 (s.swap first (first + i))).1
    have st : Steps first (first + (i + 1)) s _ :=
      (Steps.swap1 s first (first + i) (by unfold InR; omega)).trans (st2.mono (Nat.le_refl _) (by omega))
    -- the old root, a maximum of the heap, now sits at `i`, outside the range of the sift
    have hti : (siftDown (stdLess lt) i first 0 (s.swap first (first + i))).keys[first + i]? = s.keys[first]? := by
      rw [(st2.outside (first + i) (Or.inr (Nat.le_refl _))).1, swap_keys, getElem?_swap_tr _ hu hv, tr_right]
    generalize siftDown (stdLess lt) i first 0 (s.swap first (first + i)) = t at *
    have hto : ∀ q, i < q → t.keys[first + q]? = s.keys[first + q]? :=
      fun q hq => (st.outside (first + q) (Or.inr (by omega))).1
    -- the keys of `[0,i]` were only permuted: each is still below the old root and below every later key
    have hP : AllK t.keys first (first + (i + 1)) (fun x => (∀ y, s.keys[first]? = some y → lt y x = false) ∧
        ∀ q y, i < q → q < n → s.keys[first + q]? = some y → lt y x = false) :=
      st.allK (Or.inl ⟨Nat.le_refl _, Nat.le_refl _⟩) (fun k x h1 h2 hx => by
        obtain ⟨k', rfl⟩ := Nat.exists_eq_add_of_le h1
        exact ⟨fun y hy => hmax k' (by omega) x y hx hy, fun q y hq hqn hy => U k' q (by omega) (by omega) hqn x y hx hy⟩)
    refine ih (by rw [st.keys_size]; exact hsz) (by omega) hH fun p q hpq hq hqn x y hx hy => ?_
    by_cases hqi : q = i
    · subst hqi
      exact (hP (first + p) x (by omega) (by omega) hx).1 y (hti ▸ hy)
    · rw [hto q (by omega)] at hy
      by_cases hp : p ≤ i
      · exact (hP (first + p) x (by omega) (by omega) hx).2 q y (by omega) hqn hy
      · rw [hto p (by omega)] at hx
        exact U p q hpq (by omega) hqn x y hx hy

theorem heapSort_sorted (sw : StrictWeak lt) (a b : Nat) (s : St K V) (hab : a ≤ b) (hb : b ≤ s.keys.size) :
    SortedOn lt (heapSort (stdLess lt) a b s).keys a b := by
  unfold heapSort
  dsimp only
  have hsz := (heapBuild_run (stdLess lt) (b - a) a ((b - a - 1) / 2) s).1.keys_size
  have hheap := heapBuild_heap sw (b - a) a ((b - a - 1) / 2) s (by omega) (fun r c h1 h2 h3 => by omega)
  have := heapPop_sorted sw a (b - a) (b - a) _ (by omega) (Nat.le_refl _) hheap (fun p q h1 h2 h3 => by omega)
  intro i j x y h1 h2 h3 hx hy
  obtain ⟨p, rfl⟩ := Nat.exists_eq_add_of_le h1
  obtain ⟨q, rfl⟩ := Nat.exists_eq_add_of_le (Nat.le_trans h1 (Nat.le_of_lt h2))
  exact this p q (by omega) (by omega) x y hx hy

end Got.Lemmas.Sort
