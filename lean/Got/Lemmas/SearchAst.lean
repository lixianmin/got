import Got.Generated.AstSortx
import Got.Lemmas.Search
/-
The MiniGo translation of sortx.Search that tools/srcfacts regenerates from /repo on every run
(Got/Generated/AstSortx.lean) computes, under the interpreter of Got/Model/MiniGo.lean, exactly the result and
the predicate-call log of the hand-written model `Got.Model.Search.search` — for every 64-bit `count` and all
predicates.  The theorems of C14 about `search` therefore hold for the translated source.
-/
namespace Got.Lemmas.SearchAst
open Got.Model.MiniGo Got.Model.Search Got.Lemmas.Search

/-- `x` is a value of Go's 64-bit `int` -/
def Rng (x : Int) : Prop := -9223372036854775808 ≤ x ∧ x < 9223372036854775808

/-- names in the generated term are positional: `a0` = count, `f0` = less, `f1` = equal, `v0` = i, `v1` = j, `v2` = mid -/
def fnsOf (less equal : Int → Bool) : String → Int → Bool :=
  fun f v => if f = "f0" then less v else if f = "f1" then equal v else false

def callOf : Probe → String × Int
  | .less k => ("f0", k)
  | .equal k => ("f1", k)

/-- `wrap` is MiniGo's; for MiniGoSort's copy of it this is `SortAst.wrap_eq` -/
theorem wrap_of_rng {x : Int} (h : Rng x) : wrap x = x := by
  unfold wrap; unfold Rng at h; omega

@[simp] theorem wrap_one : wrap 1 = 1 := by decide
@[simp] theorem wrap_zero : wrap 0 = 0 := by decide
@[simp] theorem wrap_neg_one : wrap (-1) = -1 := by decide

theorem mid_int (i j : Int) (hi : -1 ≤ i) (hij : i + 1 < j) (hj : j < 9223372036854775808) :
    wrap ((wrap (i + j) % 18446744073709551616) / 2) = (i + j) / 2 := by
  unfold wrap; omega

theorem exec_while_false {fns : String → Int → Bool} {f : Nat} {c : Cond} {body rest : List Stmt} {env : Env}
    {log log' : Log} (h : evalC fns env c log = some (false, log')) :
    exec fns (f + 1) (.while c body :: rest) env log = exec fns f rest env log' := by
  simp [exec, h]

theorem exec_while_true {fns : String → Int → Bool} {f : Nat} {c : Cond} {body rest : List Stmt} {env env' : Env}
    {log log' log'' : Log} (h : evalC fns env c log = some (true, log'))
    (hb : exec fns f body env log' = some (.cont env' log'')) :
    exec fns (f + 1) (.while c body :: rest) env log = exec fns f (.while c body :: rest) env' log'' := by
  simp [exec, h, hb]

/-- the loop statement of the generated body -/
def W : Stmt :=
  .while (.ne (.add (.var "v0") (.lit 1)) (.var "v1")) [
    .decl "v2" (.conv (.shrU (.conv (.add (.var "v0") (.var "v1"))) 1)),
    .ite (.call "f0" (.var "v2")) [.assign "v0" (.var "v2")] [.assign "v1" (.var "v2")]]

theorem W_iter (less equal : Int → Bool) (tail : List Stmt) {i j : Int} {env : Env} (plog : List Probe) (f : Nat)
    (hi : -1 ≤ i) (hij : i + 1 < j) (hj : j < 9223372036854775808)
    (hei : env.lookup "v0" = some i) (hej : env.lookup "v1" = some j) :
    exec (fnsOf less equal) (f + 5) (W :: tail) env (plog.map callOf) =
      exec (fnsOf less equal) (f + 4) (W :: tail)
        ((if less ((i + j) / 2) = true then "v0" else "v1", (i + j) / 2) :: ("v2", (i + j) / 2) :: env)
        ((plog ++ [Probe.less ((i + j) / 2)]).map callOf) := by
  have hw : wrap (i + 1) = i + 1 := wrap_of_rng (by unfold Rng; omega)
  have hm := mid_int i j hi hij hj
  refine exec_while_true (log' := plog.map callOf) (by simp [evalC, eval, hei, hej, hw]; omega) ?_
  cases hl : less ((i + j) / 2) <;> simp [exec, evalC, eval, hei, hej, hm, fnsOf, hl, callOf, List.lookup]

/-- An iteration of `W` costs one unit of fuel (`W_iter`, with four more in reserve for its body) and decreases `j - i`, so
    `n ≥ j - i` pays for the loop: cruder than the ⌈lg⌉ iterations actually made, but it needs no arithmetic on midpoints.
    The `+ 6` covers the body of the last iteration and leaves `6 ≤ fuel'` for the tail (which needs 4). -/
theorem loop_exec (less equal : Int → Bool) (count : Int) (hc : Rng count) (tail : List Stmt) :
    ∀ (n : Nat) (i j : Int) (plog : List Probe) (jf : Int) (plog' : List Probe) (env : Env) (fuel : Nat),
      loop less i j plog = some (jf, plog') → (j - i).toNat ≤ n →
      -1 ≤ i → i < j → j ≤ count →
      env.lookup "v0" = some i → env.lookup "v1" = some j → env.lookup "a0" = some count →
      n + 6 ≤ fuel →
      ∃ env' fuel', 6 ≤ fuel' ∧ env'.lookup "v1" = some jf ∧ env'.lookup "a0" = some count ∧
        exec (fnsOf less equal) fuel (W :: tail) env (plog.map callOf) =
          exec (fnsOf less equal) fuel' tail env' (plog'.map callOf) := by
  intro n i j plog
  fun_induction loop less i j plog generalizing n with
  | case1 i plog =>
    intro jf plog' env fuel hl hn hi hij hj hei hej hec hf
    cases hl
    obtain ⟨f, rfl⟩ : ∃ f, fuel = f + 1 := ⟨fuel - 1, by omega⟩
    have hw : wrap (i + 1) = i + 1 := wrap_of_rng (by unfold Rng at *; omega)
    exact ⟨env, f, by omega, hej, hec, exec_while_false (by simp [evalC, eval, hei, hej, hw])⟩
  | case2 i j plog hne hlt mid hless ih =>
    intro jf plog' env fuel hl hn hi hij hj hei hej hec hf
    obtain ⟨f, rfl⟩ : ∃ f, fuel = f + 5 := ⟨fuel - 5, by omega⟩
    rw [W_iter less equal tail _ f hi hlt (by unfold Rng at hc; omega) hei hej, if_pos hless]
    exact ih (n - 1) jf plog' _ (f + 4) hl (by omega) (by omega) (by omega) hj
      rfl hej hec (by omega)
  | case3 i j plog hne hlt mid hless ih =>
    intro jf plog' env fuel hl hn hi hij hj hei hej hec hf
    obtain ⟨f, rfl⟩ : ∃ f, fuel = f + 5 := ⟨fuel - 5, by omega⟩
    rw [W_iter less equal tail _ f hi hlt (by unfold Rng at hc; omega) hei hej, if_neg hless]
    exact ih (n - 1) jf plog' _ (f + 4) hl (by omega) hi (by omega) (by omega)
      hei rfl hec (by omega)
  | case4 i j plog hne hnlt => intro jf plog' env fuel hl; cases hl

def tail : List Stmt :=
  [.ite (.or (.eq (.var "v1") (.var "a0")) (.not (.call "f1" (.var "v1")))) [.ret (.compl (.var "v1"))] [], .ret (.var "v1")]

theorem body_shape : Got.Generated.AstSortx.search.body =
    .ite (.le (.var "a0") (.lit 0)) [.ret (.neg (.lit 1))] [] :: .decl "v0" (.neg (.lit 1)) :: .decl "v1" (.var "a0") ::
      W :: tail := rfl

/-- `count + 12` rounds up `count + 10`: three statements in front of the loop, `j - i = count + 1` at its entry
    (`i = -1`), and the `+ 6` of `loop_exec` -/
theorem search_ast_refines (count : Int) (hc : Rng count) (less equal : Int → Bool) (r : Int) (log : List Probe)
    (hs : search count less equal = some (r, log)) (fuel : Nat) (hf : count.toNat + 12 ≤ fuel) :
    Got.Generated.AstSortx.search.run (fnsOf less equal) fuel [count] = some (.ret r (log.map callOf)) := by
  unfold Fn.run
  rw [body_shape]
  have hwc : wrap count = count := wrap_of_rng hc
  obtain ⟨f, rfl⟩ : ∃ f, fuel = f + 4 := ⟨fuel - 4, by omega⟩
  by_cases h0 : count ≤ 0
  · unfold search at hs
    rw [if_pos h0] at hs
    cases hs
    simp [Got.Generated.AstSortx.search, exec, evalC, eval, hwc, h0]
  · obtain ⟨jf, plog, hp, hl, h⟩ := search_eq less equal (Int.not_le.mp h0)
    rw [h] at hs
    cases hs
    have hr1 := hp.lo
    have hr2 := hp.hi
    obtain ⟨env', fuel', h6, hj', hc', he⟩ :=
      loop_exec less equal count hc tail (count + 1).toNat (-1) count [] jf plog
        [("v1", count), ("v0", -1), ("a0", count)] (f + 1) hl (by omega) (by omega) (by omega) (by omega)
        rfl rfl rfl (by omega)
    have hstart : ∀ rest, exec (fnsOf less equal) (f + 4)
        (.ite (.le (.var "a0") (.lit 0)) [.ret (.neg (.lit 1))] [] :: .decl "v0" (.neg (.lit 1)) :: .decl "v1" (.var "a0") :: rest)
        (List.zip Got.Generated.AstSortx.search.intParams (List.map wrap [count])) [] =
        exec (fnsOf less equal) (f + 1) rest [("v1", count), ("v0", -1), ("a0", count)] [] := by
      simp [Got.Generated.AstSortx.search, exec, evalC, eval, hwc, h0, List.lookup]
    rw [hstart]
    simp only [List.map_nil] at he
    rw [he]
    obtain ⟨g, rfl⟩ : ∃ g, fuel' = g + 4 := ⟨fuel' - 4, by omega⟩
    have hwj : wrap (-jf - 1) = -jf - 1 := wrap_of_rng (by unfold Rng at *; omega)
    by_cases hjc : jf = count
    · rw [hjc] at hwj hj'
      simp [tail, exec, evalC, eval, hj', hc', hwj, compl, hjc]
    · have hlt : jf < count := by omega
      cases heq : equal jf with
      | false => simp [tail, exec, evalC, eval, hj', hc', hjc, hlt, hwj, compl, fnsOf, heq, callOf]
      | true => simp [tail, exec, evalC, eval, hj', hc', hjc, hlt, fnsOf, heq, callOf]

end Got.Lemmas.SearchAst
