import Got.Model.GoHeap
/-
Lemmas about the container/heap transcription `Got.Model.GoHeap`.  For an ARBITRARY `less` (e.g. float `<` with NaN) the
operations only permute the elements and the fuel of `upAux`/`downAux` never runs out; from `TotalPreorder` on, `push` and
`pop` preserve `IsHeap` and `pop` returns a minimal element.  Nothing is proved here about what `init`, `fix` and `remove`
compute: they are transcribed, and tied to the library source in HeapAstDown.lean / HeapAstAll.lean, only.
-/
namespace Got.Lemmas.GoHeap
open Got.Model.GoHeap

variable {α : Type}

theorem parent_lt {k n : Nat} (h : k < n) : (k - 1) / 2 < n :=
  Nat.lt_of_le_of_lt (Nat.le_trans (Nat.div_le_self _ _) (Nat.sub_le _ _)) h

theorem parent_lt_self {k : Nat} (h : 0 < k) : (k - 1) / 2 < k :=
  Nat.lt_of_le_of_lt (Nat.div_le_self _ _) (Nat.sub_lt h Nat.one_pos)

theorem child_cases {c p : Nat} (h0 : 0 < c) (h : (c - 1) / 2 = p) : c = 2 * p + 1 ∨ c = 2 * p + 1 + 1 := by omega

theorem child_parent {p c : Nat} (h1 : 2 * p + 1 ≤ c) (h2 : c ≤ 2 * p + 1 + 1) : (c - 1) / 2 = p ∧ 0 < c := by omega

theorem parent_lt_fuel {j f : Nat} (hij : (j - 1) / 2 ≠ j) (hf : j < f + 1) : (j - 1) / 2 < f :=
  Nat.lt_of_lt_of_le (parent_lt_self (Nat.pos_of_ne_zero fun h => hij (h ▸ rfl))) (Nat.le_of_lt_succ hf)

theorem fuel_ne_zero {i n f : Nat} (h1 : 2 * i + 1 < n) (h : n - i ≤ f) : f ≠ 0 := by omega

theorem fuel_child {i j n f : Nat} (hj : 2 * i + 1 ≤ j) (h : n - i ≤ f + 1) : n - j ≤ f := by omega

theorem upAux_perm (less : α → α → Bool) (fuel : Nat) (a : Array α) (j : Nat) : (upAux less fuel a j).Perm a := by
  fun_induction upAux less fuel a j with
  | case4 _ _ _ _ _ _ _ ih => exact ih.trans (Array.swap_perm _ _)
  | _ => exact .refl _

theorem upAux_size (less : α → α → Bool) (fuel : Nat) (a : Array α) (j : Nat) : (upAux less fuel a j).size = a.size :=
  (upAux_perm less fuel a j).size_eq

theorem downAux_perm (less : α → α → Bool) (fuel : Nat) (a : Array α) (i n : Nat) : (downAux less fuel a i n).1.Perm a := by
  fun_induction downAux less fuel a i n with
  | case3 _ _ _ _ _ _ _ _ _ ih => exact ih.trans (Array.swap_perm _ _)
  | _ => exact .refl _

theorem downAux_size (less : α → α → Bool) (fuel : Nat) (a : Array α) (i n : Nat) :
    (downAux less fuel a i n).1.size = a.size :=
  (downAux_perm less fuel a i n).size_eq

theorem downAux_getElem? (less : α → α → Bool) (fuel : Nat) (a : Array α) (i n : Nat) (k : Nat) (hnk : n ≤ k) :
    (downAux less fuel a i n).1[k]? = a[k]? := by
  fun_induction downAux less fuel a i n with
  | case3 _ a i n _ _ j hj _ ih => rw [ih hnk, Array.getElem?_swap, if_neg (by omega), if_neg (by omega)]
  | _ => rfl

/-- more fuel than `j + 1` changes nothing: the loop of `up` always ends by one of its `break`s -/
theorem upAux_fuel (less : α → α → Bool) (f1 f2 : Nat) (a : Array α) (j : Nat) (h1 : j < f1) (h2 : j < f2) :
    upAux less f1 a j = upAux less f2 a j := by
  fun_induction upAux less f1 a j generalizing f2 with
  | case1 => omega
  | case2 _ a j hj _ hij =>
    obtain ⟨f2, rfl⟩ := Nat.exists_eq_add_one_of_ne_zero (Nat.ne_zero_of_lt h2)
    rw [upAux, dif_pos hj, if_pos hij]
  | case3 _ a j hj _ hij hl =>
    obtain ⟨f2, rfl⟩ := Nat.exists_eq_add_one_of_ne_zero (Nat.ne_zero_of_lt h2)
    rw [upAux, dif_pos hj, if_neg hij, if_pos hl]
  | case4 _ a j hj _ hij hl ih =>
    obtain ⟨f2, rfl⟩ := Nat.exists_eq_add_one_of_ne_zero (Nat.ne_zero_of_lt h2)
    rw [upAux, dif_pos hj, if_neg hij, if_neg hl]
    exact ih f2 (parent_lt_fuel hij h1) (parent_lt_fuel hij h2)
  | case5 _ a j hj =>
    obtain ⟨f2, rfl⟩ := Nat.exists_eq_add_one_of_ne_zero (Nat.ne_zero_of_lt h2)
    rw [upAux, dif_neg hj]

theorem downAux_fuel (less : α → α → Bool) (f1 f2 : Nat) (a : Array α) (i n : Nat) (h1 : n - i ≤ f1) (h2 : n - i ≤ f2) :
    downAux less f1 a i n = downAux less f2 a i n := by
  fun_induction downAux less f1 a i n generalizing f2 with
  | case1 a i n =>
    cases f2 with
    | zero => rfl
    | succ f2 =>
      rw [downAux]
      split
      · rw [dif_neg (by omega)]
      · rfl
  | case2 _ a i n hn hlt j hj hl =>
    obtain ⟨f2, rfl⟩ := Nat.exists_eq_add_one_of_ne_zero (fuel_ne_zero hlt h2)
    rw [downAux, dif_pos hn, dif_pos hlt, if_pos hl]
  | case3 _ a i n hn hlt j hj hl ih =>
    obtain ⟨f2, rfl⟩ := Nat.exists_eq_add_one_of_ne_zero (fuel_ne_zero hlt h2)
    rw [downAux, dif_pos hn, dif_pos hlt, if_neg hl]
    exact ih f2 (fuel_child hj.1 h1) (fuel_child hj.1 h2)
  | case4 _ a i n hn hlt =>
    cases f2 with
    | zero => rfl
    | succ f2 => rw [downAux, dif_pos hn, dif_neg hlt]
  | case5 _ a i n hn =>
    cases f2 with
    | zero => rfl
    | succ f2 => rw [downAux, dif_neg hn]

theorem up_size (less : α → α → Bool) (a : Array α) (j : Nat) : (up less a j).size = a.size := upAux_size _ _ _ _
theorem up_perm (less : α → α → Bool) (a : Array α) (j : Nat) : (up less a j).Perm a := upAux_perm _ _ _ _

theorem down_size (less : α → α → Bool) (a : Array α) (i n : Nat) : (down less a i n).1.size = a.size :=
  downAux_size less _ _ _ _

theorem push_size (less : α → α → Bool) (a : Array α) (x : α) : (push less a x).size = a.size + 1 := by
  simp [push, up_size]

theorem push_perm (less : α → α → Bool) (a : Array α) (x : α) : (push less a x).toList.Perm (x :: a.toList) := by
  have h := Array.perm_iff_toList_perm.mp (up_perm less (a.push x) a.size)
  rw [Array.toList_push] at h
  exact h.trans (List.perm_append_singleton _ _)

/-- what `pop` leaves of a non-empty array -/
def popRest (less : α → α → Bool) (a : Array α) (h : 0 < a.size) : Array α :=
  (downLoop less (a.swap 0 (a.size - 1) h (by omega)) 0 (a.size - 1)).1.pop

/-- `down` works below the last position, where the swap has put the old root -/
theorem popLoop_eq (less : α → α → Bool) (a : Array α) (h : 0 < a.size) :
    (downLoop less (a.swap 0 (a.size - 1) h (by omega)) 0 (a.size - 1)).1 = (popRest less a h).push a[0] := by
  have hb : (downLoop less (a.swap 0 (a.size - 1) h (by omega)) 0 (a.size - 1)).1.back? = some a[0] := by
    rw [Array.back?_eq_getElem?, downLoop, downAux_size, Array.size_swap,
      downAux_getElem? less _ _ _ _ _ (Nat.le_refl _), Array.getElem?_swap, if_pos rfl]
  obtain ⟨ys, he⟩ := Array.back?_eq_some_iff.mp hb
  rw [popRest, he, Array.pop_push]

theorem pop_eq (less : α → α → Bool) (a : Array α) (h : 0 < a.size) : pop less a = some (a[0], popRest less a h) := by
  unfold pop
  rw [dif_pos h]
  dsimp only
  rw [popLoop_eq, Array.back?_push, Array.pop_push]

theorem pop_none (less : α → α → Bool) (a : Array α) (h : a.size = 0) : pop less a = none := by
  unfold pop
  rw [dif_neg (by omega)]

theorem popRest_perm (less : α → α → Bool) (a : Array α) (h : 0 < a.size) :
    (a[0] :: (popRest less a h).toList).Perm a.toList := by
  have hp : ((popRest less a h).push a[0]).Perm a := by
    rw [← popLoop_eq]
    exact (downAux_perm _ _ _ _ _).trans (Array.swap_perm _ _)
  have hp := Array.perm_iff_toList_perm.mp hp
  rw [Array.toList_push] at hp
  exact (List.perm_append_singleton _ _).symm.trans hp

theorem popRest_size (less : α → α → Bool) (a : Array α) (h : 0 < a.size) : (popRest less a h).size + 1 = a.size := by
  simpa using (popRest_perm less a h).length_eq

theorem pop_perm (less : α → α → Bool) (a : Array α) (x : α) (b : Array α) (hp : pop less a = some (x, b)) :
    (x :: b.toList).Perm a.toList ∧ b.size + 1 = a.size := by
  by_cases h : 0 < a.size
  · rw [pop_eq less a h] at hp
    cases hp
    exact ⟨popRest_perm less a h, popRest_size less a h⟩
  · rw [pop_none less a (Nat.eq_zero_of_not_pos h)] at hp
    cases hp

/-- `less` is a strict weak order: asymmetric, and `a ≤ b := ¬ b < a` is transitive (ties allowed).
    Holds for `<` of any linear order and for float `<` in the absence of NaN.  `Sort.StrictWeak` (SortOrder.lean) is the
    same notion axiomatised on the strict side; no lemma relates the two. -/
structure TotalPreorder (less : α → α → Bool) : Prop where
  asymm : ∀ a b, less a b = true → less b a = false
  /-- `a ≤ b → b ≤ c → a ≤ c` -/
  ntrans : ∀ a b c, less b a = false → less c b = false → less c a = false

theorem TotalPreorder.irrefl {less : α → α → Bool} (tp : TotalPreorder less) (a : α) : less a a = false := by
  cases h : less a a with
  | false => rfl
  | true => rw [tp.asymm a a h] at h; cases h

/-- heap invariant on the prefix `[0, n)`: no element is smaller than its parent -/
def HeapOn (less : α → α → Bool) (a : Array α) (n : Nat) : Prop :=
  ∀ (k : Nat) (hk : k < a.size), k < n → 0 < k → less a[k] (a[(k - 1) / 2]'(by omega)) = false

def IsHeap (less : α → α → Bool) (a : Array α) : Prop := HeapOn less a a.size

theorem root_min {less : α → α → Bool} (tp : TotalPreorder less) (a : Array α) (hh : IsHeap less a) (h : 0 < a.size) :
    ∀ y ∈ a.toList, less y a[0] = false := by
  have hk : ∀ (k : Nat) (hk : k < a.size), less a[k] a[0] = false := by
    intro k
    induction k using Nat.strongRecOn with
    | _ k ih =>
      intro hk
      by_cases h0 : k = 0
      · subst h0; exact tp.irrefl _
      · have h0 : 0 < k := Nat.pos_of_ne_zero h0
        exact tp.ntrans _ _ _ (ih _ (parent_lt_self h0) (parent_lt hk)) (hh k hk hk h0)
  intro y hy
  obtain ⟨k, hlt, rfl⟩ := List.mem_iff_getElem.mp hy
  exact hk k (by simpa using hlt)

/-- the edge above `k` after a child `c` smaller than its parent `p` has been swapped with it (the step of both `up` and
    `down`) -/
theorem swap_edge {less : α → α → Bool} (tp : TotalPreorder less) (a : Array α) (p c : Nat) (hp : p < a.size) (hc : c < a.size)
    (hpc : (c - 1) / 2 = p) (hc0 : 0 < c) (hl : less a[c] a[p] = true) (k : Nat) (hk : k < a.size) (h0 : 0 < k)
    (hgp : k = p → less a[c] (a[(p - 1) / 2]'(parent_lt hp)) = false)
    (hsib : (k - 1) / 2 = p → k ≠ c → less a[k] a[c] = false)
    (hch : (k - 1) / 2 = c → less a[k] a[p] = false)
    (hother : k ≠ c → k ≠ p → (k - 1) / 2 ≠ p → (k - 1) / 2 ≠ c → less a[k] (a[(k - 1) / 2]'(parent_lt hk)) = false) :
    less ((a.swap p c hp hc)[k]'(by rw [Array.size_swap]; exact hk))
      ((a.swap p c hp hc)[(k - 1) / 2]'(by rw [Array.size_swap]; exact parent_lt hk)) = false := by
  have hcp : p < c := hpc ▸ parent_lt_self hc0
  simp only [Array.getElem_swap]
  by_cases hkc : k = c
  · subst hkc
    rw [if_neg (Nat.ne_of_gt hcp), if_pos rfl, if_pos hpc]
    exact tp.asymm _ _ hl
  · by_cases hkp : k = p
    · subst hkp
      rw [if_pos rfl, if_neg (Nat.ne_of_lt (parent_lt_self h0)),
        if_neg (Nat.ne_of_lt (Nat.lt_trans (parent_lt_self h0) hcp))]
      exact hgp rfl
    · rw [if_neg hkp, if_neg hkc]
      by_cases h1 : (k - 1) / 2 = p
      · rw [if_pos h1]
        exact hsib h1 hkc
      · rw [if_neg h1]
        by_cases h2 : (k - 1) / 2 = c
        · rw [if_pos h2]
          exact hch h2
        · rw [if_neg h2]
          exact hother hkc hkp h1 h2

/-- invariant of `up` at position `j`: every parent/child edge is in order except possibly the edge above `j`,
    and the children of `j` are not smaller than `j`'s parent -/
structure UpInv (less : α → α → Bool) (a : Array α) (j : Nat) : Prop where
  edge : ∀ (k : Nat) (hk : k < a.size), 0 < k → k ≠ j → less a[k] (a[(k - 1) / 2]'(parent_lt hk)) = false
  skip : ∀ (c : Nat) (hc : c < a.size) (_h0 : 0 < c) (hcj : (c - 1) / 2 = j) (_hj : 0 < j),
    less a[c] (a[(j - 1) / 2]'(parent_lt (hcj ▸ parent_lt hc))) = false

theorem UpInv.swap {less : α → α → Bool} (tp : TotalPreorder less) (a : Array α) (j : Nat) (hj : j < a.size)
    (hij : (j - 1) / 2 ≠ j) (hl : less a[j] (a[(j - 1) / 2]'(parent_lt hj)) = true) (hinv : UpInv less a j) :
    UpInv less (a.swap ((j - 1) / 2) j (parent_lt hj) hj) ((j - 1) / 2) := by
  have hi : (j - 1) / 2 < a.size := parent_lt hj
  have hj0 : 0 < j := Nat.pos_of_ne_zero fun h => hij (h ▸ rfl)
  have hji : less (a[(j - 1) / 2]'hi) a[j] = false := tp.asymm _ _ hl
  constructor
  · intro k hk h0 hki
    have hk' : k < a.size := by rw [Array.size_swap] at hk; exact hk
    refine swap_edge tp a _ j hi hj rfl hj0 hl k hk' h0 (fun h => absurd h hki) (fun h1 hkj => ?_)
      (fun h2 => hinv.skip k hk' h0 h2 hj0) (fun hkj _ _ _ => hinv.edge k hk' h0 hkj)
    have := hinv.edge k hk' h0 hkj
    simp only [h1] at this
    exact tp.ntrans _ _ _ hji this
  · intro c hc h0 hci hi0
    have hc' : c < a.size := by rw [Array.size_swap] at hc; exact hc
    have hgi := hinv.edge ((j - 1) / 2) hi hi0 hij
    have hg1 : ((j - 1) / 2 - 1) / 2 ≠ (j - 1) / 2 := Nat.ne_of_lt (parent_lt_self hi0)
    have hg2 : ((j - 1) / 2 - 1) / 2 ≠ j := Nat.ne_of_lt (Nat.lt_trans (parent_lt_self hi0) (parent_lt_self hj0))
    simp only [Array.getElem_swap]
    rw [if_neg (Nat.ne_of_gt (hci ▸ parent_lt_self h0))]
    by_cases hcj : c = j
    · subst hcj
      rw [if_pos rfl, if_neg hg1, if_neg hg2]
      exact hgi
    · rw [if_neg hcj, if_neg hg1, if_neg hg2]
      have := hinv.edge c hc' h0 hcj
      simp only [hci] at this
      exact tp.ntrans _ _ _ hgi this

theorem upAux_heap {less : α → α → Bool} (tp : TotalPreorder less) (fuel : Nat) (a : Array α) (j : Nat)
    (hf : j < fuel) (hj : j < a.size) (hinv : UpInv less a j) : IsHeap less (upAux less fuel a j) := by
  fun_induction upAux less fuel a j with
  | case1 => omega
  | case2 _ a j _ _ hij => exact fun k hk _ h0 => hinv.edge k hk h0 (by omega)
  | case3 _ a j _ _ _ hl =>
    intro k hk _ h0
    by_cases hkj : k = j
    · subst hkj
      simpa using hl
    · exact hinv.edge k hk h0 hkj
  | case4 _ a j hj _ hij hl ih =>
    exact ih (parent_lt_fuel hij hf) (by rw [Array.size_swap]; exact parent_lt hj)
      (hinv.swap tp a j hj hij (by simpa using hl))
  | case5 => contradiction

theorem push_heap {less : α → α → Bool} (tp : TotalPreorder less) (a : Array α) (x : α) (hh : IsHeap less a) :
    IsHeap less (push less a x) := by
  refine upAux_heap tp _ _ _ (Nat.lt_succ_self _) (by rw [Array.size_push]; exact Nat.lt_succ_self _) ⟨?_, ?_⟩
  · intro k hk h0 hka
    rw [Array.size_push] at hk
    have hk' : k < a.size := Nat.lt_of_le_of_ne (Nat.le_of_lt_succ hk) hka
    rw [Array.getElem_push, Array.getElem_push, dif_pos hk', dif_pos (parent_lt hk')]
    exact hh k hk' hk' h0
  · intro c hc h0 hca _
    rw [Array.size_push] at hc
    -- the new last position has no child yet
    exact absurd (hca ▸ parent_lt_self h0) (Nat.not_lt.mpr (Nat.le_of_lt_succ hc))

/-- invariant of `down` at position `i` on the prefix `[0, n)`: every edge is in order except possibly those
    below `i`, and the children of `i` are not smaller than `i`'s parent -/
structure DownInv (less : α → α → Bool) (a : Array α) (n i : Nat) : Prop where
  edge : ∀ (k : Nat) (hk : k < a.size), k < n → 0 < k → (k - 1) / 2 ≠ i → less a[k] (a[(k - 1) / 2]'(parent_lt hk)) = false
  skip : ∀ (c : Nat) (hc : c < a.size) (_hcn : c < n) (_h0 : 0 < c) (hci : (c - 1) / 2 = i) (_hi : 0 < i),
    less a[c] (a[(i - 1) / 2]'(parent_lt (hci ▸ parent_lt hc))) = false

theorem pickChild_min {less : α → α → Bool} (tp : TotalPreorder less) (a : Array α) (i n : Nat) (hn : n ≤ a.size)
    (h1 : 2 * i + 1 < n) (c : Nat) (hc : c < n) (h0 : 0 < c) (hci : (c - 1) / 2 = i) :
    less (a[c]'(Nat.lt_of_lt_of_le hc hn))
      (a[pickChild less a (2 * i + 1) n hn h1]'(Nat.lt_of_lt_of_le (pickChild_spec less a (2 * i + 1) n hn h1).2.2 hn)) = false := by
  have hcc := child_cases h0 hci
  by_cases h2 : 2 * i + 1 + 1 < n
  · by_cases hl : less (a[2 * i + 1 + 1]'(Nat.lt_of_lt_of_le h2 hn)) (a[2 * i + 1]'(Nat.lt_of_lt_of_le h1 hn)) = true
    · have hpc : pickChild less a (2 * i + 1) n hn h1 = 2 * i + 1 + 1 := by
        unfold pickChild; rw [dif_pos h2, if_pos hl]
      simp only [hpc]
      rcases hcc with rfl | rfl
      · exact tp.asymm _ _ hl
      · exact tp.irrefl _
    · have hpc : pickChild less a (2 * i + 1) n hn h1 = 2 * i + 1 := by
        unfold pickChild; rw [dif_pos h2, if_neg hl]
      simp only [hpc]
      rcases hcc with rfl | rfl
      · exact tp.irrefl _
      · simpa using hl
  · have hpc : pickChild less a (2 * i + 1) n hn h1 = 2 * i + 1 := by
      unfold pickChild; rw [dif_neg h2]
    simp only [hpc]
    rcases hcc with rfl | rfl
    · exact tp.irrefl _
    · exact absurd hc h2

theorem DownInv.leaf {less : α → α → Bool} {a : Array α} {n i : Nat} (hinv : DownInv less a n i) (h : n ≤ 2 * i + 1) :
    HeapOn less a n :=
  fun k hk hkn h0 => hinv.edge k hk hkn h0 (by omega)

/-- `j` is the smaller child of `i` (`hmin`): `a[i]` stays and the prefix is a heap, or the swap moves the exception to `j` -/
theorem down_step {less : α → α → Bool} (tp : TotalPreorder less) (a : Array α) (i n j : Nat) (hia : i < a.size)
    (hja : j < a.size) (hj : 2 * i + 1 ≤ j ∧ j ≤ 2 * i + 1 + 1 ∧ j < n)
    (hmin : ∀ (c : Nat) (hc : c < a.size), c < n → 0 < c → (c - 1) / 2 = i → less a[c] a[j] = false)
    (hinv : DownInv less a n i) :
    (less a[j] a[i] = false → HeapOn less a n) ∧ (less a[j] a[i] = true → DownInv less (a.swap i j hia hja) n j) := by
  obtain ⟨hpj, hj0⟩ := child_parent hj.1 hj.2.1
  have hjn := hj.2.2
  have hij : i < j := hpj ▸ parent_lt_self hj0
  constructor
  · intro hl k hk hkn h0
    by_cases hp : (k - 1) / 2 = i
    · have := hmin k hk hkn h0 hp
      simp only [hp]
      exact tp.ntrans _ _ _ hl this
    · exact hinv.edge k hk hkn h0 hp
  · intro hl
    constructor
    · intro k hk hkn h0 hpk
      have hk' : k < a.size := by rw [Array.size_swap] at hk; exact hk
      exact swap_edge tp a i j hia hja hpj hj0 hl k hk' h0 (fun h => hinv.skip j hja hjn hj0 hpj (h ▸ h0))
        (fun h1 _ => hmin k hk' hkn h0 h1) (fun h2 => absurd h2 hpk) (fun _ _ h1 _ => hinv.edge k hk' hkn h0 h1)
    · intro c hc hcn h0 hcj hj0'
      have hc' : c < a.size := by rw [Array.size_swap] at hc; exact hc
      have hjc : j < c := hcj ▸ parent_lt_self h0
      simp only [Array.getElem_swap]
      rw [if_neg (Nat.ne_of_gt (Nat.lt_trans hij hjc)), if_neg (Nat.ne_of_gt hjc), if_pos hpj]
      have := hinv.edge c hc' hcn h0 (by rw [hcj]; exact Nat.ne_of_gt hij)
      simp only [hcj] at this
      exact this

theorem downAux_heap {less : α → α → Bool} (tp : TotalPreorder less) (fuel : Nat) (a : Array α) (i n : Nat)
    (hf : n - i ≤ fuel) (hn : n ≤ a.size) (hinv : DownInv less a n i) : HeapOn less (downAux less fuel a i n).1 n := by
  fun_induction downAux less fuel a i n with
  | case1 => exact hinv.leaf (by omega)
  | case2 _ a i n hn h1 j hj hl =>
    exact (down_step tp a i n j (by omega) (by omega) hj
      (fun c _ hc h0 hci => pickChild_min tp a i n hn h1 c hc h0 hci) hinv).1 (by simpa using hl)
  | case3 _ a i n hn h1 j hj hl ih =>
    exact ih (fuel_child hj.1 hf) (by rw [Array.size_swap]; exact hn)
      ((down_step tp a i n j (by omega) (by omega) hj
        (fun c _ hc h0 hci => pickChild_min tp a i n hn h1 c hc h0 hci) hinv).2 (by simpa using hl))
  | case4 _ a i n _ h1 => exact hinv.leaf (by omega)
  | case5 => contradiction

/-- heap.Pop on a heap leaves a heap; the element it returns is minimal by `root_min` -/
theorem popRest_heap {less : α → α → Bool} (tp : TotalPreorder less) (a : Array α) (hh : IsHeap less a) (h : 0 < a.size) :
    IsHeap less (popRest less a h) := by
  have hdi : DownInv less (a.swap 0 (a.size - 1) h (Nat.sub_lt h Nat.one_pos)) (a.size - 1) 0 := by
    constructor
    · intro k hk hkn h0 hpk
      have hka : k < a.size := Nat.lt_of_lt_of_le hkn (Nat.sub_le _ _)
      simp only [Array.getElem_swap]
      rw [if_neg (Nat.ne_of_gt h0), if_neg (Nat.ne_of_lt hkn), if_neg hpk, if_neg (Nat.ne_of_lt (parent_lt hkn))]
      exact hh k hka hka h0
    · exact fun c _ _ _ _ h00 => absurd h00 (Nat.lt_irrefl 0)
  have hheap := downAux_heap tp _ _ _ _ (Nat.le_refl _) (by rw [Array.size_swap]; exact Nat.sub_le _ _) hdi
  intro k hk _ h0
  have hk' : k < a.size - 1 := Nat.lt_sub_of_add_lt (popRest_size less a h ▸ Nat.succ_lt_succ hk)
  simp only [popRest, Array.getElem_pop]
  exact hheap k _ hk' h0

end Got.Lemmas.GoHeap
