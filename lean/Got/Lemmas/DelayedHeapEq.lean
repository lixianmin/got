import Got.Model.Delayed
import Got.Lemmas.GoHeap
/-
The two hand-written transcriptions of Go's container/heap compute the same arrays: `Got.Model.DelayedHeap` (well-founded
recursion, `swapIfInBounds`), the heap inside the C10 model, and `Got.Model.GoHeap` (fuel recursion, `swap` with bounds
proofs), the one of C20, about which the heap lemmas (`Got.Lemmas.GoHeap`) and the ties to the translated source of
container/heap (`Got.Lemmas.HeapAst*`) are proved.
-/
namespace Got.Lemmas.DelayedHeapEq
open Got.Model
open Got.Lemmas.GoHeap

variable {α : Type}

theorem swapIfInBounds_eq_swap (a : Array α) (i j : Nat) (hi : i < a.size) (hj : j < a.size) :
    a.swapIfInBounds i j = a.swap i j hi hj := by
  rw [Array.swapIfInBounds_def, dif_pos hi, dif_pos hj]

theorem up_eq (lt : α → α → Bool) (a : Array α) (j : Nat) : DelayedHeap.up lt a j = GoHeap.up lt a j := by
  unfold GoHeap.up
  fun_induction DelayedHeap.up lt a j with
  | case1 a j hj hij =>
    rw [GoHeap.upAux, dif_pos hj]
    exact (if_pos hij).symm
  | case2 a j hj hij hl ih =>
    have hj0 : 0 < j := Nat.pos_of_ne_zero fun h => hij (h ▸ rfl)
    rw [GoHeap.upAux, dif_pos hj]
    dsimp only
    rw [if_neg hij, hl, ← swapIfInBounds_eq_swap a ((j - 1) / 2) j (parent_lt hj) hj, ih]
    exact upAux_fuel lt _ _ _ _ (Nat.lt_succ_self _) (parent_lt_self hj0)
  | case3 a j hj hij hl =>
    rw [GoHeap.upAux, dif_pos hj]
    dsimp only
    rw [if_neg hij, Bool.eq_false_iff.2 hl]
    rfl
  | case4 a j hj => rw [GoHeap.upAux, dif_neg hj]

theorem child_eq (lt : α → α → Bool) (a : Array α) (i n : Nat) (h : 2 * i + 1 < n ∧ n ≤ a.size) :
    DelayedHeap.child lt a i n h = GoHeap.pickChild lt a (2 * i + 1) n h.2 h.1 := by
  unfold DelayedHeap.child GoHeap.pickChild
  rfl

theorem down_eq_fuel (lt : α → α → Bool) (a : Array α) (i n : Nat) :
    ∀ f, n - i ≤ f → DelayedHeap.down lt a i n = (GoHeap.downAux lt f a i n).1 := by
  fun_induction DelayedHeap.down lt a i n with
  | case1 a i h1 hl ih =>
    intro f hf
    obtain ⟨g, rfl⟩ := Nat.exists_eq_add_one_of_ne_zero (fuel_ne_zero h1.1 hf)
    have hp := GoHeap.pickChild_spec lt a (2 * i + 1) n h1.2 h1.1
    simp only [child_eq] at hl ih ⊢
    rw [GoHeap.downAux, dif_pos h1.2, dif_pos h1.1]
    dsimp only
    rw [hl, ← swapIfInBounds_eq_swap a i _ (Nat.lt_of_lt_of_le (by omega) h1.2) (Nat.lt_of_lt_of_le hp.2.2 h1.2)]
    exact ih g (fuel_child hp.1 hf)
  | case2 a i h1 hl =>
    intro f hf
    cases f with
    | zero => rfl
    | succ g =>
      simp only [child_eq] at hl
      rw [GoHeap.downAux, dif_pos h1.2, dif_pos h1.1]
      dsimp only
      rw [Bool.eq_false_iff.2 hl]
      rfl
  | case3 a i h1 =>
    intro f hf
    cases f with
    | zero => rfl
    | succ g =>
      rw [GoHeap.downAux]
      split
      · rw [dif_neg fun h => h1 ⟨h, ‹_›⟩]
      · rfl

theorem down_eq (lt : α → α → Bool) (a : Array α) (i n : Nat) :
    DelayedHeap.down lt a i n = (GoHeap.downLoop lt a i n).1 :=
  down_eq_fuel lt a i n n (Nat.sub_le n i)

theorem push_eq (lt : α → α → Bool) (a : Array α) (x : α) :
    Got.Model.DelayedHeap.push lt a x = Got.Model.GoHeap.push lt a x := by
  unfold DelayedHeap.push GoHeap.push
  exact up_eq lt _ _

theorem pop_eq_popRest (lt : α → α → Bool) (a : Array α) (h : 0 < a.size) :
    Got.Model.DelayedHeap.pop lt a = Got.Lemmas.GoHeap.popRest lt a h := by
  unfold DelayedHeap.pop Got.Lemmas.GoHeap.popRest
  simp only []
  rw [swapIfInBounds_eq_swap a 0 (a.size - 1) h (by omega), down_eq]

theorem pop_eq_goheap (lt : α → α → Bool) (a : Array α) (h : 0 < a.size) :
    Got.Model.GoHeap.pop lt a = some (a[0], Got.Model.DelayedHeap.pop lt a) := by
  rw [pop_eq_popRest lt a h]
  exact Got.Lemmas.GoHeap.pop_eq lt a h

end Got.Lemmas.DelayedHeapEq
