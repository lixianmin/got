import Got.Model.Sample
import Got.Lemmas.GoHeap
import Got.Lemmas.ListFacts
/-
Lemmas for C20.  One loop invariant, `Inv`, over the heap and the items left out so far.  What it says for ARBITRARY comparisons
gives the validity of the result of `weightedSampling`; under a strict weak order it says besides that no key left out is above
a selected key (ties allowed), and for a strict total order on distinct keys the result is therefore the top-m set (`Inv.strict`).
-/
namespace Got.Lemmas.Sample
open Got.Model Got.Model.Sample Got.Lemmas.GoHeap

variable {κ : Type}

/-- What the loop has done before index `i`: the heap `h` and the items left out so far, `out`, hold each index `< i` once, with
    its key; the heap holds `m` of them, or all.  Under a strict weak order, besides, `h` is a heap and no item left out is above
    an item kept. -/
structure Inv (less gt : κ → κ → Bool) (keys : List κ) (m i : Nat) (h : Array (Item κ)) (out : List (Item κ)) : Prop where
  size : h.size = min i m
  perm : ((h.toList ++ out).map (·.index)).Perm (List.range i)
  item : ∀ x ∈ h.toList ++ out, keys[x.index]? = some x.ki
  top : TotalPreorder (itemLess less) → (∀ a b, gt a b = less b a) →
    IsHeap (itemLess less) h ∧ ∀ o ∈ out, ∀ x ∈ h.toList, less x.ki o.ki = false

theorem inv_init (less gt : κ → κ → Bool) (keys : List κ) (m : Nat) : Inv less gt keys m 0 #[] [] :=
  ⟨by simp, by simp, by simp, fun _ _ => ⟨fun k hk => by simp at hk, by simp⟩⟩

namespace Inv
variable {less gt : κ → κ → Bool} {keys : List κ} {m i : Nat} {h : Array (Item κ)} {out : List (Item κ)}

theorem length (hi : Inv less gt keys m i h out) (hm : m ≤ i) : (h.toList.map (·.index)).length = m := by
  rw [List.length_map, Array.length_toList, hi.size, Nat.min_eq_right hm]

theorem nodup_append (hi : Inv less gt keys m i h out) : (h.toList.map (·.index) ++ out.map (·.index)).Nodup :=
  List.map_append ▸ hi.perm.nodup_iff.mpr List.nodup_range

theorem nodup (hi : Inv less gt keys m i h out) : (h.toList.map (·.index)).Nodup :=
  (List.nodup_append.mp hi.nodup_append).1

theorem lt (hi : Inv less gt keys m i h out) (x : Nat) (hx : x ∈ h.toList.map (·.index)) : x < i :=
  List.mem_range.mp (hi.perm.mem_iff.mp (List.map_append ▸ List.mem_append_left _ hx))

/-- an index not in the heap is the index of an item left out -/
theorem left_out (hi : Inv less gt keys m i h out) {j : Nat} (hj : j < i) (hnot : j ∉ h.toList.map (·.index)) :
    ∃ o ∈ out, o.index = j := by
  have := hi.perm.mem_iff.mpr (List.mem_range.mpr hj)
  rw [List.map_append, List.mem_append] at this
  exact List.mem_map.mp (this.resolve_left hnot)

/-- up to index `m` nothing is left out -/
theorem out_nil (hi : Inv less gt keys m i h out) (him : i ≤ m) : out = [] := by
  have := hi.perm.length_eq
  rw [List.length_map, List.length_append, Array.length_toList, List.length_range, hi.size, Nat.min_eq_left him] at this
  exact List.eq_nil_of_length_eq_zero (Nat.add_left_cancel (this.trans (Nat.add_zero i).symm))

theorem perm_of_all (hi : Inv less gt keys m i h out) (hm : m = i) : (h.toList.map (·.index)).Perm (List.range i) := by
  have hp := hi.perm
  rwa [hi.out_nil (Nat.le_of_eq hm.symm), List.append_nil] at hp

end Inv

theorem step_cases (less gt : κ → κ → Bool) (m i : Nat) (hm : 1 ≤ m) (h : Array (Item κ)) (k : κ) (hsz : h.size = min i m) :
    (h.size < m ∧ step less gt m h i k = some (GoHeap.push (itemLess less) h ⟨k, i⟩)) ∨
    ∃ h0 : 0 < h.size, h.size = m ∧
      ((gt k h[0].ki = true ∧
          step less gt m h i k = (GoHeap.pop (itemLess less) (GoHeap.push (itemLess less) h ⟨k, i⟩)).map (·.2)) ∨
       (gt k h[0].ki = false ∧ step less gt m h i k = some h)) := by
  unfold step
  by_cases hs : h.size < m
  · exact .inl ⟨hs, if_pos hs⟩
  · have hsm : h.size = m := by omega
    have h0 : 0 < h.size := by omega
    refine .inr ⟨h0, hsm, ?_⟩
    rw [if_neg hs, Array.getElem?_eq_getElem h0]
    dsimp only
    cases gt k h[0].ki
    · exact .inr ⟨rfl, rfl⟩
    · exact .inl ⟨rfl, by rw [if_pos rfl, if_pos (by rw [push_size]; omega)]⟩

theorem step_size (less gt : κ → κ → Bool) (m : Nat) (h h1 : Array (Item κ)) (i : Nat) (ki : κ)
    (hs : step less gt m h i ki = some h1) : h1.size ≤ h.size + 1 := by
  unfold step at hs
  split at hs
  · cases hs; rw [push_size]; omega
  · split at hs
    · cases hs
    · split at hs
      · simp only at hs
        split at hs
        · obtain ⟨⟨x, b⟩, hp, rfl⟩ := Option.map_eq_some_iff.mp hs
          have := (pop_perm _ _ x b hp).2
          rw [push_size] at this
          show b.size ≤ h.size + 1
          omega
        · cases hs; rw [push_size]; omega
      · cases hs; omega

/-- the size `min i m` after one more index; on variables, so that `min` is split once -/
theorem min_succ_of_lt {s i m : Nat} (h : s = min i m) (hs : s < m) : s + 1 = min (i + 1) m := by omega

theorem min_succ_of_eq {s i m : Nat} (h : s = min i m) (hs : s = m) : s = min (i + 1) m := by omega

/-- One iteration: the new item joins the heap, and when the heap was full one item leaves it, the least of them under a
    strict weak order (the new item itself when it does not beat the root). -/
theorem step_inv (less gt : κ → κ → Bool) (keys : List κ) (m i : Nat) (hm : 1 ≤ m) (h : Array (Item κ)) (k : κ)
    (hk : keys[i]? = some k) : (∃ out, Inv less gt keys m i h out) →
    ∃ h', step less gt m h i k = some h' ∧ ∃ out', Inv less gt keys m (i + 1) h' out' := by
  intro ⟨out, hi⟩
  -- in every case the items, kept and left out, are the old ones and the new one; indices and keys follow from that
  suffices ∃ h' out', step less gt m h i k = some h' ∧ h'.size = min (i + 1) m ∧
      (h'.toList ++ out').Perm (⟨k, i⟩ :: (h.toList ++ out)) ∧
      (∀ tp : TotalPreorder (itemLess less), (∀ a b, gt a b = less b a) →
        IsHeap (itemLess less) h' ∧ ∀ o ∈ out', ∀ x ∈ h'.toList, less x.ki o.ki = false) by
    obtain ⟨h', out', hs, hsz, hp, ht⟩ := this
    refine ⟨h', hs, out', hsz, ?_, fun x hx => ?_, ht⟩
    · rw [List.range_succ]
      exact (hp.map Item.index).trans ((hi.perm.cons i).trans (List.perm_append_singleton i _).symm)
    · rcases List.mem_cons.mp (hp.mem_iff.mp hx) with rfl | hx
      · exact hk
      · exact hi.item x hx
  have hpp := push_perm (itemLess less) h ⟨k, i⟩
  have hps := push_size (itemLess less) h ⟨k, i⟩
  rcases step_cases less gt m i hm h k hi.size with ⟨hs, he⟩ | ⟨h0, hsm, ⟨hg, he⟩ | ⟨hg, he⟩⟩
  · -- the heap was not full: nothing has been left out yet
    obtain rfl := hi.out_nil (by have := hi.size; omega)
    exact ⟨_, [], he, hps.trans (min_succ_of_lt hi.size hs), hpp.append_right [],
      fun tp hgt => ⟨push_heap tp h _ (hi.top tp hgt).1, fun _ ho => nomatch ho⟩⟩
  · -- the new key beats the root: push, then pop the minimum
    have hpos : 0 < (GoHeap.push (itemLess less) h ⟨k, i⟩).size := hps ▸ Nat.succ_pos _
    have hperm := popRest_perm (itemLess less) _ hpos
    refine ⟨_, _ :: out, by rw [he, pop_eq _ _ hpos]; rfl,
      (Nat.succ.inj ((popRest_size (itemLess less) _ hpos).trans hps)).trans (min_succ_of_eq hi.size hsm),
      List.perm_middle.trans ((hperm.trans hpp).append_right out), fun tp hgt => ?_⟩
    obtain ⟨hh, hout⟩ := hi.top tp hgt
    have hph := push_heap tp h ⟨k, i⟩ hh
    refine ⟨popRest_heap tp _ hph hpos, fun o ho y hy => ?_⟩
    have hy' := hperm.mem_iff.mp (List.mem_cons_of_mem _ hy)
    rcases List.mem_cons.mp ho with rfl | ho
    · exact root_min tp _ hph hpos y hy'
    · rcases List.mem_cons.mp (hpp.mem_iff.mp hy') with rfl | hyh
      · -- `o` is not above the old root, which the new key beats
        exact tp.ntrans o h[0] _ (hout o ho _ (Array.getElem_mem_toList _)) (tp.asymm h[0] _ ((hgt k _).symm.trans hg))
      · exact hout o ho y hyh
  · -- it does not: the new item is the one left out
    refine ⟨h, _ :: out, he, min_succ_of_eq hi.size hsm, List.perm_middle, fun tp hgt => ?_⟩
    obtain ⟨hh, hout⟩ := hi.top tp hgt
    refine ⟨hh, fun o ho y hy => ?_⟩
    rcases List.mem_cons.mp ho with rfl | ho
    · exact tp.ntrans ⟨k, i⟩ h[0] _ ((hgt k _).symm.trans hg) (root_min tp h hh h0 y hy)
    · exact hout o ho y hy

theorem loop_of_step (less gt : κ → κ → Bool) (m : Nat) (keys : List κ) (P : Nat → Array (Item κ) → Prop)
    (hstep : ∀ i h k, keys[i]? = some k → P i h → ∃ h', step less gt m h i k = some h' ∧ P (i + 1) h') :
    ∀ (ks : List κ) (i : Nat) (h : Array (Item κ)), keys.drop i = ks → i ≤ keys.length → P i h →
      ∃ h', loop less gt m h i ks = some h' ∧ P keys.length h' := by
  intro ks
  induction ks with
  | nil =>
    intro i h hd hle hp
    obtain rfl : i = keys.length := Nat.le_antisymm hle (List.drop_eq_nil_iff.mp hd)
    exact ⟨h, rfl, hp⟩
  | cons k ks ih =>
    intro i h hd hle hp
    have hlt : i < keys.length := by
      apply Classical.byContradiction
      intro hn
      rw [List.drop_eq_nil_iff.mpr (by omega)] at hd
      cases hd
    rw [List.drop_eq_getElem_cons hlt] at hd
    injection hd with hk hks
    obtain ⟨h1, hs, hp1⟩ := hstep i h k (by rw [← hk]; exact List.getElem?_eq_getElem hlt) hp
    obtain ⟨h2, hl, hp2⟩ := ih (i + 1) h1 hks hlt hp1
    exact ⟨h2, by simp only [loop, hs, hl], hp2⟩

/-- a valid call returns the indices of the heap that the loop ends with -/
theorem weightedSampling_inv (less gt : κ → κ → Bool) (keys : List κ) (m : Nat) (h1 : 1 ≤ m) (h2 : m ≤ keys.length) :
    ∃ h out, weightedSampling less gt (m : Int) keys = .ok (h.toList.map (·.index)) ∧ Inv less gt keys m keys.length h out := by
  obtain ⟨h, hl, out, hi⟩ := loop_of_step less gt m keys (fun i h => ∃ out, Inv less gt keys m i h out)
    (fun i h k => step_inv less gt keys m i h1 h k) keys 0 #[] rfl (Nat.zero_le _) ⟨[], inv_init less gt keys m⟩
  refine ⟨h, out, ?_, hi⟩
  have hs : h.size = m := hi.size.trans (Nat.min_eq_right h2)
  unfold weightedSampling
  have hn : ¬((keys.length : Int) < (m : Int) ∨ keys.length = 0) := by omega
  rw [if_neg hn, if_neg (Int.not_lt.mpr (Int.natCast_nonneg m))]
  simp only [Int.toNat_natCast, hl]
  unfold readResults
  rw [if_neg (Nat.not_lt.mpr (Nat.le_of_eq hs.symm))]
  rw [List.take_of_length_le (by rw [Array.length_toList]; exact Nat.le_of_eq hs)]

structure StrictTotal (less : κ → κ → Bool) : Prop where
  asymm : ∀ a b, less a b = true → less b a = false
  trans : ∀ a b c, less a b = true → less b c = true → less a c = true
  tri : ∀ a b, less a b = true ∨ a = b ∨ less b a = true

theorem StrictTotal.ntrans {less : κ → κ → Bool} (st : StrictTotal less) (a b c : κ)
    (h1 : less b a = false) (h2 : less c b = false) : less c a = false := by
  cases h : less c a with
  | false => rfl
  | true =>
    rcases st.tri a b with hab | hab | hab
    · rw [st.trans c a b h hab] at h2; cases h2
    · subst hab; rw [h] at h2; cases h2
    · rw [hab] at h1; cases h1

theorem StrictTotal.totalPreorder {less : κ → κ → Bool} (st : StrictTotal less) :
    TotalPreorder (itemLess less) :=
  ⟨fun a b h => st.asymm a.ki b.ki h, fun a b c h1 h2 => st.ntrans a.ki b.ki c.ki h1 h2⟩

/-- for a strict total order on pairwise distinct keys, "not above" is "below" -/
theorem Inv.strict {less gt : κ → κ → Bool} (st : StrictTotal less) (hgt : ∀ a b, gt a b = less b a) {keys : List κ}
    (hnd : keys.Nodup) {m i : Nat} {h : Array (Item κ)} {out : List (Item κ)} (hi : Inv less gt keys m i h out)
    (o : Item κ) (ho : o ∈ out) (x : Item κ) (hx : x ∈ h.toList) : less o.ki x.ki = true := by
  rcases st.tri o.ki x.ki with h1 | e | h1
  · exact h1
  · have := hnd.idx_eq (hi.item x (List.mem_append_left _ hx)) (e ▸ hi.item o (List.mem_append_right _ ho))
    exact absurd this ((List.nodup_append.mp hi.nodup_append).2.2 _ (List.mem_map_of_mem hx) _ (List.mem_map_of_mem ho))
  · rw [(hi.top st.totalPreorder hgt).2 o ho x hx] at h1; cases h1

end Got.Lemmas.Sample
