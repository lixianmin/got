import Got.Model.Codec
import Got.Spec.Codec
/-
The codec model (C11, C12) against its arithmetic specification.  The model takes its shifts and masks from the literal
tables regenerated from the Go source: every `rfl`/`decide` on a model function here re-checks those literals, and a changed
shift or mask breaks these lemmas.  `writeFixed_wire` / `readFixed_writeFixed` hold for any width `8 * (n + 1)` on the lists
`shiftLits n` / `laneLits n`; WriteInt16/32/64 are the instances `n = 1, 3, 7`.
-/
namespace Got.Lemmas.Codec
open Got.Model.Codec Got.Spec.Codec

/-- `byte(d >> k)` needs no sign information when `k + 8 ≤ w`: it is the base-256 digit `k/8` of the pattern -/
theorem sshiftRight_byte {w : Nat} (d : BitVec w) (k : Nat) (h : k + 8 ≤ w) :
    (d.sshiftRight k).setWidth 8 = BitVec.ofNat 8 (d.toNat / 2 ^ k) := by
  apply BitVec.eq_of_getLsbD_eq
  intro i hi
  simp only [BitVec.getLsbD_setWidth, BitVec.getLsbD_sshiftRight, BitVec.getLsbD_ofNat, Nat.testBit_div_two_pow]
  have h1 : ¬ w ≤ i := by omega
  have h2 : k + i < w := by omega
  simp [hi, h1, h2, BitVec.getLsbD, Nat.add_comm]

theorem ofNat8_mod (n : Nat) : BitVec.ofNat 8 (n % 256) = BitVec.ofNat 8 n := by
  apply BitVec.eq_of_toNat_eq; simp

theorem lane_bit {w : Nat} (d : BitVec w) (k i : Nat) (hk : k + 8 ≤ w) :
    ((((d.sshiftRight k).setWidth 8).setWidth w) <<< k).getLsbD i
      = (decide (k ≤ i ∧ i < k + 8) && d.getLsbD i) := by
  rw [sshiftRight_byte d k hk]
  simp only [BitVec.getLsbD_shiftLeft, BitVec.getLsbD_setWidth, BitVec.getLsbD_ofNat, Nat.testBit_div_two_pow]
  by_cases h1 : i < k
  · simp [h1, show ¬ k ≤ i by omega]
  · by_cases h2 : i < k + 8
    · simp [h1, h2, show i < w by omega, show k ≤ i by omega, show i - k < w by omega, show i - k < 8 by omega,
        show i - k + k = i by omega, BitVec.getLsbD]
    · simp [h2, show ¬ i - k < 8 by omega]

theorem lane0_bit {w : Nat} (d : BitVec w) (i : Nat) :
    ((d.setWidth 8).setWidth w).getLsbD i = (decide (i < 8) && d.getLsbD i) := by
  simp only [BitVec.getLsbD_setWidth]
  by_cases h : i < w
  · simp [h]
  · simp [h, BitVec.getLsbD_of_ge d i (by omega)]

/-- `byte(num | 0xFFFFFF80)` = low 7 bits of `num` plus the continuation bit -/
theorem or_mask_byte (num : BitVec 32) :
    (num ||| 4294967168#32).setWidth 8 = BitVec.ofNat 8 (num.toNat % 128 + 128) := by
  apply BitVec.eq_of_getLsbD_eq
  intro i hi
  have hm : ∀ j, j < 8 → Nat.testBit 4294967168 j = decide (j = 7) := by decide
  simp only [BitVec.getLsbD_setWidth, BitVec.getLsbD_or, BitVec.getLsbD_ofNat, hi, decide_true, Bool.true_and, hm i hi]
  rw [show (128 : Nat) = 2 ^ 7 from rfl, Nat.add_comm]
  by_cases h : i < 7
  · rw [Nat.testBit_two_pow_add_gt h, Nat.testBit_mod_two_pow]
    simp [h, show i ≠ 7 by omega, BitVec.getLsbD]
  · have : i = 7 := by omega
    subst this
    rw [Nat.testBit_two_pow_add_eq, Nat.testBit_mod_two_pow]
    simp

/-- `uint32(b & 0x7F)` -/
theorem and_mask_byte (b : BitVec 8) : (b &&& 127#8).setWidth 32 = BitVec.ofNat 32 (b.toNat % 128) := by
  apply BitVec.eq_of_getLsbD_eq
  intro i hi
  have hm : ∀ j, j < 8 → Nat.testBit 127 j = decide (j < 7) := by decide
  simp only [BitVec.getLsbD_setWidth, BitVec.getLsbD_and, BitVec.getLsbD_ofNat, hi, decide_true, Bool.true_and,
    show (128 : Nat) = 2 ^ 7 from rfl, Nat.testBit_mod_two_pow]
  by_cases h8 : i < 8
  · simp only [hm i h8, h8, decide_true, Bool.true_and, BitVec.getLsbD, Bool.and_comm]
  · simp [show ¬ i < 7 by omega, BitVec.getLsbD_of_ge b i (by omega)]

theorem or_shift_split (m i : Nat) :
    (BitVec.ofNat 32 (m % 128) <<< i) ||| (BitVec.ofNat 32 (m / 128) <<< (i + 7)) = BitVec.ofNat 32 m <<< i := by
  apply BitVec.eq_of_getLsbD_eq
  intro k hk
  simp only [BitVec.getLsbD_or, BitVec.getLsbD_shiftLeft, BitVec.getLsbD_ofNat, show (128:Nat) = 2^7 from rfl,
    Nat.testBit_mod_two_pow, Nat.testBit_div_two_pow]
  by_cases h1 : k < i
  · simp [h1, show k < i + 7 by omega]
  · by_cases h2 : k < i + 7
    · simp [h1, h2, hk, show k - i < 7 by omega]
    · simp [h1, h2, hk, show ¬ k - i < 7 by omega, show k - (i+7) + 7 = k - i by omega,
        show k - (i + 7) < 32 by omega, show k - i < 32 by omega]

theorem writeBool_eq (b : Bool) : writeBool b = [if b then 1#8 else 0#8] := rfl

theorem writeInt16_eq (d : BitVec 16) : writeInt16 d = [d.setWidth 8, (d.sshiftRight 8).setWidth 8] := rfl
theorem writeInt32_eq (d : BitVec 32) : writeInt32 d =
    [d.setWidth 8, (d.sshiftRight 8).setWidth 8, (d.sshiftRight 16).setWidth 8, (d.sshiftRight 24).setWidth 8] := rfl
theorem writeInt64_eq (d : BitVec 64) : writeInt64 d =
    [d.setWidth 8, (d.sshiftRight 8).setWidth 8, (d.sshiftRight 16).setWidth 8, (d.sshiftRight 24).setWidth 8,
     (d.sshiftRight 32).setWidth 8, (d.sshiftRight 40).setWidth 8, (d.sshiftRight 48).setWidth 8,
     (d.sshiftRight 56).setWidth 8] := rfl

theorem writeRaw_eq (data : List Byte) : writeRaw data = data := by
  unfold writeRaw
  show (if data.length > 0 then data else []) = data
  cases data <;> simp

theorem twoCompl_toInt {w : Nat} (d : BitVec w) : twoCompl w d.toInt = d.toNat := by
  unfold twoCompl
  rw [BitVec.toInt_eq_toNat_bmod, Int.bmod_emod]
  have h := d.isLt
  rw [Int.emod_eq_of_lt (by omega) (by exact_mod_cast h)]
  simp

theorem write7Loop_succ (fuel : Nat) (num : BitVec 32) :
    write7Loop (fuel + 1) num =
      if num > 127#32 then (write7Loop fuel (num >>> 7)).map (fun t => (num ||| 4294967168#32).setWidth 8 :: t)
      else some [num.setWidth 8] := by
  rw [write7Loop]; rfl

theorem leb128_lt (n : Nat) (h : n < 128) : leb128 n = [BitVec.ofNat 8 n] := by
  rw [leb128]; simp [h]

theorem leb128_ge (n : Nat) (h : ¬ n < 128) :
    leb128 n = BitVec.ofNat 8 (n % 128 + 128) :: leb128 (n / 128) := by
  rw [leb128]; simp [h]

theorem write7Loop_eq : ∀ (fuel : Nat) (num : BitVec 32), num.toNat < 128 ^ (fuel + 1) →
    write7Loop (fuel + 1) num = some (leb128 num.toNat) := by
  intro fuel
  induction fuel with
  | zero =>
    intro num h
    have h' : num.toNat < 128 := by simpa using h
    rw [write7Loop_succ, if_neg (by simp [BitVec.lt_def]; omega), leb128_lt _ h', ← BitVec.ofNat_toNat]
  | succ f ih =>
    intro num h
    rw [write7Loop_succ]
    by_cases hc : num > 127#32
    · have hn : ¬ num.toNat < 128 := by
        have := BitVec.lt_def.mp hc
        simp at this; omega
      have hs : (num >>> 7).toNat = num.toNat / 128 := by
        rw [BitVec.toNat_ushiftRight, Nat.shiftRight_eq_div_pow]
      rw [if_pos hc, ih (num >>> 7) (by rw [hs]; rw [Nat.pow_succ] at h; omega), leb128_ge _ hn, or_mask_byte, hs]
      rfl
    · have hn : num.toNat < 128 := by
        have : ¬ (127#32).toNat < num.toNat := fun h => hc (BitVec.lt_def.mpr h)
        simp at this; omega
      rw [if_neg hc, leb128_lt _ hn, ← BitVec.ofNat_toNat]

theorem write7_eq (d : BitVec 32) : write7 d = some (leb128 d.toNat) := by
  apply write7Loop_eq
  have := d.isLt
  -- 63 + 1 = `write7Fuel`; five rounds (2^32 ≤ 128^5) would do
  have h : 2 ^ 32 ≤ 128 ^ (63 + 1) := by decide
  omega

theorem leb128_length : ∀ (k n : Nat), n < 128 ^ (k + 1) →
    1 ≤ (leb128 n).length ∧ (leb128 n).length ≤ k + 1 := by
  intro k
  induction k with
  | zero => intro n h; rw [leb128_lt n (by simpa using h)]; simp
  | succ k ih =>
    intro n h
    by_cases hn : n < 128
    · rw [leb128_lt n hn]; simp
    · rw [leb128_ge n hn]
      have := ih (n / 128) (by rw [Nat.pow_succ] at h; omega)
      simp only [List.length_cons]; omega

theorem writeBytes_eq (data : List Byte) :
    writeBytes data = some (leb128 (data.length % 2 ^ 32) ++ data) := by
  unfold writeBytes
  rw [write7_eq, writeRaw_eq, BitVec.toNat_ofNat]
  rfl

/-- below 2^31 the `int32` prefix is the length itself -/
theorem writeBytes_lt (data : List Byte) (h : data.length < 2 ^ 31) :
    writeBytes data = some (leb128 data.length ++ data) := by
  rw [writeBytes_eq, Nat.mod_eq_of_lt (Nat.lt_trans h (by decide))]

theorem readByte_lt (buf : List Byte) (pos : Nat) (h : pos < buf.length) :
    readByte buf pos = ⟨.ok buf[pos], pos + 1, 0⟩ := by
  simp [readByte, show ¬ pos ≥ buf.length by omega, List.getElem?_eq_getElem h]

theorem readByte_ge (buf : List Byte) (pos : Nat) (h : buf.length ≤ pos) :
    readByte buf pos = ⟨.err .NotEnoughData, pos, 0⟩ := by
  simp [readByte, h]

theorem readBool_lt (buf : List Byte) (pos : Nat) (h : pos < buf.length) :
    readBool buf pos = ⟨.ok (buf[pos] == 1#8), pos + 1, 0⟩ := by
  unfold readBool
  rw [readByte_lt buf pos h]
  rfl

theorem readBool_ge (buf : List Byte) (pos : Nat) (h : buf.length ≤ pos) :
    readBool buf pos = ⟨.err .NotEnoughData, pos, 0⟩ := by
  unfold readBool
  rw [readByte_ge buf pos h]
  rfl

-- In the literal table of `readFixed` entry 0 is the size, 1 the `0` of the early `return 0, err`, 2 the first index, and
-- from 3 on come the (index, shift) pairs (`lanesOf`).

theorem readFixed_err (w : Nat) (lits : List Int) (buf : List Byte) (pos : Nat) (h : ¬ pos + lit lits 0 ≤ buf.length) :
    readFixed w lits buf pos = ⟨.err .NotEnoughData, pos, 0⟩ := by
  simp only [readFixed, show pos + lit lits 0 > buf.length by omega, if_true]

theorem readFixed_ok (w : Nat) (lits : List Int) (buf : List Byte) (pos : Nat) (v : BitVec w)
    (h : pos + lit lits 0 ≤ buf.length)
    (hv : orLanes w (buf.drop pos) (lit lits 2) (lanesOf (lits.drop 3)) = some v) :
    readFixed w lits buf pos = ⟨.ok v, pos + lit lits 0, 0⟩ := by
  simp only [readFixed, show ¬ pos + lit lits 0 > buf.length by omega, show ¬ pos > buf.length by omega, if_false, hv]

theorem orLanes_some (w : Nat) (b : List Byte) (first : Nat) (lanes : List (Nat × Nat)) (hf : first < b.length)
    (hl : ∀ ik ∈ lanes, ik.1 < b.length) : ∃ v, orLanes w b first lanes = some v := by
  unfold orLanes
  rw [List.getElem?_eq_getElem hf, Option.map_some]
  generalize (b[first]).setWidth w = acc
  induction lanes generalizing acc with
  | nil => exact ⟨acc, rfl⟩
  | cons ik lanes ih =>
    rw [List.foldl_cons, List.getElem?_eq_getElem (hl ik List.mem_cons_self)]
    exact ih (fun x hx => hl x (List.mem_cons_of_mem _ hx)) _

/-- A fixed-width read cannot panic: it indexes (`hf`, `hl`) only below the `readSize` bytes it has checked for. -/
theorem readFixed_total (w : Nat) (lits : List Int) (buf : List Byte) (pos : Nat) (h : pos + lit lits 0 ≤ buf.length)
    (hf : lit lits 2 < lit lits 0) (hl : ∀ ik ∈ lanesOf (lits.drop 3), ik.1 < lit lits 0) :
    ∃ v, readFixed w lits buf pos = ⟨.ok v, pos + lit lits 0, 0⟩ := by
  have hd : lit lits 0 ≤ (buf.drop pos).length := by rw [List.length_drop]; omega
  obtain ⟨v, hv⟩ := orLanes_some w (buf.drop pos) _ _ (Nat.lt_of_lt_of_le hf hd) fun ik hik =>
    Nat.lt_of_lt_of_le (hl ik hik) hd
  exact ⟨v, readFixed_ok w lits buf pos v h hv⟩

theorem add_le_length_of_drop_eq {buf l : List Byte} {pos k : Nat} (hd : buf.drop pos = l) (hk : k ≤ l.length)
    (h0 : 0 < k) : pos + k ≤ buf.length := by
  rw [← hd, List.length_drop] at hk
  omega

theorem readInt16_of_drop (buf : List Byte) (pos : Nat) (b0 b1 : Byte) (tl : List Byte)
    (hd : buf.drop pos = b0 :: b1 :: tl) :
    readInt16 buf pos = ⟨.ok (b0.setWidth 16 ||| (b1.setWidth 16 <<< 8)), pos + 2, 0⟩ :=
  readFixed_ok _ _ _ _ _ (add_le_length_of_drop_eq (k := 2) hd (by simp) (by decide))
    (by rw [hd]; rfl)

theorem readInt32_of_drop (buf : List Byte) (pos : Nat) (b0 b1 b2 b3 : Byte) (tl : List Byte)
    (hd : buf.drop pos = b0 :: b1 :: b2 :: b3 :: tl) :
    readInt32 buf pos = ⟨.ok (b0.setWidth 32 ||| (b1.setWidth 32 <<< 8) ||| (b2.setWidth 32 <<< 16)
      ||| (b3.setWidth 32 <<< 24)), pos + 4, 0⟩ :=
  readFixed_ok _ _ _ _ _ (add_le_length_of_drop_eq (k := 4) hd (by simp) (by decide))
    (by rw [hd]; rfl)

theorem readInt64_of_drop (buf : List Byte) (pos : Nat) (b0 b1 b2 b3 b4 b5 b6 b7 : Byte) (tl : List Byte)
    (hd : buf.drop pos = b0 :: b1 :: b2 :: b3 :: b4 :: b5 :: b6 :: b7 :: tl) :
    readInt64 buf pos = ⟨.ok (b0.setWidth 64 ||| (b1.setWidth 64 <<< 8) ||| (b2.setWidth 64 <<< 16)
      ||| (b3.setWidth 64 <<< 24) ||| (b4.setWidth 64 <<< 32) ||| (b5.setWidth 64 <<< 40)
      ||| (b6.setWidth 64 <<< 48) ||| (b7.setWidth 64 <<< 56)), pos + 8, 0⟩ :=
  readFixed_ok _ _ _ _ _ (add_le_length_of_drop_eq (k := 8) hd (by simp) (by decide))
    (by rw [hd]; rfl)

def shiftLits (n : Nat) : List Int := (List.range n).map fun i => ((8 * (i + 1) : Nat) : Int)
def laneLits (n : Nat) : List (Nat × Nat) := (List.range n).map fun i => (i + 1, 8 * (i + 1))

theorem leBytes_eq_map (n m : Nat) :
    leBytes n m = (List.range n).map fun i => BitVec.ofNat 8 (m / 2 ^ (8 * i)) := by
  induction n generalizing m with
  | zero => rfl
  | succ n ih =>
    rw [leBytes, ih, List.range_succ_eq_map, List.map_cons, List.map_map, ofNat8_mod]
    congr 1
    · simp
    apply List.map_congr_left
    intro i _
    simp only [Function.comp, Nat.div_div_eq_div_mul]
    rw [show 256 = 2 ^ 8 from rfl, ← Nat.pow_add, show 8 + 8 * i = 8 * i.succ by omega]

theorem writeFixed_wire {w : Nat} (d : BitVec w) (n : Nat) (h : 8 * (n + 1) ≤ w) :
    writeFixed (shiftLits n) d = leBytes (n + 1) d.toNat := by
  rw [leBytes_eq_map, List.range_succ_eq_map, List.map_cons, List.map_map, writeFixed, shiftLits, List.map_map,
    ← BitVec.ofNat_toNat]
  congr 1
  · simp
  apply List.map_congr_left
  intro i hi
  have := List.mem_range.mp hi
  simp only [Function.comp, Int.toNat_natCast]
  rw [sshiftRight_byte d _ (by omega)]

theorem getElem?_writeFixed {w : Nat} (d : BitVec w) (n k : Nat) (hk : k < n) (tl : List Byte) :
    (writeFixed (shiftLits n) d ++ tl)[k + 1]? = some ((d.sshiftRight (8 * (k + 1))).setWidth 8) := by
  simp [writeFixed, shiftLits, List.getElem?_append_left, hk]
  congr 2

theorem orLanes_writeFixed {w : Nat} (d : BitVec w) (n : Nat) (h : 8 * (n + 1) ≤ w) (tl : List Byte) (k : Nat)
    (hk : k ≤ n) :
    ∃ v, orLanes w (writeFixed (shiftLits n) d ++ tl) 0 (laneLits k) = some v ∧
      ∀ j, v.getLsbD j = (decide (j < 8 * (k + 1)) && d.getLsbD j) := by
  induction k with
  | zero =>
    refine ⟨(d.setWidth 8).setWidth w, rfl, fun j => ?_⟩
    rw [lane0_bit]
  | succ k ih =>
    obtain ⟨v, hv, hb⟩ := ih (by omega)
    refine ⟨v ||| (((d.sshiftRight (8 * (k + 1))).setWidth 8).setWidth w <<< (8 * (k + 1))), ?_, fun j => ?_⟩
    · unfold orLanes at hv ⊢
      rw [laneLits, List.range_succ, List.map_append, List.foldl_append, ← laneLits, hv]
      simp only [List.map_cons, List.map_nil, List.foldl_cons, List.foldl_nil, getElem?_writeFixed d n k (by omega) tl]
    · rw [BitVec.getLsbD_or, hb, lane_bit d (8 * (k + 1)) j (by omega)]
      cases d.getLsbD j <;> simp
      rw [Bool.eq_iff_iff]
      simp
      omega

theorem readFixed_writeFixed {w : Nat} (n : Nat) (hw : w = 8 * (n + 1)) (rl : List Int) (h0 : lit rl 0 = n + 1)
    (h2 : lit rl 2 = 0) (hl : lanesOf (rl.drop 3) = laneLits n) (pre rest : List Byte) (d : BitVec w) :
    readFixed w rl (pre ++ writeFixed (shiftLits n) d ++ rest) pre.length = ⟨.ok d, pre.length + (n + 1), 0⟩ := by
  obtain ⟨v, hv, hb⟩ := orLanes_writeFixed d n (by omega) rest n (Nat.le_refl n)
  have hvd : v = d := BitVec.eq_of_getLsbD_eq fun j hj => by rw [hb]; simp; omega
  rw [← h0]
  refine readFixed_ok w rl _ _ d ?_ ?_
  · simp [writeFixed, shiftLits, h0]
  · rw [List.append_assoc, List.drop_left, h2, hl, hv, hvd]

theorem writeInt16_wire (d : BitVec 16) : writeInt16 d = leBytes 2 d.toNat := writeFixed_wire d 1 (by decide)
theorem writeInt32_wire (d : BitVec 32) : writeInt32 d = leBytes 4 d.toNat := writeFixed_wire d 3 (by decide)
theorem writeInt64_wire (d : BitVec 64) : writeInt64 d = leBytes 8 d.toNat := writeFixed_wire d 7 (by decide)

end Got.Lemmas.Codec
