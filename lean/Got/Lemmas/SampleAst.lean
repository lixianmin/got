import Got.Model.SampleAst
import Got.Lemmas.Sample
import Got.Lemmas.HeapAstAll
/-
WeightedSampling over the interpreted container/heap terms (`Got.Model.SampleAst.weightedSamplingAst`) computes the
model `Got.Model.Sample.weightedSampling`: the interpreted heap.Push / heap.Pop compute the GoHeap model functions, and the
loop around them, `loopAst`, is a HAND-WRITTEN copy of the model's loop with these operations put in.  The loop as generated
from the source, which is what the driver runs, is tied in SampleLoopAst.lean / IfaceAst.lean without this file.
-/
namespace Got.Lemmas.SampleAst
open Got.Model Got.Model.Sample Got.Model.SampleAst
open Got.Lemmas.SortAst (B62)
open Got.Lemmas.HeapAst (pushAst_refines popAst_refines)
open Got.Lemmas.Sample (step_size)

variable {κ : Type}

/-- `+ 2` covers the push (`pushAst_refines` wants `size + 1 < B62`) and the pop from the pushed heap of `size + 1` items -/
theorem stepAst_refines (less gt : κ → κ → Bool) (m : Nat)
    (h : Array (Item κ)) (i : Nat) (ki : κ) (hsz : h.size + 2 < B62) :
    ∃ f0, ∀ f, f0 ≤ f → stepAst f less gt m h i ki = some (step less gt m h i ki) := by
  refine Evt.mono (Evt.and (pushAst_refines (itemLess less) h ⟨ki, i⟩ (Nat.lt_of_succ_lt hsz))
    (popAst_refines (itemLess less) (GoHeap.push (itemLess less) h ⟨ki, i⟩)
      (by rw [Got.Lemmas.GoHeap.push_size]; exact Nat.lt_of_succ_lt hsz))) fun f ⟨h1, h2⟩ => ?_
  unfold stepAst step
  split
  · exact h1
  · cases h[0]? with
    | none => rfl
    | some top =>
      simp only
      split
      · rw [h1]
        simp only
        split
        · rw [h2]
          cases GoHeap.pop (itemLess less) (GoHeap.push (itemLess less) h ⟨ki, i⟩) <;> rfl
        · rfl
      · rfl

theorem loopAst_refines (less gt : κ → κ → Bool) (m : Nat) :
    ∀ (keys : List κ) (h : Array (Item κ)) (i : Nat), h.size + keys.length + 2 < B62 →
      ∃ f0, ∀ f, f0 ≤ f → loopAst f less gt m h i keys = some (loop less gt m h i keys) := by
  intro keys
  induction keys with
  | nil => intro h i _; exact Evt.always fun _ => rfl
  | cons k ks ih =>
    intro h i hsz
    simp only [List.length_cons] at hsz
    have h1 := stepAst_refines less gt m h i k (by omega)
    cases hs : step less gt m h i k with
    | none =>
      refine Evt.mono h1 fun f e1 => ?_
      unfold loopAst loop
      rw [e1, hs]
    | some hh =>
      have := step_size less gt m h hh i k hs
      exact Evt.mono (Evt.and h1 (ih hh (i + 1) (by omega))) fun f ⟨e1, e2⟩ => by
        unfold loopAst loop
        rw [e1, hs]
        exact e2

end Got.Lemmas.SampleAst
