import Got.Lemmas.CacheCore
import Got.Lemmas.ListFacts
import Got.Lemmas.Lts
/-
Frame lemmas (which fields a step leaves alone) and the strictly decreasing progress measure of C06.
-/
namespace Got.Lemmas.Cache
open Got.Model.CacheCore Got.Model.Cache Got.Spec.Cache

variable {cfg : Cfg} {s s' : State} {a : Act}

theorem Step.cpc_frame (h : Step cfg s a s') (c : Cid) (hc : actClient? a ≠ some c) : s'.cpc c = s.cpc c := by
  cases h <;> first
    | rfl
    | exact upd_other fun e => hc (congrArg some e.symm)

theorem Step.wpc_frame (h : Step cfg s a s') (w : Wid) (hw : actWorker? a ≠ some w) : s'.wpc w = s.wpc w := by
  cases h <;> first
    | rfl
    | exact upd_other fun e => hw (congrArg some e.symm)

theorem sum_update (xs : List Nat) (hnd : xs.Nodup) (a : Nat) (ha : a ∈ xs) (F G : Nat → Nat)
    (hFG : ∀ x, x ≠ a → G x = F x) : (xs.map G).sum + F a = (xs.map F).sum + G a := by
  have hp := List.perm_cons_erase ha
  have : (xs.erase a).map G = (xs.erase a).map F :=
    List.map_congr_left fun x hx => hFG x (hnd.mem_erase_iff.mp hx).1
  rw [(hp.map G).sum_nat, (hp.map F).sum_nat, List.map_cons, List.map_cons, List.sum_cons, List.sum_cons, this]
  omega

theorem sum_congr (xs : List Nat) (F G : Nat → Nat) (h : ∀ x, G x = F x) : (xs.map G).sum = (xs.map F).sum := by
  have : xs.map G = xs.map F := List.map_congr_left (fun x _ => h x)
  rw [this]

theorem cw_planPc (p : Plan) : cw (planPc p) ≤ 3 := by cases p <;> simp [planPc, cw]

theorem cw_g2Next (st : Status) (o : Option FutId) : cw (g2Next st o) ≤ 3 := by
  unfold g2Next; split <;> simp [cw]

/-- the part of μ that belongs to no agent: six steps for every queued job, S + 2 for a pending tick -/
def pending (cfg : Cfg) (s : State) : Nat := 6 * s.chan.length + (if s.tickPending then cfg.S + 2 else 0)

theorem mu_eq (cfg : Cfg) (cs ws : List Nat) (s : State) :
    mu cfg cs ws s = (cs.map fun c => cw (s.cpc c)).sum + (ws.map fun w => ww cfg.S (s.wpc w)).sum + pending cfg s :=
  Nat.add_assoc ..

theorem cl_decr_of {t : State} {c : Cid} {pc pc' : CPc} (hc : s.cpc c = pc) (hc' : t.cpc c = pc') (n : Nat)
    (hch : t.chan.length = s.chan.length + n) (ht : t.tickPending = s.tickPending) (hw : cw pc' + 6 * n + 1 ≤ cw pc) :
    cw (t.cpc c) + pending cfg t + 1 ≤ cw (s.cpc c) + pending cfg s ∧ cw (t.cpc c) ≤ cw (s.cpc c) := by
  rw [pending, pending, hc, hc', hch, ht]; omega

/-- `cw` is the least weight with `cw pc' + 6 * n + 1 ≤ cw pc` for every client step `pc → pc'` that sends `n` jobs (`hw` of
    `cl_decr_of`): a new pc gets its weight from its case here. -/
theorem Step.cl_decr {c : Cid} (h : Step cfg s (.cl c) s') :
    cw (s'.cpc c) + pending cfg s' + 1 ≤ cw (s.cpc c) + pending cfg s ∧ cw (s'.cpc c) ≤ cw (s.cpc c) := by
  cases h with
  | ldGood _ k ld l hc => exact cl_decr_of hc (upd_same ..) 0 rfl rfl (Nat.le_of_ble_eq_true rfl)
  | ldExpired _ k ld l hc | ldHidden _ k ld hc =>
    exact cl_decr_of hc (upd_same ..) 0 rfl rfl (by cases cfg.old <;> exact Nat.le_refl _)
  | ldUnlock _ sh plan hc => exact cl_decr_of hc (upd_same ..) 0 rfl rfl (Nat.succ_le_succ (cw_planPc plan))
  | ldSend _ j plan hc =>
    exact cl_decr_of hc (upd_same ..) 1 List.length_append rfl (Nat.add_le_add_right (cw_planPc plan) 7)
  | ldSendOld _ j plan sh hc => exact cl_decr_of hc (upd_same ..) 1 List.length_append rfl (Nat.le_refl _)
  | g2Status _ o hc => exact cl_decr_of hc (upd_same ..) 0 rfl rfl (Nat.succ_le_succ (cw_g2Next ..))
  | fetchSt _ f p g hc => exact cl_decr_of hc (upd_same ..) 0 rfl rfl (by cases g <;> exact Nat.le_refl _)
  | fetch _ _ _ hc | ldRet _ _ hc | g2Start _ _ hc | wait _ _ hc | retNil _ hc | setRet _ hc | ldUnlockSend _ _ _ _ hc
  | setStart _ _ _ hc =>
    exact cl_decr_of hc (upd_same ..) 0 rfl rfl (Nat.le_refl _)

theorem wk_decr_of {t : State} {w : Wid} {pc pc' : WPc} (hw : s.wpc w = pc) (hw' : t.wpc w = pc') (n : Nat)
    (hch : s.chan.length = t.chan.length + n) (ht : t.tickPending = s.tickPending)
    (h : ww cfg.S pc' + 1 ≤ ww cfg.S pc + 6 * n) :
    ww cfg.S (t.wpc w) + pending cfg t + 1 ≤ ww cfg.S (s.wpc w) + pending cfg s := by
  rw [pending, pending, hw, hw', hch, ht]; omega

/-- only `wTick` raises the worker's own weight: it trades the pending tick (S + 2) for a sweep (S + 1) -/
theorem Step.wk_decr {w : Wid} (h : Step cfg s a s') (hw : actWorker? a = some w) :
    ww cfg.S (s'.wpc w) + pending cfg s' + 1 ≤ ww cfg.S (s.wpc w) + pending cfg s := by
  cases h <;> cases hw
  case wTick ht _ hi =>
    show ww cfg.S (upd s.wpc w (.sweep 0) w) + (6 * s.chan.length + 0) + 1 ≤ _
    rw [upd_same, hi, pending, ht]; show cfg.S - 0 + 1 + _ + 1 ≤ 0 + (_ + (cfg.S + 2)); omega
  case sweep i _ hi =>
    refine wk_decr_of hi (upd_same ..) 0 rfl rfl ?_
    show ww cfg.S (if i + 1 < cfg.S then .sweep (i + 1) else .idle) + 1 ≤ cfg.S - i + 1 + 6 * 0
    split
    · show cfg.S - (i + 1) + 1 + 1 ≤ _; omega
    · exact Nat.le_add_left ..
  case wTake => exact wk_decr_of ‹s.wpc w = _› (upd_same ..) 1 (by rw [‹s.chan = _›]; rfl) rfl (Nat.le_refl _)
  all_goals exact wk_decr_of ‹_› (upd_same ..) 0 rfl rfl (Nat.le_refl _)

/-- C06 measure: every client / worker / loader transition strictly decreases μ -/
theorem mu_decr (cfg : Cfg) (s s' : State) (a : Act) (cs ws : List Nat) (hws : ws.Nodup)
    (hprog : a.isProgress = true) (hin : actorIn cs ws a) (h : step? cfg s a = some s') :
    mu cfg cs ws s' < mu cfg cs ws s := by
  have h := Step.of_step? h
  have wk : ∀ w, actWorker? a = some w → actClient? a = none → w ∈ ws → mu cfg cs ws s' < mu cfg cs ws s := by
    intro w hw hcl hin
    have k1 := sum_update ws hws w hin (fun w => ww cfg.S (s.wpc w)) (fun w => ww cfg.S (s'.wpc w))
      fun x hx => congrArg _ (h.wpc_frame x fun e => hx (Option.some.inj (e.symm.trans hw)))
    have k2 := sum_congr cs (fun c => cw (s.cpc c)) (fun c => cw (s'.cpc c))
      fun c => congrArg cw (h.cpc_frame c (by rw [hcl]; nofun))
    have hd := h.wk_decr hw
    simp only [mu_eq, Cid, Wid, k2]; omega
  cases a with
  | cl c =>
    have := h.cl_decr
    -- a client step lowers the client's own summand, so `cs` may list a client more than once; the workers' sum needs
    -- `ws.Nodup` because `wTick` raises the worker's summand
    have k1 := (List.sum_map_le_at (l := cs) (f := fun c => cw (s.cpc c)) (g := fun c => cw (s'.cpc c)) fun x _ => by
      by_cases e : x = c
      · rw [e]; exact this.2
      · rw [h.cpc_frame x fun e' => e (Option.some.inj e').symm]; exact Nat.le_refl _).2 c hin
    have k2 := sum_congr ws (fun w => ww cfg.S (s.wpc w)) (fun w => ww cfg.S (s'.wpc w))
      fun w => congrArg _ (h.wpc_frame w nofun)
    simp only [mu_eq, Cid, Wid, k2]; omega
  | wTake w | wTick w | wStart w | wEnd w _ | wk w => exact wk w rfl rfl hin
  | _ => cases hprog

theorem mu_delay (cfg : Cfg) (cs ws : List Nat) (s : State) (d : Nat) :
    mu cfg cs ws { s with now := s.now + d } = mu cfg cs ws s := rfl

theorem step_cpc_frame (cfg : Cfg) (s : State) (a : Act) (c : Cid) (hc : actClient? a ≠ some c) :
    (step cfg s a).cpc c = s.cpc c :=
  (step_cases cfg s a).elim (fun e => by rw [e]) fun h => h.cpc_frame c hc

theorem step_wpc_frame (cfg : Cfg) (s : State) (a : Act) (w : Wid) (hw : actWorker? a ≠ some w) :
    (step cfg s a).wpc w = s.wpc w :=
  (step_cases cfg s a).elim (fun e => by rw [e]) fun h => h.wpc_frame w hw

theorem run_cpc_frame (cfg : Cfg) (acts : List Act) (s : State) (c : Cid)
    (hc : ∀ a ∈ acts, actClient? a ≠ some c) : (run cfg s acts).cpc c = s.cpc c :=
  Lts.foldl_inv_mem (P := fun s' => s'.cpc c = s.cpc c) (fun s' a ha h => (step_cpc_frame cfg s' a c ha).trans h) acts hc rfl

theorem run_wpc_frame (cfg : Cfg) (acts : List Act) (s : State) (w : Wid)
    (hw : ∀ a ∈ acts, actWorker? a ≠ some w) : (run cfg s acts).wpc w = s.wpc w :=
  Lts.foldl_inv_mem (P := fun s' => s'.wpc w = s.wpc w) (fun s' a ha h => (step_wpc_frame cfg s' a w ha).trans h) acts hw rfl

end Got.Lemmas.Cache
