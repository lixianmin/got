import Got.Lemmas.MSQueueInv
/-
Lock-freedom of the Michael–Scott queue model (C02): `mu` (Model/MSQueue.lean) strictly decreases with every solo step of a
busy thread. The invariant excludes the crashed pc and says what a successful helping CAS leaves: `Inv` bounds the lag of the
tail by one node, so after one helping round the tail does not lag (`succ_tail_last`) and the head is not it (`head_ne_succ_tail`).
A value of `muPc` is the number of steps on the path the thread takes when nobody else moves; e.g. at `p3` with a valid `tl`,
`nx = none` read earlier and a successor linked to `tl` since: `p3`, the CAS that fails at `p4`, then an iteration that helps
first, 1 + 1 + 9 = 11.
-/
namespace Got.Model.MSQueue
open Got.Spec.Lin

theorem muPush_bounds (h : Heap) : 5 ≤ muPush h ∧ muPush h ≤ 9 := by
  unfold muPush; split <;> omega

theorem muPop_bounds (h : Heap) : 4 ≤ muPop h ∧ muPop h ≤ 10 := by
  unfold muPop; split <;> (try split) <;> omega

theorem ite_le {c : Prop} [Decidable c] {a b k : Nat} (ha : a ≤ k) (hb : b ≤ k) : (if c then a else b) ≤ k := by
  split <;> assumption

theorem muPc_le_K (h : Heap) (p : Pc) : muPc h p ≤ K := by
  have h1 := (muPush_bounds h).2
  have h2 := (muPop_bounds h).2
  unfold K
  cases p <;> dsimp only [muPc] <;> (repeat' apply ite_le) <;> omega

theorem mu_le_K (s : State) (t : Nat) : mu s t ≤ K := muPc_le_K _ _

/-- finish `muPc h p' < muPc h p`: unfold `muPc` to nested `if`s, decide those that the hypotheses decide and split the rest.
    Most branches need only the bounds of `muPush h` and `muPop h`; where their exact value matters they are unfolded and split
    as well. -/
macro "mu_arith" h:term : tactic =>
  `(tactic| (have := muPush_bounds $h; have := muPop_bounds $h
             simp only [muPc, *, reduceCtorEq, ↓reduceIte] <;> (repeat' split) <;>
             first
             | omega
             | (subst_vars; simp only [muPush, muPop]; (repeat' split) <;> first | omega | contradiction)))

theorem LocalStep.mu_lt {h : Heap} {p p' : Pc} (hs : LocalStep h p p') : muPc h p' < muPc h p := by
  cases hs <;> mu_arith h

theorem ThStep.mu_lt {h h' : Heap} {t : Nat} {p p' : Pc} {evs : List LEv} (g : Global h) (hl : Local h p)
    (hs : ThStep h t (.tau t) p h' p' evs) : muPc h' p' < muPc h p := by
  cases hs with
  | loc hs => exact hs.mu_lt
  | link hn => simp only [muPc, if_pos hn]; omega
  | @p4h n tl x =>
    unfold swing
    by_cases h : h.tail = tl
    · have hx := g.succ_tail_last (h ▸ hl.2.2)
      simp only [if_pos h, muPc, muPush, hx, ↓reduceIte]; omega
    · simp only [if_neg h, muPc]; omega
  | p5 => simp only [muPc]; omega
  | obs hn => mu_arith h
  | empty h1 h2 => simp only [muPc, if_pos h1, if_pos h2, ↓reduceIte]; omega
  | @d5h hd tl x =>
    unfold swing
    by_cases h : h.tail = tl
    · have hx := g.head_ne_succ_tail (h ▸ hl.2)
      simp only [if_pos h, muPc, muPop, if_neg hx]; omega
    · simp only [if_neg h, muPc]; omega
  | take hhd => simp only [muPc, if_pos hhd]; omega

theorem mu_lift (s : State) (t : Nat) (h' : Heap) (p' : Pc) (evs : List LEv) : mu (lift s t h' p' evs) t = muPc h' p' := by
  show muPc h' (upd s.pc t p' t) = _
  rw [upd_same]

theorem mu_dec {s : State} (hI : Inv s) {t : Nat} (hb : busy s t) : mu (tau s t) t < mu s t := by
  obtain ⟨h', p', evs, hs, e⟩ := step_spec_busy hI hb
  rw [e, mu_lift]
  exact hs.mu_lt hI.glob (hI.loc t)

theorem solo_le_mu {s : State} (hI : Inv s) (t : Nat) : ∃ k, k ≤ mu s t ∧ ¬ busy (solo t k s) t := by
  generalize hm : mu s t = m
  induction m using Nat.strongRecOn generalizing s with
  | _ m ih =>
    by_cases hb : busy s t
    · have hd : mu (tau s t) t < m := hm ▸ mu_dec hI hb
      obtain ⟨k, hk, hnb⟩ := ih _ hd (inv_step hI (.tau t)) rfl
      exact ⟨k + 1, by omega, hnb⟩
    · exact ⟨0, Nat.zero_le _, hb⟩

theorem solo_bound {s : State} (hI : Inv s) (t : Nat) : ∃ k, k ≤ K ∧ ¬ busy (solo t k s) t :=
  let ⟨k, hk, hnb⟩ := solo_le_mu hI t
  ⟨k, Nat.le_trans hk (mu_le_K s t), hnb⟩

end Got.Model.MSQueue
