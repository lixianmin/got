/-
Linearizability (Herlihy–Wing) for objects with Push/Pop operations, the sequential FIFO
specification, instrumented logs with linearisation-point markers, and the *LP witness*
predicate `LinWitness` (core Lean only; imported by the MSQueue model and its driver).

Values are natural numbers; `Res.val none` is the "empty" answer of Pop (Go: `nil`).
Clients never push nil: a pushed value is a `Nat`, so the type excludes it.
-/
namespace Got.Spec.Lin

/-- function update (thread-indexed state components are functions `Nat → _`). -/
def upd {β : Type} (f : Nat → β) (i : Nat) (v : β) : Nat → β := fun j => if j = i then v else f j

@[simp] theorem upd_same {β : Type} (f : Nat → β) (i : Nat) (v : β) : upd f i v i = v := by
  simp [upd]

theorem upd_other {β : Type} {f : Nat → β} {i j : Nat} {v : β} (h : j ≠ i) : upd f i v j = f j := by
  simp [upd, h]

theorem upd_self {β : Type} (f : Nat → β) (i : Nat) : upd f i (f i) = f := by
  funext j
  by_cases h : j = i
  · rw [h, upd_same]
  · rw [upd_other h]

theorem upd_idem {β : Type} (f : Nat → β) (i : Nat) (v v' : β) : upd (upd f i v) i v' = upd f i v' := by
  funext j; unfold upd; split <;> rfl

inductive Op where
  | push (v : Nat)
  | pop
  deriving DecidableEq, Repr

inductive Res where
  | ack
  | val (v : Option Nat)
  deriving DecidableEq, Repr

/-- what a client sees: invocations and responses, tagged with the thread. -/
inductive HEv where
  | inv (t : Nat) (o : Op)
  | ret (t : Nat) (r : Res)
  deriving DecidableEq, Repr

/-- instrumented log: history events plus linearisation markers.
    `lin t o r`: thread `t`'s pending operation `o` takes effect *now* with result `r`;
    `obs t`: thread `t` (inside a Pop) observed the queue empty *now*. -/
inductive LEv where
  | inv (t : Nat) (o : Op)
  | lin (t : Nat) (o : Op) (r : Res)
  | obs (t : Nat)
  | ret (t : Nat) (r : Res)
  deriving DecidableEq, Repr

structure SeqSpec (σ : Type) where
  init : σ
  apply : σ → Op → σ × Res

def fifoApply (q : List Nat) : Op → List Nat × Res
  | .push v => (q ++ [v], .ack)
  | .pop =>
    match q with
    | [] => ([], .val none)
    | x :: q' => (q', .val (some x))

def FifoSpec : SeqSpec (List Nat) := ⟨[], fifoApply⟩

def LEv.toH : LEv → Option HEv
  | .inv t o => some (.inv t o)
  | .ret t r => some (.ret t r)
  | _ => none

/-- the client-visible history of an instrumented log: drop the markers. -/
def history (l : List LEv) : List HEv := l.filterMap LEv.toH

/-! ### LP witness: the markers replay legally on the FIFO and sit inside their operations -/

/-- status of a thread while the log is replayed. -/
inductive TSt where
  | idle
  | pend (o : Op) (seen : Bool)   -- invoked, not yet linearised; `seen`: an `obs` was recorded inside this op
  | done (o : Op) (r : Res)       -- linearised with result `r`, response not yet delivered
  deriving DecidableEq, Repr

structure WSt where
  q : List Nat            -- abstract queue
  st : Nat → TSt

def WSt.init : WSt := ⟨[], fun _ => .idle⟩

/-- one event of the replay; `none` = the log is not a legal LP-instrumented history. -/
def wstep (w : WSt) : LEv → Option WSt
  | .inv t o =>
    match w.st t with
    | .idle => some { w with st := upd w.st t (.pend o false) }
    | _ => none
  | .lin t o r =>
    match w.st t with
    | .pend o' _ =>
      if o' = o ∧ (fifoApply w.q o).2 = r ∧ r ≠ .val none then
        some ⟨(fifoApply w.q o).1, upd w.st t (.done o r)⟩
      else none
    | _ => none
  | .obs t =>
    match w.st t with
    | .pend .pop _ => if w.q = [] then some { w with st := upd w.st t (.pend .pop true) } else none
    | _ => none
  | .ret t r =>
    match w.st t with
    | .done _ r' => if r' = r then some { w with st := upd w.st t .idle } else none
    | .pend .pop true => if r = .val none then some { w with st := upd w.st t .idle } else none
    | _ => none

def wrunFrom (w : WSt) (l : List LEv) : Option WSt :=
  l.foldl (fun acc e => acc.bind (fun w => wstep w e)) (some w)

def wrun (l : List LEv) : Option WSt := wrunFrom WSt.init l

/-- **LP witness.** Replaying the log succeeds, i.e.
    * per thread the log has the shape `(inv · markers · ret)*`;
    * a `lin t o r` marker lies between `inv t o` and the matching `ret t r`, there is exactly one
      per completed Push / non-nil Pop, it is legal on the FIFO at that instant (`pop` takes the
      current front) and its result is the one returned;
    * an `obs t` marker lies inside a Pop of `t`, at an instant where the abstract queue is empty;
    * a Pop returning nil has no `lin` marker and at least one `obs` marker. -/
def LinWitness (l : List LEv) : Prop := (wrun l).isSome = true

instance (l : List LEv) : Decidable (LinWitness l) := by unfold LinWitness; infer_instance

theorem wrunFrom_append (w : WSt) (l₁ l₂ : List LEv) :
    wrunFrom w (l₁ ++ l₂) = (wrunFrom w l₁).bind (fun w' => wrunFrom w' l₂) := by
  unfold wrunFrom
  rw [List.foldl_append]
  generalize List.foldl (fun acc e => acc.bind (fun w => wstep w e)) (some w) l₁ = r
  cases r with
  | some w' => rfl
  | none =>
    simp only [Option.bind_none]
    induction l₂ with
    | nil => rfl
    | cons e l ih => simpa [List.foldl_cons] using ih

theorem wrun_snoc (l : List LEv) (e : LEv) : wrun (l ++ [e]) = (wrun l).bind (fun w => wstep w e) := by
  unfold wrun
  rw [wrunFrom_append]
  cases wrunFrom WSt.init l with
  | none => rfl
  | some w => simp [wrunFrom, List.foldl]

/-! ### Linearizability (Herlihy & Wing 1990)

A history `H` (list of invocation/response events) is *linearizable* w.r.t. a sequential
specification if it can be extended, by appending responses to some pending invocations, to a
history `H'` such that
* **L1** `complete(H')` (= `H'` without the invocations that are still pending) is *equivalent* to a
  *legal sequential* history `S`: for every thread `t`, `complete(H')|t = S|t`;
* **L2** `<_H ⊆ <_S`: if an operation returned in `H` before another one was invoked, the same holds in `S`.

Encoding.  A sequential history is given by its list of operations `S : List OpRec`
(`seqHist S = inv·ret·inv·ret…`); it is legal if running the specification over it yields exactly the
recorded results.  Operations are identified by (thread, index of the operation within the thread):
L1 makes the `k`-th operation of thread `t` the same operation in `H` and in `S`.  "Operation `k` of
`t` returned before operation `k'` of `t'` was invoked in `X`" is `RetBeforeInv X t k t' k'`: some
prefix of `X` contains at least `k+1` responses of `t` and at most `k'` invocations of `t'`. -/

def HEv.tid : HEv → Nat
  | .inv t _ => t
  | .ret t _ => t

def HEv.isRet : HEv → Bool
  | .ret _ _ => true
  | .inv _ _ => false

def HEv.isInvOf (t : Nat) : HEv → Bool
  | .inv t' _ => decide (t' = t)
  | .ret _ _ => false

def HEv.isRetOf (t : Nat) : HEv → Bool
  | .ret t' _ => decide (t' = t)
  | .inv _ _ => false

/-- `H|t`: the subhistory of thread `t`. -/
def proj (t : Nat) (H : List HEv) : List HEv := H.filter (fun e => decide (e.tid = t))

/-- `complete(H)`: `H` without its pending invocations (an invocation is pending if the same thread has
    no later event). -/
def complete : List HEv → List HEv
  | [] => []
  | .inv t o :: H =>
    if H.any (fun e => decide (e.tid = t)) then .inv t o :: complete H else complete H
  | .ret t r :: H => .ret t r :: complete H

/-- one operation of a sequential history. -/
structure OpRec where
  t : Nat
  o : Op
  r : Res
  deriving DecidableEq, Repr

/-- the sequential history of a list of operations. -/
def seqHist : List OpRec → List HEv
  | [] => []
  | x :: S => .inv x.t x.o :: .ret x.t x.r :: seqHist S

/-- run the specification over a list of operations, checking every recorded result. -/
def SeqSpec.runOps {σ : Type} (spec : SeqSpec σ) : σ → List OpRec → Option σ
  | s, [] => some s
  | s, x :: S => if (spec.apply s x.o).2 = x.r then spec.runOps (spec.apply s x.o).1 S else none

/-- the sequential history `seqHist S` is legal. -/
def Legal {σ : Type} (spec : SeqSpec σ) (S : List OpRec) : Prop := (spec.runOps spec.init S).isSome = true

def nInv (t : Nat) (X : List HEv) : Nat := X.countP (HEv.isInvOf t)
def nRet (t : Nat) (X : List HEv) : Nat := X.countP (HEv.isRetOf t)

/-- in `X`, operation number `k` of thread `t` returns before operation number `k'` of thread `t'` is
    invoked (operations of a thread numbered from 0). -/
def RetBeforeInv (X : List HEv) (t k t' k' : Nat) : Prop :=
  ∃ X₁ X₂, X = X₁ ++ X₂ ∧ k < nRet t X₁ ∧ nInv t' X₁ ≤ k'

/-- **Linearizability** of a history w.r.t. a sequential specification. -/
def Linearizable {σ : Type} (spec : SeqSpec σ) (H : List HEv) : Prop :=
  ∃ (ext : List HEv) (S : List OpRec),
    (∀ e, e ∈ ext → e.isRet = true) ∧
    Legal spec S ∧
    (∀ t, proj t (complete (H ++ ext)) = proj t (seqHist S)) ∧
    (∀ t k t' k', RetBeforeInv H t k t' k' → RetBeforeInv (seqHist S) t k t' k')

end Got.Spec.Lin
