import Lean.Meta.Tactic.Simp.RegisterCommand
/-- The equations of the MiniGoBytes interpreter (Got/Model/MiniGoBytes.lean) — one step of `exec` per statement form,
    `eval` and the operators on values — with the facts about literals, `if` and `List` that evaluating a concrete
    term needs: `simp only [ast_simp]` runs a generated method body symbolically. -/
register_simp_attr ast_simp
