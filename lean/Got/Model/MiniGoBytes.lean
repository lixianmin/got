import Got.Model.MiniGoBytesAttr
/-
MiniGoBytes — a deep embedding of the byte-stream fragment of Go that tools/srcfacts/minigo_codec.go translates
mechanically (go/ast + go/types → the constructors below), with an executable big-step interpreter.  It is the target
of the *translator tie* of the iox codec (C11, C12): `Got/Generated/AstIox.lean` is regenerated from /repo's source on
every run and the theorems of Got/Lemmas/CodecAst*.lean are proved about the interpretation of exactly those generated
terms, so they are re-checked against what the code says now.  (Independent of Got/Model/MiniGo.lean, the integer
fragment used by C14/C04.)

Fragment
* methods of one receiver family that share ONE stream object `{buffer []byte, position int}` (OctetsStream itself, and
  OctetsWriter/OctetsReader through their `stream` field); the interpreter state `St` is that record plus the ghost
  `alloc` = total number of bytes passed to `make`.
* values `Val`: Go `int` (positions, lengths, loop counters) held as the integer it denotes; `+`/`-` on `int` are exact
  integer operations, i.e. the interpretation is Go's as long as no intermediate `int` leaves the 64-bit range — true
  for positions and lengths of real slices (< 2^63; the same assumption the hand-written model makes by using `Nat`).
  (A wrap-around `% 2^64` here makes the Lean kernel evaluate 2^64-sized unary recursions on symbolic positions while
  checking proofs about `if`-conditions, so it is deliberately absent.)  Sized integers
  `bv w signed bits` (byte/uint8 = 8/unsigned, int16, int32, uint32, int64, …) with Go's meaning of every operator
  (conversion = sign- or zero-extension of the *source* then truncation; `>>` arithmetic on signed, logical on unsigned;
  signed/unsigned comparison), `bool`, `error` (nil or one of the four iox error constants), byte slices by value.
* expressions `Expr` (pure): typed constants, locals, `my.position`, `my.buffer`, `len(s)`, `s[i]`, `s[lo:]`, `s[:hi]`,
  `s[lo:hi]` (index / slice bounds out of range = the explicit outcome `panic`, never defaulted), conversions,
  `+ - | &`, `<<`/`>>` by a constant or a variable, `== != < <=`, `! && ||`.
* statements `Stmt`: `var x = e`, `x = e`, `my.position = e`, `my.buffer = e`, `my.buffer = append(my.buffer, e1,…,en)`,
  `my.buffer = append(my.buffer, s...)`, `x := make([]byte, n)`, `copy(x, s)`, `copy(my.buffer, s)`, calls
  `x1,…,xn = f(args)` of translated methods by name through a function table (a slice argument that is a plain
  variable receives the callee's final contents of the parameter: element writes through the shared backing array),
  `if`, three-clause `for` (init hoisted by the translator), `return e1,…,en`.
Anything else is refused by the translator (empty body + note), so the obligations fail rather than keep an old term.

`exec` is total: fuel bounds the number of statements executed at one nesting level; `none` = out of fuel or an
ill-typed / unbound term ("stuck", cannot arise from a term go/types accepted), `some .panic` = Go run-time panic.
-/
namespace Got.Model.MiniGoBytes

abbrev Byte := BitVec 8

/-- iox/errors.go -/
inductive Err where
  | NotEnoughData | Bad7BitInt | NegativeSize | InvalidArgument
  deriving DecidableEq, Repr

inductive Ty where
  | int                          -- Go `int`
  | bv (w : Nat) (sg : Bool)     -- sized integer type: width, signed
  deriving DecidableEq, Repr

inductive Val where
  | int (v : Int)
  | bv (w : Nat) (sg : Bool) (v : BitVec w)
  | bool (b : Bool)
  | err (e : Option Err)
  | bytes (l : List Byte)

inductive Expr where
  | lit (t : Ty) (n : Int)       -- integer constant of type `t` (go/types: untyped constants take the other operand's type)
  | blit (b : Bool)
  | nil                          -- `nil` of type error
  | errc (e : Err)               -- ErrNotEnoughData, …
  | nilBytes                     -- `nil` of a slice type / `""`
  | var (x : String)
  | pos                          -- `my.position`
  | buf                          -- `my.buffer`
  | len (s : Expr)
  | index (s i : Expr)
  | sliceFrom (s lo : Expr)      -- `s[lo:]`
  | sliceTo (s hi : Expr)        -- `s[:hi]`
  | slice (s lo hi : Expr)       -- `s[lo:hi]`
  | conv (t : Ty) (a : Expr)     -- `T(a)`
  | add (a b : Expr)
  | sub (a b : Expr)
  | or (a b : Expr)
  | and (a b : Expr)
  | shl (a k : Expr)
  | shr (a k : Expr)
  | eq (a b : Expr)
  | ne (a b : Expr)
  | lt (a b : Expr)
  | le (a b : Expr)
  | not (a : Expr)
  | lor (a b : Expr)             -- `||` (short-circuit)
  | land (a b : Expr)            -- `&&`

inductive Stmt where
  | decl (x : String) (e : Expr)
  | assign (x : String) (e : Expr)
  | setPos (e : Expr)
  | setBuf (e : Expr)
  | appendBuf (es : List Expr)
  | appendSlice (e : Expr)
  | make (x : String) (n : Expr)
  | copy (x : String) (src : Expr)
  | copyBuf (src : Expr)
  | call (xs : List String) (f : String) (args : List Expr)
  | ite (c : Expr) (t e : List Stmt)
  | loop (c : Expr) (post body : List Stmt)
  | ret (es : List Expr)

structure Fn where
  name : String
  params : List String
  body : List Stmt

/-- the stream object shared by the methods, and the ghost allocation counter -/
structure St where
  buffer : List Byte
  position : Int
  alloc : Nat

abbrev Env := List (String × Val)

/-- result of evaluating an expression -/
inductive EV (α : Type) where
  | val (v : α)
  | panic
  | stuck

@[inline] def EV.bind {α β : Type} (x : EV α) (f : α → EV β) : EV β :=
  match x with
  | .val v => f v
  | .panic => .panic
  | .stuck => .stuck

/-! ### operators on values (Go semantics) -/

/-- a value used as an index / shift count / size -/
def Val.toIdx : Val → Option Int
  | .int k => some k
  | .bv _ sg v => some (if sg then v.toInt else (v.toNat : Int))
  | _ => none

def Val.lit : Ty → Int → Val
  | .int, n => .int n
  | .bv w sg, n => .bv w sg (BitVec.ofInt w n)

/-- `T(a)`: the source is sign-extended when its type is signed, zero-extended otherwise, then truncated -/
def Val.conv : Ty → Val → EV Val
  | .int, .int k => .val (.int k)
  | .int, .bv w sg v => .val (.int (if sg || decide (64 ≤ w) then v.toInt else (v.toNat : Int)))
  | .bv w sg, .int k => .val (.bv w sg (BitVec.ofInt w k))
  | .bv w' sg', .bv w sg v => .val (.bv w' sg' (if sg && decide (w < w') then v.signExtend w' else v.setWidth w'))
  | _, _ => .stuck

def Val.add : Val → Val → EV Val
  | .int a, .int b => .val (.int (a + b))
  | .bv w s x, .bv w' s' y => if w = w' ∧ s = s' then .val (.bv w s (x + y.setWidth w)) else .stuck
  | _, _ => .stuck

def Val.sub : Val → Val → EV Val
  | .int a, .int b => .val (.int (a - b))
  | .bv w s x, .bv w' s' y => if w = w' ∧ s = s' then .val (.bv w s (x - y.setWidth w)) else .stuck
  | _, _ => .stuck

def Val.or : Val → Val → EV Val
  | .bv w s x, .bv w' s' y => if w = w' ∧ s = s' then .val (.bv w s (x ||| y.setWidth w)) else .stuck
  | _, _ => .stuck

def Val.and : Val → Val → EV Val
  | .bv w s x, .bv w' s' y => if w = w' ∧ s = s' then .val (.bv w s (x &&& y.setWidth w)) else .stuck
  | _, _ => .stuck

/-- `a << k`: a negative count panics; counts ≥ width give 0 (as `BitVec.shiftLeft` does) -/
def Val.shl (a k : Val) : EV Val :=
  match a, k.toIdx with
  | .bv w s x, some n => if n < 0 then .panic else .val (.bv w s (x <<< n.toNat))
  | _, _ => .stuck

/-- `a >> k`: arithmetic for a signed left operand, logical for an unsigned one -/
def Val.shr (a k : Val) : EV Val :=
  match a, k.toIdx with
  | .bv w s x, some n =>
    if n < 0 then .panic else .val (.bv w s (if s then x.sshiftRight n.toNat else x >>> n.toNat))
  | _, _ => .stuck

def Val.eq : Val → Val → EV Val
  | .int a, .int b => .val (.bool (decide (a = b)))
  | .bv w s x, .bv w' s' y => if w = w' ∧ s = s' then .val (.bool (decide (x = y.setWidth w))) else .stuck
  | .bool a, .bool b => .val (.bool (a == b))
  | .err a, .err b => .val (.bool (decide (a = b)))
  | _, _ => .stuck

def Val.lt : Val → Val → EV Val
  | .int a, .int b => .val (.bool (decide (a < b)))
  | .bv w s x, .bv w' s' y =>
    if w = w' ∧ s = s' then .val (.bool (if s then x.slt (y.setWidth w) else decide (x < y.setWidth w))) else .stuck
  | _, _ => .stuck

def Val.le : Val → Val → EV Val
  | .int a, .int b => .val (.bool (decide (a ≤ b)))
  | .bv w s x, .bv w' s' y =>
    if w = w' ∧ s = s' then .val (.bool (if s then x.sle (y.setWidth w) else decide (x ≤ y.setWidth w))) else .stuck
  | _, _ => .stuck

def Val.neg : Val → EV Val
  | .bool b => .val (.bool (!b))
  | _ => .stuck

def Val.len : Val → EV Val
  | .bytes l => .val (.int (l.length : Int))
  | _ => .stuck

/-- `s[i]`: out of range = panic -/
def Val.index (s i : Val) : EV Val :=
  match s, i.toIdx with
  | .bytes l, some k =>
    if k < 0 then .panic else
    match l[k.toNat]? with
    | some b => .val (.bv 8 false b)
    | none => .panic
  | _, _ => .stuck

/-- `s[lo:hi]` with `0 ≤ lo ≤ hi ≤ len(s)`; a bound outside that = panic.  (Go allows `hi` up to `cap(s)`; a slice
    value here has no capacity beyond its length, which is exact for the results of `s[lo:]` and sound for the code
    translated: bytes beyond `len` are never exposed.) -/
def sliceList (l : List Byte) (lo hi : Int) : EV Val :=
  if lo < 0 ∨ hi < lo ∨ (l.length : Int) < hi then .panic
  else .val (.bytes ((l.take hi.toNat).drop lo.toNat))

def Val.sliceFrom (s lo : Val) : EV Val :=
  match s, lo.toIdx with
  | .bytes l, some k => if k < 0 ∨ (l.length : Int) < k then .panic else .val (.bytes (l.drop k.toNat))
  | _, _ => .stuck

def Val.sliceTo (s hi : Val) : EV Val :=
  match s, hi.toIdx with
  | .bytes l, some k => sliceList l 0 k
  | _, _ => .stuck

def Val.slice (s lo hi : Val) : EV Val :=
  match s, lo.toIdx, hi.toIdx with
  | .bytes l, some a, some b => sliceList l a b
  | _, _, _ => .stuck

/-! ### expressions -/

def eval (st : St) (env : Env) : Expr → EV Val
  | .lit t n => .val (Val.lit t n)
  | .blit b => .val (.bool b)
  | .nil => .val (.err none)
  | .errc e => .val (.err (some e))
  | .nilBytes => .val (.bytes [])
  | .var x =>
    match env.lookup x with
    | some v => .val v
    | none => .stuck
  | .pos => .val (.int st.position)
  | .buf => .val (.bytes st.buffer)
  | .len s => (eval st env s).bind Val.len
  | .index s i => (eval st env s).bind fun a => (eval st env i).bind fun b => Val.index a b
  | .sliceFrom s lo => (eval st env s).bind fun a => (eval st env lo).bind fun b => Val.sliceFrom a b
  | .sliceTo s hi => (eval st env s).bind fun a => (eval st env hi).bind fun b => Val.sliceTo a b
  | .slice s lo hi =>
    (eval st env s).bind fun a => (eval st env lo).bind fun b => (eval st env hi).bind fun c => Val.slice a b c
  | .conv t a => (eval st env a).bind (Val.conv t)
  | .add a b => (eval st env a).bind fun v => (eval st env b).bind fun w => Val.add v w
  | .sub a b => (eval st env a).bind fun v => (eval st env b).bind fun w => Val.sub v w
  | .or a b => (eval st env a).bind fun v => (eval st env b).bind fun w => Val.or v w
  | .and a b => (eval st env a).bind fun v => (eval st env b).bind fun w => Val.and v w
  | .shl a k => (eval st env a).bind fun v => (eval st env k).bind fun w => Val.shl v w
  | .shr a k => (eval st env a).bind fun v => (eval st env k).bind fun w => Val.shr v w
  | .eq a b => (eval st env a).bind fun v => (eval st env b).bind fun w => Val.eq v w
  | .ne a b => (eval st env a).bind fun v => (eval st env b).bind fun w => (Val.eq v w).bind Val.neg
  | .lt a b => (eval st env a).bind fun v => (eval st env b).bind fun w => Val.lt v w
  | .le a b => (eval st env a).bind fun v => (eval st env b).bind fun w => Val.le v w
  | .not a => (eval st env a).bind Val.neg
  | .lor a b =>
    (eval st env a).bind fun v =>
      match v with
      | .bool true => .val (.bool true)
      | .bool false => (eval st env b).bind fun w => match w with
        | .bool c => .val (.bool c)
        | _ => .stuck
      | _ => .stuck
  | .land a b =>
    (eval st env a).bind fun v =>
      match v with
      | .bool false => .val (.bool false)
      | .bool true => (eval st env b).bind fun w => match w with
        | .bool c => .val (.bool c)
        | _ => .stuck
      | _ => .stuck

def evalList (st : St) (env : Env) : List Expr → EV (List Val)
  | [] => .val []
  | e :: es => (eval st env e).bind fun v => (evalList st env es).bind fun vs => .val (v :: vs)

/-- the bytes of `append(buffer, e1, …, en)`: every `ei` must be a byte -/
def bytesOf : List Val → Option (List Byte)
  | [] => some []
  | .bv w sg b :: vs => if w = 8 ∧ sg = false then (bytesOf vs).map (b.setWidth 8 :: ·) else none
  | _ => none

/-! ### statements -/

inductive Res where
  | ret (vs : List Val) (outs : List (Option (List Byte))) (st : St)
  | cont (env : Env) (st : St)      -- fell through the end of the block
  | panic

/-- `copy(dst, src)`: the first `min(len dst, len src)` elements of `dst` are overwritten -/
def copyInto (dst src : List Byte) : List Byte :=
  src.take dst.length ++ dst.drop src.length

/-- bind the results of a call to the left-hand sides -/
def bindRes (xs : List String) (rs : List Val) (env : Env) : Option Env :=
  if xs.length = rs.length then some (xs.zip rs ++ env) else none

/-- final contents of the slice-typed parameters `ps` of a method (`none` for a parameter of another type) -/
def outsOf (env : Env) : List String → List (Option (List Byte))
  | [] => []
  | p :: ps =>
    (match env.lookup p with
     | some (.bytes l) => some l
     | _ => none) :: outsOf env ps

/-- a slice argument that is a plain variable sees the element writes the callee made through its parameter -/
def writeBack : List (Option (List Byte)) → List Expr → Env → Env
  | some l :: os, .var y :: as, env => writeBack os as ((y, .bytes l) :: env)
  | _ :: os, _ :: as, env => writeBack os as env
  | _, _, env => env

/-- `ps` = the parameters of the method whose body is being executed -/
def exec (tbl : String → Option Fn) (ps : List String) : Nat → List Stmt → Env → St → Option Res
  | 0, _, _, _ => none
  | _ + 1, [], env, st => some (.cont env st)
  | f + 1, .decl x e :: rest, env, st =>
    match eval st env e with
    | .val v => exec tbl ps f rest ((x, v) :: env) st
    | .panic => some .panic
    | .stuck => none
  | f + 1, .assign x e :: rest, env, st =>
    match eval st env e with
    | .val v => exec tbl ps f rest ((x, v) :: env) st
    | .panic => some .panic
    | .stuck => none
  | f + 1, .setPos e :: rest, env, st =>
    match eval st env e with
    | .val (.int k) => exec tbl ps f rest env { st with position := k }
    | .panic => some .panic
    | _ => none
  | f + 1, .setBuf e :: rest, env, st =>
    match eval st env e with
    | .val (.bytes l) => exec tbl ps f rest env { st with buffer := l }
    | .panic => some .panic
    | _ => none
  | f + 1, .appendBuf es :: rest, env, st =>
    match evalList st env es with
    | .val vs =>
      match bytesOf vs with
      | some bs => exec tbl ps f rest env { st with buffer := st.buffer ++ bs }
      | none => none
    | .panic => some .panic
    | .stuck => none
  | f + 1, .appendSlice e :: rest, env, st =>
    match eval st env e with
    | .val (.bytes l) => exec tbl ps f rest env { st with buffer := st.buffer ++ l }
    | .panic => some .panic
    | _ => none
  | f + 1, .make x n :: rest, env, st =>
    match eval st env n with
    | .val v =>
      match v.toIdx with
      | some k =>
        if k < 0 then some .panic
        else exec tbl ps f rest ((x, .bytes (List.replicate k.toNat 0)) :: env) { st with alloc := st.alloc + k.toNat }
      | none => none
    | .panic => some .panic
    | .stuck => none
  | f + 1, .copy x src :: rest, env, st =>
    match env.lookup x, eval st env src with
    | some (.bytes d), .val (.bytes s) => exec tbl ps f rest ((x, .bytes (copyInto d s)) :: env) st
    | _, .panic => some .panic
    | _, _ => none
  | f + 1, .copyBuf src :: rest, env, st =>
    match eval st env src with
    | .val (.bytes s) => exec tbl ps f rest env { st with buffer := copyInto st.buffer s }
    | .panic => some .panic
    | _ => none
  | f + 1, .call xs g args :: rest, env, st =>
    match evalList st env args with
    | .val vs =>
      match tbl g with
      | none => none
      | some fn =>
        if fn.params.length ≠ vs.length then none else
        match exec tbl fn.params f fn.body (fn.params.zip vs) st with
        | some (.ret rs outs st') =>
          match bindRes xs rs env with
          | some env' => exec tbl ps f rest (writeBack outs args env') st'
          | none => none
        | some (.cont cenv st') =>
          match bindRes xs [] env with
          | some env' => exec tbl ps f rest (writeBack (outsOf cenv fn.params) args env') st'
          | none => none
        | some .panic => some .panic
        | none => none
    | .panic => some .panic
    | .stuck => none
  | f + 1, .ite c t e :: rest, env, st =>
    match eval st env c with
    | .val (.bool b) =>
      match exec tbl ps f (if b then t else e) env st with
      | some (.cont env' st') => exec tbl ps f rest env' st'
      | r => r
    | .panic => some .panic
    | _ => none
  | f + 1, .loop c post body :: rest, env, st =>
    match eval st env c with
    | .val (.bool false) => exec tbl ps f rest env st
    | .val (.bool true) =>
      match exec tbl ps f body env st with
      | some (.cont env' st') =>
        match exec tbl ps f post env' st' with
        | some (.cont env'' st'') => exec tbl ps f (.loop c post body :: rest) env'' st''
        | r => r
      | r => r
    | .panic => some .panic
    | _ => none
  | _ + 1, .ret es :: _, env, st =>
    match evalList st env es with
    | .val vs => some (.ret vs (outsOf env ps) st)
    | .panic => some .panic
    | .stuck => none

/-- outcome of one method call as seen by the caller: results, final contents of the slice parameters, stream -/
inductive Out where
  | ret (vs : List Val) (outs : List (Option (List Byte))) (st : St)
  | panic

/-- run the translated method `name` of the table on the stream `st` (exactly what a `call` statement does) -/
def run (tbl : String → Option Fn) (name : String) (fuel : Nat) (args : List Val) (st : St) : Option Out :=
  match tbl name with
  | none => none
  | some fn =>
    if fn.params.length ≠ args.length then none else
    match exec tbl fn.params fuel fn.body (fn.params.zip args) st with
    | some (.ret vs outs st') => some (.ret vs outs st')
    | some (.cont env st') => some (.ret [] (outsOf env fn.params) st')
    | some .panic => some .panic
    | none => none

/-- a `call` statement is `run` of the callee followed by binding the results -/
theorem exec_call (tbl : String → Option Fn) (ps : List String) (f : Nat) (xs : List String) (g : String)
    (args : List Expr) (rest : List Stmt) (env : Env) (st : St) (vs : List Val)
    (h : evalList st env args = .val vs) :
    exec tbl ps (f + 1) (.call xs g args :: rest) env st =
      match run tbl g f vs st with
      | some (.ret rs outs st') =>
        (match bindRes xs rs env with
         | some env' => exec tbl ps f rest (writeBack outs args env') st'
         | none => none)
      | some .panic => some .panic
      | none => none := by
  simp only [exec, run, h]
  cases tbl g with
  | none => rfl
  | some fn =>
    show (if fn.params.length ≠ vs.length then _ else _) = (match (if fn.params.length ≠ vs.length then _ else _) with
      | some (Out.ret rs outs st') => _ | some Out.panic => _ | none => _)
    by_cases hl : fn.params.length ≠ vs.length
    · rw [if_pos hl, if_pos hl]
    · rw [if_neg hl, if_neg hl]
      cases exec tbl fn.params f fn.body (fn.params.zip vs) st with
      | none => rfl
      | some r => cases r <;> rfl

/-! ### one-step unfolding lemmas of `exec`

Proofs about concrete generated terms rewrite with these (not with the equation compiler's definitional unfolding): each
is an ordinary theorem, so the kernel only has to match its statement and never has to evaluate `exec`/`eval`/`wrap` on
symbolic arguments. -/
attribute [ast_simp] eval evalList EV.bind Val.len Val.le Val.lt Val.eq Val.neg Val.lit Val.index Val.toIdx Val.add
  Val.sub Val.or Val.and Val.shl Val.shr Val.conv Val.sliceFrom bytesOf outsOf bindRes writeBack

section steps
variable (tbl : String → Option Fn) (ps : List String) (f : Nat) (rest : List Stmt) (env : Env) (st : St)

@[ast_simp] theorem exec_nil : exec tbl ps (f + 1) [] env st = some (.cont env st) := rfl

@[ast_simp] theorem exec_decl (x : String) (e : Expr) :
    exec tbl ps (f + 1) (.decl x e :: rest) env st =
      match eval st env e with
      | .val v => exec tbl ps f rest ((x, v) :: env) st
      | .panic => some .panic
      | .stuck => none := rfl

@[ast_simp] theorem exec_assign (x : String) (e : Expr) :
    exec tbl ps (f + 1) (.assign x e :: rest) env st =
      match eval st env e with
      | .val v => exec tbl ps f rest ((x, v) :: env) st
      | .panic => some .panic
      | .stuck => none := rfl

@[ast_simp] theorem exec_setPos (e : Expr) :
    exec tbl ps (f + 1) (.setPos e :: rest) env st =
      match eval st env e with
      | .val (.int k) => exec tbl ps f rest env { st with position := k }
      | .panic => some .panic
      | _ => none := rfl

@[ast_simp] theorem exec_setBuf (e : Expr) :
    exec tbl ps (f + 1) (.setBuf e :: rest) env st =
      match eval st env e with
      | .val (.bytes l) => exec tbl ps f rest env { st with buffer := l }
      | .panic => some .panic
      | _ => none := rfl

@[ast_simp] theorem exec_appendBuf (es : List Expr) :
    exec tbl ps (f + 1) (.appendBuf es :: rest) env st =
      match evalList st env es with
      | .val vs =>
        (match bytesOf vs with
         | some bs => exec tbl ps f rest env { st with buffer := st.buffer ++ bs }
         | none => none)
      | .panic => some .panic
      | .stuck => none := rfl

@[ast_simp] theorem exec_appendSlice (e : Expr) :
    exec tbl ps (f + 1) (.appendSlice e :: rest) env st =
      match eval st env e with
      | .val (.bytes l) => exec tbl ps f rest env { st with buffer := st.buffer ++ l }
      | .panic => some .panic
      | _ => none := rfl

@[ast_simp] theorem exec_make (x : String) (n : Expr) :
    exec tbl ps (f + 1) (.make x n :: rest) env st =
      match eval st env n with
      | .val v =>
        (match v.toIdx with
         | some k =>
           if k < 0 then some .panic
           else exec tbl ps f rest ((x, .bytes (List.replicate k.toNat 0)) :: env) { st with alloc := st.alloc + k.toNat }
         | none => none)
      | .panic => some .panic
      | .stuck => none := rfl

@[ast_simp] theorem exec_copy (x : String) (src : Expr) :
    exec tbl ps (f + 1) (.copy x src :: rest) env st =
      match env.lookup x, eval st env src with
      | some (.bytes d), .val (.bytes s) => exec tbl ps f rest ((x, .bytes (copyInto d s)) :: env) st
      | _, .panic => some .panic
      | _, _ => none := rfl

@[ast_simp] theorem exec_copyBuf (src : Expr) :
    exec tbl ps (f + 1) (.copyBuf src :: rest) env st =
      match eval st env src with
      | .val (.bytes s) => exec tbl ps f rest env { st with buffer := copyInto st.buffer s }
      | .panic => some .panic
      | _ => none := rfl

@[ast_simp] theorem exec_ite (c : Expr) (t e : List Stmt) :
    exec tbl ps (f + 1) (.ite c t e :: rest) env st =
      match eval st env c with
      | .val (.bool b) =>
        (match exec tbl ps f (if b then t else e) env st with
         | some (.cont env' st') => exec tbl ps f rest env' st'
         | r => r)
      | .panic => some .panic
      | _ => none := rfl

theorem exec_loop (c : Expr) (post body : List Stmt) :
    exec tbl ps (f + 1) (.loop c post body :: rest) env st =
      match eval st env c with
      | .val (.bool false) => exec tbl ps f rest env st
      | .val (.bool true) =>
        (match exec tbl ps f body env st with
         | some (.cont env' st') =>
           (match exec tbl ps f post env' st' with
            | some (.cont env'' st'') => exec tbl ps f (.loop c post body :: rest) env'' st''
            | r => r)
         | r => r)
      | .panic => some .panic
      | _ => none := rfl

/-- the same with the loop statement kept folded (`L` is a named definition in the proofs) -/
theorem exec_loop' (L : Stmt) (c : Expr) (post body : List Stmt) (hL : L = .loop c post body) :
    exec tbl ps (f + 1) (L :: rest) env st =
      match eval st env c with
      | .val (.bool false) => exec tbl ps f rest env st
      | .val (.bool true) =>
        (match exec tbl ps f body env st with
         | some (.cont env' st') =>
           (match exec tbl ps f post env' st' with
            | some (.cont env'' st'') => exec tbl ps f (L :: rest) env'' st''
            | r => r)
         | r => r)
      | .panic => some .panic
      | _ => none := by subst hL; rfl

@[ast_simp] theorem exec_ret (es : List Expr) :
    exec tbl ps (f + 1) (.ret es :: rest) env st =
      match evalList st env es with
      | .val vs => some (.ret vs (outsOf env ps) st)
      | .panic => some .panic
      | .stuck => none := rfl

end steps

/-- a look-up passes over a key that differs from the one sought -/
theorem lookup_cons_ne {α β : Type} [BEq α] [LawfulBEq α] {k a : α} {b : β} {es : List (α × β)} (h : a ≠ k) :
    ((k, b) :: es).lookup a = es.lookup a := by
  rw [List.lookup_cons, beq_false_of_ne h]

/-- what `run` makes of the result of executing the body -/
def finish (ps : List String) : Option Res → Option Out
  | some (.ret vs outs st') => some (.ret vs outs st')
  | some (.cont env st') => some (.ret [] (outsOf env ps) st')
  | some .panic => some .panic
  | none => none

-- the equations, not the definition: `finish ps (exec …)` stays folded until the execution has produced its result
attribute [ast_simp] finish.eq_1 finish.eq_2 finish.eq_3 finish.eq_4

theorem run_eq {tbl : String → Option Fn} {name : String} {fn : Fn} (h : tbl name = some fn) (fuel : Nat)
    (args : List Val) (st : St) (hl : fn.params.length = args.length) :
    run tbl name fuel args st = finish fn.params (exec tbl fn.params fuel fn.body (fn.params.zip args) st) := by
  unfold run
  rw [h]
  show (if fn.params.length ≠ args.length then _ else _) = _
  rw [if_neg (by simp [hl])]
  unfold finish
  rfl

end Got.Model.MiniGoBytes
