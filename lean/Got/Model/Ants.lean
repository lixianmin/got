import Got.Generated.LitsAnts
/-
Model of package ants (pool.go, pool_impl.go, task_callback_ants.go, task_option.go,
task_discard.go, pool_option.go, consts.go) as a timed labelled transition system.

Indexing.  The Go program has N dispatcher goroutines (`goDispatchTask`), N inner workers
(`goDispatchInnerCallback`), client goroutines calling `Send`, and one closure per attempt.
The model is indexed by *task id* `k` and *attempt* `a` instead of by goroutine:
  * `Task.pc` is the program counter of whichever goroutine currently executes code on behalf
    of task `k`: the client inside `Send` (stages sendTest … queued), then the dispatcher that
    received it from `taskChan` (`run` / `runTaskOnce`, stages loopTest … wgDone);
  * `Att.pc` (attempt `a` of task `k`) is the program counter of the closure handed to
    `sendInnerCallback`, executed by the inner worker occupying slot `w < N`.
  Dispatchers are interchangeable, so "a dispatcher is idle" is the computed condition
  `dispatching s < N`; inner workers are the slots `slot : Nat → Option (task, attempt)`.
One transition = one shared-memory / channel operation of the Go code (plus the local
computation up to the next one).  Handler calls, `Send` calls and the passage of time are
environment transitions.  `Cfg.old = true` is the code before the decided-flag fix
(kept for the two counterexample theorems only).

Go code of the core (current tree):

    func (my *taskCallback) run(ctx) {
        defer my.wg.Done()
        for i := 0; i < my.retry; i++ {            -- loopTest
            my.runTaskOnce(ctx)
            if my.err == nil { return }             -- errTest
        }
        if onError != nil { onError(my.err) }       -- onError
    }
    func (my *taskCallback) runTaskOnce(ctx) {
        ctx1, cancel := context.WithTimeout(ctx, my.timeout); defer cancel()   -- (loopTest) / cancel
        doneChan := make(chan struct{}); var decided int32
        my.pool.sendInnerCallback(func() {          -- sendCl (blocking send, cap N)
            defer close(doneChan)                   -- wClose
            result, err := my.handler(ctx1)         -- wStart … wEnd (environment)
            select {
            case <-ctx1.Done():                     -- wCheck
            default:
                verifYield(1)                       -- hook1
                if CAS(&decided, 0, 1) {            -- wCas
                    verifYield(4)                   -- hook4
                    my.result, my.err = result, err -- wWrite
                }
            }
        })
        verifYield(3)                               -- hook3
        select { case <-doneChan:                   -- selDone
                 case <-ctx1.Done(): verifYield(2)} -- selCtx, hook2
        if CAS(&decided, 0, 2) {                    -- decide
            my.result, my.err = nil, DeadlineExceeded   -- writeDE
        } else { <-doneChan }                       -- waitDone
    }
-/
namespace Got.Model.Ants

/-- results: 0 = nil, handler values are ≥ 1 -/
abbrev Val := Nat

inductive Err where
  | nil                 -- no error
  | de                  -- context.DeadlineExceeded
  | discard             -- errDiscard
  | h (code : Nat)      -- an error returned by the handler
  deriving DecidableEq, Repr, Inhabited

/-- program counter of the goroutine acting for a task (client in Send, then a dispatcher) -/
inductive TPc where
  | none | sendTest | discardCb | discarded | enq | queued
  | loopTest | sendCl | hook3 | select | hook2 | decide | writeDE | waitDone | cancel | errTest
  | onError | wgDone | done
  deriving DecidableEq, Repr, Inhabited

/-- program counter of the closure of one attempt (w = inner worker slot, (v,e) = handler's pair) -/
inductive CPc where
  | none | queued
  | taken (w : Nat)
  | running (w : Nat) (hon : Bool)
  | returned (w : Nat) (v : Val) (e : Err)
  | hook1 (w : Nat) (v : Val) (e : Err)
  | cas (w : Nat) (v : Val) (e : Err)
  | hook4 (w : Nat) (v : Val) (e : Err)
  | write (w : Nat) (v : Val) (e : Err)
  | closing (w : Nat)
  | closed
  deriving DecidableEq, Repr, Inhabited

/-- one attempt = one call of runTaskOnce: its context, doneChan, decided flag and closure -/
structure Att where
  pc : CPc := .none
  decided : Nat := 0            -- 0 undecided, 1 handler's pair counts, 2 timed out
  closedCh : Bool := false      -- doneChan closed
  ctxDone : Bool := false       -- ctx1.Done() closed (deadline timer fired, or cancel())
  deadline : Nat := 0
  -- ghost
  beginAt : Nat := 0
  ret : Option (Val × Err) := .none   -- what the handler returned
  sawLive : Bool := false       -- the closure's `select` took the default branch (ctx not done)
  starts : Nat := 0             -- handler invocations of this attempt
  hStart : Nat := 0
  hEnd : Nat := 0
  invIdx : Nat := 0             -- index of this invocation among the task's invocations
  deriving Repr, Inhabited

/-- raw options as given to Send (task_option.go) -/
structure Opts where
  timeout : Int
  retry : Int
  discard : Bool
  hasCb : Bool
  deriving Repr, Inhabited, DecidableEq

def nsPerDay : Nat := 24 * 3600 * 1000000000
/-- `365 * timex.Day` and the default retry count, literals of createTaskOptions -/
def defaultTimeout : Nat := (Got.Facts.lits_ants_createTaskOptions.getD 0 365).toNat * nsPerDay
def defaultRetry : Nat := (Got.Facts.lits_ants_createTaskOptions.getD 1 1).toNat

/-- WithTimeout / WithRetry keep the default unless the argument is > 0 -/
def effT (o : Opts) : Nat := if o.timeout > 0 then o.timeout.toNat else defaultTimeout
def effR (o : Opts) : Nat := if o.retry > 0 then o.retry.toNat else defaultRetry

/-! ### option functions (task_option.go, pool_option.go): pure functions on the options record, applied left to right -/

/-- a TaskOption value -/
inductive TOpt where
  | timeout (d : Int)       -- WithTimeout(d): assigns only if d > 0
  | retry (n : Int)         -- WithRetry(n): assigns only if n > 0
  | discard (b : Bool)      -- WithDiscardOnBusy(b): assigns
  | onError (set : Bool)    -- WithError(f): assigns, also nil (set = false)
  deriving Repr, DecidableEq, Inhabited

/-- the record createTaskOptions starts from: timeout 365 days, retry 1, discardOnBusy true, onError nil -/
def defaultOpts : Opts :=
  { timeout := Int.ofNat defaultTimeout, retry := Int.ofNat defaultRetry, discard := true, hasCb := false }

def TOpt.apply (o : Opts) : TOpt → Opts
  | .timeout d => if d > 0 then { o with timeout := d } else o
  | .retry n => if n > 0 then { o with retry := n } else o
  | .discard b => { o with discard := b }
  | .onError f => { o with hasCb := f }

/-- createTaskOptions: `for _, opt := range optionList { opt(&opts) }` -/
def applyOptions (l : List TOpt) : Opts := l.foldl TOpt.apply defaultOpts

/-- a PoolOption value -/
inductive POpt where
  | size (n : Int)            -- WithSize(n): assigns only if n > 0
  | ctxBuilder (set : Bool)   -- WithContextBuilder(f): assigns only if f != nil (set = true)
  deriving Repr, DecidableEq, Inhabited

structure PoolOpts where
  size : Nat
  customCtx : Bool            -- a caller-supplied context builder is in effect (default: context.Background)
  deriving Repr, DecidableEq, Inhabited

/-- createPoolOptions starts from size 1 and the Background builder -/
def defaultPoolOpts : PoolOpts := { size := (Got.Facts.lits_ants_createPoolOptions.getD 0 1).toNat, customCtx := false }

def POpt.apply (o : PoolOpts) : POpt → PoolOpts
  | .size n => if n > 0 then { o with size := n.toNat } else o
  | .ctxBuilder f => if f then { o with customCtx := true } else o

def applyPoolOptions (l : List POpt) : PoolOpts := l.foldl POpt.apply defaultPoolOpts

structure Task where
  pc : TPc := .none
  T : Nat := 1
  R : Nat := 1
  discard : Bool := false
  hasCb : Bool := false
  att : Nat := 0                -- attempts begun (loop variable i = att - 1 inside an attempt)
  at_ : Nat → Att := fun _ => {}
  result : Val := 0
  err : Err := .nil
  -- ghost
  onErr : List (Err × Nat) := []      -- onError calls (argument, time)
  inv : Nat := 0                      -- handler invocations
  lenAtSend : Nat := 0                -- len(taskChan) when Send was called (what the harness reads)
  lenAtTest : Nat := 0                -- len(taskChan) as read by the busy test
  sendAt : Nat := 0
  sendRet : Nat := 0
  pickAt : Nat := 0
  doneAt : Nat := 0
  got : Option (Val × Err) := .none   -- the pair visible at wg.Done (what the first Get2 returns)
  deriving Inhabited

structure Cfg where
  N : Nat
  old : Bool := false
  /-- the contexts returned by the pool's context builder (the `ctx` argument of `task.run`) are cancelled at this
      instant (`none`: never, e.g. the default context.Background). The instant is a parameter of the execution. -/
  baseCancelAt : Option Nat := none
  deriving Repr, Inhabited

/-- the dispatcher's own context is already cancelled -/
def baseDone (c : Cfg) (now : Nat) : Bool :=
  match c.baseCancelAt with
  | some x => decide (x ≤ now)
  | none => false

/-- the instant at which ctx1 = WithTimeout(ctx, T), created now, is done at the latest: its own deadline or the
    cancellation of its parent, whichever comes first -/
def ctxDeadline (c : Cfg) (now T : Nat) : Nat :=
  match c.baseCancelAt with
  | some x => if now < x then min (now + T) x else now + T
  | none => now + T

structure State where
  now : Nat := 0
  task : Nat → Task := fun _ => {}
  tasks : List Nat := []              -- ids handed to Send so far (finite support of `task`)
  taskQ : List Nat := []              -- taskChan (cap N)
  innerQ : List (Nat × Nat) := []     -- innerCallbackChan (cap N): closures (task, attempt)
  slot : Nat → Option (Nat × Nat) := fun _ => .none    -- inner worker w is executing this closure
  running : Nat := 0                  -- ghost: handler calls in progress (inc at entry, dec at exit)
  maxRunning : Nat := 0
  deriving Inhabited

def upd {α : Type} (f : Nat → α) (i : Nat) (x : α) : Nat → α := fun j => if j = i then x else f j

@[simp] theorem upd_same {α : Type} (f : Nat → α) (i : Nat) (x : α) : upd f i x i = x := by simp [upd]
theorem upd_other {α : Type} {f : Nat → α} {i j : Nat} {x : α} (h : j ≠ i) : upd f i x j = f j := by
  simp [upd, h]

def Task.setAt (t : Task) (a : Nat) (x : Att) : Task := { t with at_ := upd t.at_ a x }
def State.setTask (s : State) (k : Nat) (t : Task) : State := { s with task := upd s.task k t }

/-- current attempt index (meaningful when att ≥ 1) -/
def Task.cur (t : Task) : Nat := t.att - 1

def TPc.dispatching : TPc → Bool
  | .loopTest | .sendCl | .hook3 | .select | .hook2 | .decide | .writeDE | .waitDone | .cancel
  | .errTest | .onError | .wgDone => true
  | _ => false

/-- number of dispatcher goroutines currently inside `task.run` -/
def dispatching (s : State) : Nat := (s.tasks.filter (fun k => (s.task k).pc.dispatching)).length

inductive Act where
  | send (k : Nat) (o : Opts)          -- a client calls Send (environment); k is a fresh id
  | busyTest (k : Nat)
  | discardCb (k : Nat)
  | enq (k : Nat)
  | take (k : Nat)
  | loopTest (k : Nat)
  | sendCl (k : Nat)
  | hook3 (k : Nat)
  | selDone (k : Nat)
  | selCtx (k : Nat)
  | hook2 (k : Nat)
  | decide (k : Nat)
  | writeDE (k : Nat)
  | waitDone (k : Nat)
  | cancel (k : Nat)
  | errTest (k : Nat)
  | onError (k : Nat)
  | wgDone (k : Nat)
  | fire (k a : Nat)                   -- the timer of ctx1 fires
  | wTake (k a w : Nat)
  | wStart (k a : Nat) (hon : Bool)    -- handler entered (environment decides whether it honours ctx)
  | wEnd (k a : Nat) (v : Val) (e : Err)   -- handler returns (environment)
  | wCheck (k a : Nat)
  | hook1 (k a : Nat)
  | wCas (k a : Nat)
  | hook4 (k a : Nat)
  | wWrite (k a : Nat)
  | wClose (k a : Nat)
  | advance (t : Nat)                  -- time passes
  deriving Repr, DecidableEq, Inhabited

/-- armed context timers do not let time pass beyond their deadline -/
def timersAllow (s : State) (t : Nat) : Bool :=
  s.tasks.all fun k =>
    let tk := s.task k
    (List.range tk.att).all fun a => (tk.at_ a).ctxDone || decide (t ≤ (tk.at_ a).deadline)

/-- task-local part of a dispatcher / client transition; `none` = not enabled.
    `full` = `len(taskChan) == cap(taskChan)` as read by the busy test, `qlen` = that length. -/
def tstep (c : Cfg) (now : Nat) (qlen : Nat) (t : Task) : Act → Option Task
  | .send _ o =>
    if t.pc = .none then
      some { t with pc := .sendTest, T := effT o, R := effR o, discard := o.discard, hasCb := o.hasCb, sendAt := now,
                    lenAtSend := qlen }
    else none
  | .busyTest _ =>
    if t.pc = .sendTest then
      if t.discard && qlen == c.N then some { t with pc := .discardCb, lenAtTest := qlen }
      else some { t with pc := .enq, lenAtTest := qlen }
    else none
  | .discardCb _ =>
    if t.pc = .discardCb then
      some { t with pc := .discarded, sendRet := now,
                    onErr := if t.hasCb then t.onErr ++ [(Err.discard, now)] else t.onErr }
    else none
  | .enq _ => if t.pc = .enq then some { t with pc := .queued, sendRet := now } else none
  | .take _ => if t.pc = .queued then some { t with pc := .loopTest, pickAt := now } else none
  | .loopTest _ =>
    if t.pc = .loopTest then
      if t.att < t.R then
        -- context.WithTimeout(ctx, T): a child of a cancelled parent is done at once (its Err is Canceled; the code
        -- nevertheless records DeadlineExceeded for the attempt)
        some { (t.setAt t.att { deadline := ctxDeadline c now t.T, beginAt := now, ctxDone := baseDone c now }) with
                 pc := .sendCl, att := t.att + 1 }
      else some { t with pc := .onError }
    else none
  | .sendCl _ =>
    if t.pc = .sendCl ∧ (t.at_ t.cur).pc = .none then
      some { (t.setAt t.cur { t.at_ t.cur with pc := .queued }) with pc := .hook3 }
    else none
  | .hook3 _ => if t.pc = .hook3 then some { t with pc := .select } else none
  | .selDone _ =>
    if t.pc = .select ∧ (t.at_ t.cur).closedCh then
      some { t with pc := if c.old then .cancel else .decide }
    else none
  | .selCtx _ =>
    if t.pc = .select ∧ (t.at_ t.cur).ctxDone then some { t with pc := .hook2 } else none
  | .hook2 _ =>
    if t.pc = .hook2 then some { t with pc := if c.old then .writeDE else .decide } else none
  | .decide _ =>
    if t.pc = .decide then
      if (t.at_ t.cur).decided = 0 then
        some { (t.setAt t.cur { t.at_ t.cur with decided := 2 }) with pc := .writeDE }
      else some { t with pc := .waitDone }
    else none
  | .writeDE _ =>
    if t.pc = .writeDE then some { t with pc := .cancel, result := 0, err := .de } else none
  | .waitDone _ =>
    if t.pc = .waitDone ∧ (t.at_ t.cur).closedCh then some { t with pc := .cancel } else none
  | .cancel _ =>
    if t.pc = .cancel then
      some { (t.setAt t.cur { t.at_ t.cur with ctxDone := true }) with pc := .errTest }
    else none
  | .errTest _ =>
    if t.pc = .errTest then
      if t.err = .nil then some { t with pc := .wgDone } else some { t with pc := .loopTest }
    else none
  | .onError _ =>
    if t.pc = .onError then
      some { t with pc := .wgDone, onErr := if t.hasCb then t.onErr ++ [(t.err, now)] else t.onErr }
    else none
  | .wgDone _ =>
    if t.pc = .wgDone then some { t with pc := .done, doneAt := now, got := some (t.result, t.err) } else none
  | .fire _ a =>
    if a < t.att ∧ (t.at_ a).ctxDone = false ∧ (t.at_ a).deadline ≤ now then
      some (t.setAt a { t.at_ a with ctxDone := true })
    else none
  | .wTake _ a w =>
    if (t.at_ a).pc = .queued then some (t.setAt a { t.at_ a with pc := .taken w }) else none
  | .wStart _ a hon =>
    match (t.at_ a).pc with
    | .taken w =>
      some { (t.setAt a { t.at_ a with pc := .running w hon, starts := (t.at_ a).starts + 1, hStart := now,
                                       invIdx := t.inv }) with inv := t.inv + 1 }
    | _ => none
  | .wEnd _ a v e =>
    match (t.at_ a).pc with
    | .running w _ => some (t.setAt a { t.at_ a with pc := .returned w v e, ret := some (v, e), hEnd := now })
    | _ => none
  | .wCheck _ a =>
    match (t.at_ a).pc with
    | .returned w v e =>
      if (t.at_ a).ctxDone then some (t.setAt a { t.at_ a with pc := .closing w })
      else some (t.setAt a { t.at_ a with pc := .hook1 w v e, sawLive := true })
    | _ => none
  | .hook1 _ a =>
    match (t.at_ a).pc with
    | .hook1 w v e => some (t.setAt a { t.at_ a with pc := if c.old then .write w v e else .cas w v e })
    | _ => none
  | .wCas _ a =>
    match (t.at_ a).pc with
    | .cas w v e =>
      if (t.at_ a).decided = 0 then some (t.setAt a { t.at_ a with pc := .hook4 w v e, decided := 1 })
      else some (t.setAt a { t.at_ a with pc := .closing w })
    | _ => none
  | .hook4 _ a =>
    match (t.at_ a).pc with
    | .hook4 w v e => some (t.setAt a { t.at_ a with pc := .write w v e })
    | _ => none
  | .wWrite _ a =>
    match (t.at_ a).pc with
    | .write w v e => some { (t.setAt a { t.at_ a with pc := .closing w }) with result := v, err := e }
    | _ => none
  | .wClose _ a =>
    match (t.at_ a).pc with
    | .closing _ => some (t.setAt a { t.at_ a with pc := .closed, closedCh := true })
    | _ => none
  | .advance _ => none

/-- the task an action belongs to -/
def Act.task : Act → Nat
  | .send k _ | .busyTest k | .discardCb k | .enq k | .take k | .loopTest k | .sendCl k | .hook3 k
  | .selDone k | .selCtx k | .hook2 k | .decide k | .writeDE k | .waitDone k | .cancel k | .errTest k
  | .onError k | .wgDone k | .fire k _ | .wTake k _ _ | .wStart k _ _ | .wEnd k _ _ _ | .wCheck k _
  | .hook1 k _ | .wCas k _ | .hook4 k _ | .wWrite k _ | .wClose k _ => k
  | .advance _ => 0

/-- slot held by a closure -/
def CPc.slot? : CPc → Option Nat
  | .taken w | .running w _ | .returned w _ _ | .hook1 w _ _ | .cas w _ _ | .hook4 w _ _ | .write w _ _ | .closing w =>
    Option.some w
  | _ => Option.none

/-- global step: channel / slot / clock effects + the task-local effect `tstep` -/
def step (c : Cfg) (s : State) (act : Act) : Option State :=
  match act with
  | .advance t =>
    if s.now < t ∧ timersAllow s t then some { s with now := t } else none
  | _ =>
    let k := act.task
    match tstep c s.now s.taskQ.length (s.task k) act with
    | none => none
    | some t' =>
      let s' := s.setTask k t'
      match act with
      | .send _ _ => some { s' with tasks := s.tasks ++ [k] }
      | .enq _ => if s.taskQ.length < c.N then some { s' with taskQ := s.taskQ ++ [k] } else none
      | .take _ =>
        match s.taskQ with
        | k' :: rest => if k' = k ∧ dispatching s < c.N then some { s' with taskQ := rest } else none
        | [] => none
      | .sendCl _ =>
        if s.innerQ.length < c.N then some { s' with innerQ := s.innerQ ++ [(k, (s.task k).cur)] } else none
      | .wTake _ a w =>
        match s.innerQ with
        | p :: rest =>
          if p = (k, a) ∧ w < c.N ∧ s.slot w = none then some { s' with innerQ := rest, slot := upd s.slot w (some (k, a)) }
          else none
        | [] => none
      | .wStart _ _ _ =>
        some { s' with running := s.running + 1, maxRunning := max s.maxRunning (s.running + 1) }
      | .wEnd _ _ _ _ => some { s' with running := s.running - 1 }
      | .wClose _ a =>
        match ((s.task k).at_ a).pc.slot? with
        | some w => some { s' with slot := upd s.slot w none }
        | none => none
      | _ => some s'

def run (c : Cfg) (s : State) : List Act → Option State
  | [] => some s
  | a :: rest => match step c s a with
    | none => none
    | some s' => run c s' rest

def init : State := {}

def Reachable (c : Cfg) (s : State) : Prop := ∃ acts, run c init acts = some s

/-- what Get2 returns once unblocked: taskDiscard.Get2 / taskCallback.Get2 -/
def get2 (t : Task) : Option (Val × Err) :=
  match t.pc with
  | .discarded => some (0, .discard)
  | .done => some (t.result, t.err)
  | _ => none

/-- the outcome of a decided attempt -/
def Att.outcome (x : Att) : Option (Val × Err) :=
  if x.decided = 1 then x.ret else if x.decided = 2 then some (0, .de) else none

/-! ### enabledness of non-clock transitions (for maximal progress) -/

/-- candidate next actions of the goroutines working for task k (everything except Send, handler
    returns and the clock): at most one per program counter, plus timer firings -/
def taskActs (c : Cfg) (s : State) (k : Nat) : List Act :=
  let t := s.task k
  let own : List Act := match t.pc with
    | .sendTest => [.busyTest k] | .discardCb => [.discardCb k] | .enq => [.enq k] | .queued => [.take k]
    | .loopTest => [.loopTest k] | .sendCl => [.sendCl k] | .hook3 => [.hook3 k]
    | .select => [.selDone k, .selCtx k] | .hook2 => [.hook2 k] | .decide => [.decide k]
    | .writeDE => [.writeDE k] | .waitDone => [.waitDone k] | .cancel => [.cancel k] | .errTest => [.errTest k]
    | .onError => [.onError k] | .wgDone => [.wgDone k]
    | _ => []
  let cl : List Act := (List.range t.att).flatMap fun a =>
    let x := t.at_ a
    (if x.ctxDone = false ∧ x.deadline ≤ s.now then [Act.fire k a] else []) ++
    (match x.pc with
     | .queued => (List.range c.N).map fun w => Act.wTake k a w
     | .taken _ => [.wStart k a true]
     | .returned _ _ _ => [.wCheck k a]
     | .hook1 _ _ _ => [.hook1 k a]
     | .cas _ _ _ => [.wCas k a]
     | .hook4 _ _ _ => [.hook4 k a]
     | .write _ _ _ => [.wWrite k a]
     | .closing _ => [.wClose k a]
     | _ => [])
  own ++ cl

def internalActs (c : Cfg) (s : State) : List Act := s.tasks.flatMap (taskActs c s)

/-- a handler that honours cancellation returns no later than the instant its ctx is done -/
def overdueHandler (s : State) : Bool :=
  s.tasks.any fun k =>
    let t := s.task k
    (List.range t.att).any fun a =>
      match (t.at_ a).pc with
      | .running _ true => (t.at_ a).ctxDone
      | _ => false

/-- no goroutine can take a step and no cancellation-honouring handler is overdue: only then may
    time pass (maximal progress = the semantics of the Go runtime's faketime clock) -/
def quiescent (c : Cfg) (s : State) : Bool :=
  (internalActs c s).all (fun a => (step c s a).isNone) && !overdueHandler s

end Got.Model.Ants
