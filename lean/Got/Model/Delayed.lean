import Got.Generated.LitsTaskx
/-
Model of taskx.SendDelayed (taskx/delayed_queue.go, task_delayed.go, queue.go:SendDelayed,
std/priority_queue.go over Go's container/heap).

`DelayedHeap` is a transcription of container/heap's Push / Pop / up / down over a slice (Array)
with `Less(i, j) = lt a[i] a[j]`  (std.sorter.Less → taskDelayed.Less: triggerTime <).

The delayed queue itself is a timed labelled transition system:

  goLoop:  ticker := NewTicker(1000ms) ; pq := NewPriorityQueue(32)
           for { select {
             case <-ticker.C:  timestamp := now
                               for pq.Len() > 0 { task := pq.Top(); if task.triggerTime > timestamp { break }
                                                  pq.Pop(); task.Do(nil) }      -- Do = task.queue.SendCallback(handler)
             case task := <-my.tasks:  pq.Push(task) } }
  SendDelayed(d, h): task := {queue, h, triggerTime: now + d} ; my.tasks <- task        (chan cap 128)
  task.Do = task.queue.SendCallback(handler) = select { case <-closeChan: ; case C <- task: }: on a closed target queue
  the closeChan branch may be taken (it must be when C is full): the delayed task is consumed, nothing is delivered,
  and the loop goes on with the next entry of the same tick.

Time: `now` (ns).  The ticker fires at `nextTick` (a multiple of the period), the tick is kept in
ticker.C (capacity 1) or dropped when one is already pending.  `delay` is enabled only when no
internal transition of the loop or of a blocked sender is (maximal progress — the semantics of the Go
runtime's faketime clock, and of a machine on which the loop's computation takes negligible time).
-/
namespace Got.Model.DelayedHeap

variable {α : Type}

/-- container/heap.up -/
def up (lt : α → α → Bool) (a : Array α) (j : Nat) : Array α :=
  if hj : j < a.size then
    if hij : (j - 1) / 2 = j then a
    else if lt a[j] (a[(j - 1) / 2]'(by omega)) then up lt (a.swapIfInBounds ((j - 1) / 2) j) ((j - 1) / 2)
    else a
  else a
termination_by j
decreasing_by omega

/-- the smaller child of i in the prefix of length n (`j` in container/heap.down) -/
def child (lt : α → α → Bool) (a : Array α) (i n : Nat) (h : 2 * i + 1 < n ∧ n ≤ a.size) : Nat :=
  if h2 : 2 * i + 2 < n then
    (if lt (a[2 * i + 2]'(by omega)) (a[2 * i + 1]'(by omega)) then 2 * i + 2 else 2 * i + 1)
  else 2 * i + 1

theorem child_spec (lt : α → α → Bool) (a : Array α) (i n : Nat) (h : 2 * i + 1 < n ∧ n ≤ a.size) :
    child lt a i n h = 2 * i + 1 ∨ (child lt a i n h = 2 * i + 2 ∧ 2 * i + 2 < n) := by
  unfold child
  split
  · split
    · exact Or.inr ⟨rfl, ‹_›⟩
    · exact Or.inl rfl
  · exact Or.inl rfl

theorem child_lt (lt : α → α → Bool) (a : Array α) (i n : Nat) (h : 2 * i + 1 < n ∧ n ≤ a.size) :
    child lt a i n h < n ∧ i < child lt a i n h := by
  have := child_spec lt a i n h
  omega

/-- container/heap.down on the prefix of length n -/
def down (lt : α → α → Bool) (a : Array α) (i n : Nat) : Array α :=
  if h1 : 2 * i + 1 < n ∧ n ≤ a.size then
    if lt (a[child lt a i n h1]'(by have := child_lt lt a i n h1; omega)) (a[i]'(by omega)) then
      down lt (a.swapIfInBounds i (child lt a i n h1)) (child lt a i n h1) n
    else a
  else a
termination_by n - i
decreasing_by
  have := child_lt lt a i n h1
  omega

/-- heap.Push: append, then up from the last index -/
def push (lt : α → α → Bool) (a : Array α) (x : α) : Array α := up lt (a.push x) a.size

/-- heap.Pop: swap 0 and n-1, down on the first n-1, remove the last (the returned value is the old a[0]) -/
def pop (lt : α → α → Bool) (a : Array α) : Array α :=
  let n := a.size - 1
  (down lt (a.swapIfInBounds 0 n) 0 n).pop

end Got.Model.DelayedHeap

namespace Got.Model.Delayed
open Got.Model

/-- ticker period in ns: `1000 * time.Millisecond` (literal from the source; time.Millisecond = 10^6 ns) -/
def tickNs : Nat := (Got.Facts.lits_taskx_delayedQueue_goLoop.headD 0).toNat * 1000000

/-- capacity of `delayedQueue.tasks` -/
def reqCap : Nat := (Got.Facts.lits_taskx_newDelayedQueue.headD 0).toNat

structure Req where
  id : Nat
  queue : Nat
  trigger : Int     -- triggerTime (ns)
  sent : Nat        -- ghost: instant of the SendDelayed call
  deriving DecidableEq, Repr, Inhabited

/-- taskDelayed.Less -/
def less (a b : Req) : Bool := a.trigger < b.trigger

inductive LPc where
  | select
  | tickLoop (ts : Nat)               -- in `for pq.Len() > 0`, timestamp ts
  | forwarding (ts : Nat) (r : Req)   -- r popped; inside r.queue.SendCallback, before its select
  deriving DecidableEq, Repr

structure State where
  now : Nat
  nextTick : Nat
  tickPending : Bool
  senders : List Req            -- SendDelayed calls parked at `my.tasks <- task`
  reqChan : List Req
  heap : Array Req
  lpc : LPc
  q : Nat → List Req            -- target queues' channels
  qcap : Nat → Nat
  qclosed : Nat → Bool          -- the target queue's closeChan is closed
  -- ghost
  nextId : Nat
  forwarded : List (Req × Nat)  -- (request, instant at which it was placed on its queue), in order
  blockedEver : Bool            -- time has passed while the loop was blocked on a full target queue
  dropped : List Req            -- requests consumed through the `<-closeChan` branch of a closed target queue

def init (qcap : Nat → Nat) : State :=
  { now := 0, nextTick := tickNs, tickPending := false, senders := [], reqChan := [], heap := #[], lpc := .select,
    q := fun _ => [], qcap := qcap, qclosed := fun _ => false, nextId := 0, forwarded := [], blockedEver := false,
    dropped := [] }

inductive Act where
  | sendDelayed (q : Nat) (d : Int)   -- a goroutine calls Queue(q).SendDelayed(d, handler≠nil)
  | enq (i : Nat)                     -- the i-th parked sender's channel send succeeds
  | pushReq                           -- loop: case task := <-my.tasks: pq.Push(task)
  | tickRecv                          -- loop: case <-ticker.C: timestamp := now
  | tickTest                          -- loop: one evaluation of the `for` condition / trigger test (+ Pop)
  | forward                           -- loop: SendCallback's `C <- task` on the target queue
  | forwardDrop                       -- loop: SendCallback's `<-closeChan` branch (target queue closed): task consumed
  | closeQ (q : Nat)                  -- the owner of queue q closes its close channel
  | qRecv (q : Nat)                   -- the consumer of queue q receives
  | tickFire                          -- the ticker's timer fires
  | delay (d : Nat)                   -- time passes
  deriving Repr

def updQ (f : Nat → List Req) (a : Nat) (b : List Req) : Nat → List Req := fun x => if x = a then b else f x

def loopEnabled (s : State) : Bool :=
  match s.lpc with
  | .select => s.tickPending || !s.reqChan.isEmpty
  | .tickLoop _ => true
  | .forwarding _ r => decide ((s.q r.queue).length < s.qcap r.queue) || s.qclosed r.queue

def enqEnabled (s : State) : Bool := !s.senders.isEmpty && decide (s.reqChan.length < reqCap)

def isForwarding : LPc → Bool
  | .forwarding _ _ => true
  | _ => false

def step (s : State) : Act → Option State
  | .sendDelayed q d =>
    let r : Req := { id := s.nextId, queue := q, trigger := (s.now : Int) + d, sent := s.now }
    some { s with senders := s.senders ++ [r], nextId := s.nextId + 1 }
  | .enq i =>
    match s.senders[i]? with
    | some r =>
      if s.reqChan.length < reqCap then some { s with senders := s.senders.eraseIdx i, reqChan := s.reqChan ++ [r] }
      else none
    | none => none
  | .pushReq =>
    match s.lpc, s.reqChan with
    | .select, r :: rest => some { s with reqChan := rest, heap := DelayedHeap.push less s.heap r }
    | _, _ => none
  | .tickRecv =>
    match s.lpc with
    | .select => if s.tickPending then some { s with tickPending := false, lpc := .tickLoop s.now } else none
    | _ => none
  | .tickTest =>
    match s.lpc with
    | .tickLoop ts =>
      match s.heap[0]? with
      | none => some { s with lpc := .select }                       -- pq.Len() == 0
      | some top =>
        if top.trigger > (ts : Int) then some { s with lpc := .select } -- break
        else some { s with heap := DelayedHeap.pop less s.heap, lpc := .forwarding ts top }
    | _ => none
  | .forward =>
    match s.lpc with
    | .forwarding ts r =>
      if (s.q r.queue).length < s.qcap r.queue then
        some { s with q := updQ s.q r.queue (s.q r.queue ++ [r]), forwarded := s.forwarded ++ [(r, s.now)], lpc := .tickLoop ts }
      else none
    | _ => none
  | .forwardDrop =>
    match s.lpc with
    | .forwarding ts r =>
      if s.qclosed r.queue then some { s with dropped := s.dropped ++ [r], lpc := .tickLoop ts } else none
    | _ => none
  | .closeQ q => some { s with qclosed := fun x => if x = q then true else s.qclosed x }
  | .qRecv q =>
    match s.q q with
    | _ :: rest => some { s with q := updQ s.q q rest }
    | [] => none
  | .tickFire =>
    if s.now = s.nextTick then some { s with tickPending := true, nextTick := s.nextTick + tickNs } else none
  | .delay d =>
    if 0 < d ∧ s.now + d ≤ s.nextTick ∧ loopEnabled s = false ∧ enqEnabled s = false then
      some { s with now := s.now + d, blockedEver := s.blockedEver || isForwarding s.lpc }
    else none

def stepD (s : State) (a : Act) : State := (step s a).getD s

def run (qcap : Nat → Nat) (acts : List Act) : State := acts.foldl stepD (init qcap)

def Reachable (qcap : Nat → Nat) (s : State) : Prop := ∃ acts, s = run qcap acts

end Got.Model.Delayed
