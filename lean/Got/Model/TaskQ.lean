import Got.Generated.LitsTaskx
/-
Model of taskx.Queue (taskx/queue.go, task_callback.go, task_empty.go, option.go).

A labelled transition system.  One transition = one channel / WaitGroup operation of the Go code
(plus the local computation up to the next one).

  SendCallback(handler)                                SendTask(task)
    if handler == nil { return taskEmpty{} }             if task != nil {
    task := &taskCallback{handler}; task.wg.Add(1)          checkQueueFull()
    checkQueueFull()          -- len(C)==cap(C) → log       select { case <-closeChan: ; case C <- task: }
    select { case <-closeChan: ; case C <- task: }        }
    return task                                          return task

  taskCallback.Do:  result, err = handler(args) ; if !isHandled { isHandled = true ; wg.Done() }
  taskCallback.Get2: wg.Wait() ; return result, err          taskEmpty.Get2: return nil, nil

Producers are indexed by `Nat` (unbounded number of goroutines, each sequential).  There is one
consumer: it receives a task and calls `Do`; it may call `Do` again on a task it executed before
(`redo`).  Ghost fields (never read by the non-ghost part): `nextSeq`, `begun`, `puts`, `aborted`,
`received`, `execLog`, `returned`, `fullLogs`.

Trusted (modelled, not verified): a buffered Go channel is a bounded FIFO; `select` takes any ready
branch; `WaitGroup.Wait` returns once the counter is 0.
-/
namespace Got.Model.TaskQ

/-- (result, err) as returned by a handler; `none` = nil. -/
abbrev Pair := Option Nat × Option Nat

def nilPair : Pair := (none, none)

/-- a value of the Go interface `Task`. `cb id` = pointer to the id-th allocated `taskCallback`;
    `user u` = some Task implementation of the caller (only reachable through SendTask). -/
inductive TaskRef where
  | empty
  | cb (id : Nat)
  | user (u : Nat)
  deriving DecidableEq, Repr

/-- what travels through `C`: the task plus the ghost tag (producer, sequence number of the send). -/
structure Msg where
  task : TaskRef
  prod : Nat
  seq : Nat
  deriving DecidableEq, Repr

/-- program counter of a producer goroutine -/
inductive PPc where
  | idle
  | sel (m : Msg)      -- inside SendCallback / SendTask, parked before the `select`
  deriving DecidableEq, Repr

/-- program counter of the consumer goroutine -/
inductive CPc where
  | idle
  | got (t : TaskRef)            -- received (or re-doing) `t`, about to call `t.Do`
  | ran (id : Nat) (r : Pair)    -- handler of taskCallback `id` returned `r`, not yet stored
  | stored (id : Nat)            -- result/err stored, before the `isHandled` test
  deriving DecidableEq, Repr

def upd {β : Type} (f : Nat → β) (a : Nat) (b : β) : Nat → β := fun x => if x = a then b else f x

@[simp] theorem upd_same {β : Type} (f : Nat → β) (a : Nat) (b : β) : upd f a b a = b := by simp [upd]
theorem upd_other {β : Type} {f : Nat → β} {a x : Nat} {b : β} (h : x ≠ a) : upd f a b x = f x := by
  simp [upd, h]

structure State where
  cap : Nat
  chan : List Msg
  closed : Bool
  ppc : Nat → PPc
  cpc : CPc
  nextTask : Nat               -- number of taskCallback objects allocated
  done : Nat → Bool            -- wg counter of taskCallback id is 0
  handled : Nat → Bool         -- isHandled
  result : Nat → Pair          -- (result, err) fields
  -- ghost
  nextSeq : Nat → Nat          -- number of Send* calls producer p has made
  begun : List Msg             -- every message whose send reached the select, in order
  puts : List Msg              -- successful `C <- task`, in order
  aborted : List Msg           -- sends that left through `<-closeChan`
  received : List Msg          -- what the consumer received, in order
  execLog : List (Nat × Pair)  -- handler executions by the consumer: (task id, returned pair)
  returned : Nat → List TaskRef -- values returned to producer p by its Send* calls (newest first)
  fullLogs : Nat               -- number of "taskQueue is full" log lines

def init (cap : Nat) : State :=
  { cap := cap, chan := [], closed := false, ppc := fun _ => .idle, cpc := .idle, nextTask := 0,
    done := fun _ => false, handled := fun _ => false, result := fun _ => nilPair,
    nextSeq := fun _ => 0, begun := [], puts := [], aborted := [], received := [], execLog := [],
    returned := fun _ => [], fullLogs := 0 }

inductive Act where
  | sendCallback (p : Nat) (nonNil : Bool)  -- producer p calls SendCallback(handler); nonNil = (handler != nil)
  | sendTask (p : Nat) (t : Option TaskRef) -- producer p calls SendTask(t); none = nil
  | put (p : Nat)                           -- select branch  C <- task
  | abort (p : Nat)                         -- select branch  <-closeChan
  | close                                   -- close(closeChan)
  | recv                                    -- consumer: task := <-C
  | call (r : Pair)                         -- consumer: handler(args) returns r
  | store                                   -- consumer: task.result, task.err = r
  | finish                                  -- consumer: if !isHandled { isHandled = true; wg.Done() }
  | doOther                                 -- consumer: Do of a taskEmpty / user task
  | redo (id : Nat)                         -- consumer calls Do again on a task it already executed
  deriving Repr

/-- the part of Send* from checkQueueFull up to the select -/
def beginSend (s : State) (p : Nat) (t : TaskRef) : State :=
  let m : Msg := ⟨t, p, s.nextSeq p⟩
  { s with
    fullLogs := if s.chan.length = s.cap then s.fullLogs + 1 else s.fullLogs
    ppc := upd s.ppc p (.sel m)
    nextSeq := upd s.nextSeq p (s.nextSeq p + 1)
    begun := s.begun ++ [m] }

/-- `none` = the action is not enabled in `s` (the goroutine is blocked / not at that point). -/
def step (s : State) : Act → Option State
  | .sendCallback p nonNil =>
    match s.ppc p with
    | .idle =>
      if nonNil then
        let id := s.nextTask
        -- &taskCallback{handler}; wg.Add(1)
        let s1 := { s with nextTask := id + 1, done := upd s.done id false, handled := upd s.handled id false,
                           result := upd s.result id nilPair }
        some (beginSend s1 p (.cb id))
      else
        some { s with nextSeq := upd s.nextSeq p (s.nextSeq p + 1), returned := upd s.returned p (.empty :: s.returned p) }
    | _ => none
  | .sendTask p t =>
    match s.ppc p with
    | .idle =>
      match t with
      | none => some { s with nextSeq := upd s.nextSeq p (s.nextSeq p + 1) }
      | some (.cb id) => if id < s.nextTask then some (beginSend s p (.cb id)) else none
      | some t => some (beginSend s p t)
    | _ => none
  | .put p =>
    match s.ppc p with
    | .sel m =>
      if s.chan.length < s.cap then
        some { s with chan := s.chan ++ [m], puts := s.puts ++ [m], ppc := upd s.ppc p .idle,
                      returned := upd s.returned p (m.task :: s.returned p) }
      else none
    | _ => none
  | .abort p =>
    match s.ppc p with
    | .sel m =>
      if s.closed then
        some { s with aborted := s.aborted ++ [m], ppc := upd s.ppc p .idle,
                      returned := upd s.returned p (m.task :: s.returned p) }
      else none
    | _ => none
  | .close => some { s with closed := true }
  | .recv =>
    match s.cpc, s.chan with
    | .idle, m :: rest => some { s with chan := rest, received := s.received ++ [m], cpc := .got m.task }
    | _, _ => none
  | .call r =>
    match s.cpc with
    | .got (.cb id) => some { s with cpc := .ran id r, execLog := s.execLog ++ [(id, r)] }
    | _ => none
  | .store =>
    match s.cpc with
    | .ran id r => some { s with cpc := .stored id, result := upd s.result id r }
    | _ => none
  | .finish =>
    match s.cpc with
    | .stored id =>
      if s.handled id then some { s with cpc := .idle }
      else some { s with cpc := .idle, handled := upd s.handled id true, done := upd s.done id true }
    | _ => none
  | .doOther =>
    match s.cpc with
    | .got .empty => some { s with cpc := .idle }
    | .got (.user _) => some { s with cpc := .idle }
    | _ => none
  | .redo id =>
    match s.cpc with
    | .idle => if s.handled id then some { s with cpc := .got (.cb id) } else none
    | _ => none

/-- disabled actions are skipped, so every list of actions is an execution -/
def stepD (s : State) (a : Act) : State := (step s a).getD s

def run (cap : Nat) (acts : List Act) : State := acts.foldl stepD (init cap)

def Reachable (cap : Nat) (s : State) : Prop := ∃ acts, s = run cap acts

/-- Get2 on a task value: `none` = the caller is blocked in wg.Wait(); a user task is opaque. -/
def get2 (s : State) : TaskRef → Option Pair
  | .empty => some nilPair
  | .cb id => if s.done id then some (s.result id) else none
  | .user _ => none

/-! ### option.go — `NewQueue(options...)`

    createOptions: opts := options{size: 8}; every option function is applied left to right;
    WithSize(n) sets size only if n > 0; WithCloseChan(c) / WithErrorLogger(l) set the field only if the argument is non-nil;
    afterwards a nil closeChan is replaced by a fresh private channel (which nobody else can close) and a nil errLogger by
    the default logger that prints to stderr.  Channels and loggers are identified by numbers; `none` = nil. -/

inductive Opt where
  | withSize (n : Int)
  | withCloseChan (c : Option Nat)
  | withErrorLogger (l : Option Nat)
  deriving Repr

structure Opts where
  size : Int
  closeChan : Option Nat     -- none: still nil → createOptions makes a private one
  errLogger : Option Nat     -- none: still nil → createOptions installs the default stderr logger
  deriving Repr

/-- `size: 8` in createOptions -/
def defaultSize : Int := Got.Facts.lits_taskx_createOptions.headD 0

/-- the `0` of `if size > 0` in WithSize -/
def sizeFloor : Int := Got.Facts.lits_taskx_WithSize.headD 0

def applyOpt (o : Opts) : Opt → Opts
  | .withSize n => if n > sizeFloor then { o with size := n } else o
  | .withCloseChan (some c) => { o with closeChan := some c }
  | .withCloseChan none => o
  | .withErrorLogger (some l) => { o with errLogger := some l }
  | .withErrorLogger none => o

def createOptions (l : List Opt) : Opts := l.foldl applyOpt { size := defaultSize, closeChan := none, errLogger := none }

/-- capacity of `C` of `NewQueue(l...)` -/
def effCap (l : List Opt) : Nat := (createOptions l).size.toNat

end Got.Model.TaskQ
