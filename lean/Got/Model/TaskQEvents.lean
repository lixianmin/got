import Got.Model.TaskQ
import Got.Model.Discipline
/-
C18 for taskx (taskCallback.result / taskCallback.err), derived from the LTS of Got/Model/TaskQ.lean (core Lean only).

For a task id `k` the two plain fields `result`, `err` are treated as ONE location (they are always written and read
together).  An execution is a list of extended actions: the LTS actions of Got.Model.TaskQ plus client calls
`get2 t id` (goroutine `t` calls Get1/Get2 on taskCallback `id`; it returns iff `wg.Wait()` returns, i.e. `done id`).
The trace of `Got.Model.Discipline.Ev` events induced by the execution, defined by recursion alongside the run:

  put p      (select branch `C <- task`, task = k)                      rel (producer p) chanObj
  recv       (consumer `task := <-C`, task = k)                         acq consumer chanObj
  store      (consumer in Do: `task.result, task.err = handler(args)`)  wr consumer
  finish     (consumer in Do: `if !isHandled {…; wg.Done()}`, then `return task.err`)
                                                                        [rel consumer (wgObj k)] (first Do only) ; rd consumer
  get2 t k   (client: `wg.Wait()` returns, `return task.result, task.err`)   acq (client t) (wgObj k) ; rd (client t)

The zero initialisation of the fields by `&taskCallback{handler: handler}` is not an event (the pointer reaches other
goroutines only through the channel send / the return value of SendCallback, both after the allocation).

The LTS allows a second `Do` of a task (`redo`, or the task sent again with SendTask): its `store` is a plain write
while clients may already have read — the limitation documented in task_callback.go ("无法保证Get2()返回的数据是最新的",
"假定Do()方法只可能在同一个goroutine中反复调用").  The theorems of Got/Lemmas/DiscTaskQ.lean are therefore stated for
executions in which the handler of `k` runs at most once (`execCount k ≤ 1`, C18's scope "each task executed once"),
and the negative control (`C18_taskq_second_do_rejected`, Got/Props/C18.lean) shows that a second Do after a client's Get2
is rejected.
-/
namespace Got.Model.TaskQEvents
open Got.Model.TaskQ

abbrev DEv := Got.Model.Discipline.Ev

/-- thread ids: the consumer, producer p, client t -/
def consT : Nat := 0
def prodT (p : Nat) : Nat := 2 * p + 1
def cliT (t : Nat) : Nat := 2 * t + 2

/-- sync objects: the channel `C`, the WaitGroup of task k -/
def chanObj : Nat := 0
def wgObj (k : Nat) : Nat := k + 1

inductive XAct where
  | act (a : Act)                 -- a transition of the TaskQ LTS (skipped when disabled)
  | get2 (t : Nat) (id : Nat)     -- client goroutine t: Get1/Get2 on taskCallback id (no step while blocked in Wait)
  deriving Repr

def xstep (s : State) : XAct → State
  | .act a => stepD s a
  | .get2 _ _ => s

def xrun (s : State) (acts : List XAct) : State := acts.foldl xstep s

/-- events on `result/err` of task k of the step `a` taken in state `s` -/
def evOf (k : Nat) (s : State) : XAct → List DEv
  | .act (.put p) =>
    match s.ppc p with
    | .sel m => if m.task = .cb k ∧ s.chan.length < s.cap then [.rel (prodT p) chanObj] else []
    | _ => []
  | .act .recv =>
    match s.cpc, s.chan with
    | .idle, m :: _ => if m.task = .cb k then [.acq consT chanObj] else []
    | _, _ => []
  | .act .store =>
    match s.cpc with
    | .ran id _ => if id = k then [.wr consT] else []
    | _ => []
  | .act .finish =>
    match s.cpc with
    | .stored id => if id = k then (if s.handled k then [] else [.rel consT (wgObj k)]) ++ [.rd consT] else []
    | _ => []
  | .get2 t id => if id = k ∧ s.done k = true then [.acq (cliT t) (wgObj k), .rd (cliT t)] else []
  | _ => []

/-- the `result/err` trace of task k along the execution `acts` from `s` -/
def resultEvents (k : Nat) (s : State) : List XAct → List DEv
  | [] => []
  | a :: as => evOf k s a ++ resultEvents k (xstep s a) as

/-- number of times the handler of task k was executed by the consumer -/
def execCount (k : Nat) (s : State) : Nat := s.execLog.countP (fun e => decide (e.1 = k))

end Got.Model.TaskQEvents
