import Got.Model.CacheCore
/-
Timed labelled transition system of cachex (cache_impl.go, future.go, cache.go, option.go).

* P workers, job channel = bounded FIFO of size J, S shards each with a mutex, expiries En/Ee.
* One transition = one shared access of the Go code; the critical section of Load
  (Lock; lookup; getFutureStatus; newFuture; insert) is ONE step that leaves the client holding the
  shard lock; `Unlock` and the blocking send of the job are separate steps.  The critical sections
  of Get2 (Lock; lookup; Unlock), Set and of one shard of removeRotted contain no blocking
  operation and are single steps that require the lock to be free.
* `cfg.old = true` is the code before the fix: the job is sent while the lock is held.
* Future.setValue is split at its publication points: (value, err, updateTime) / predecessor := nil / wg.Done.
* Loader invocation (`wStart`) and return (`wEnd`, carrying the returned pair), client invocations,
  ticker ticks and the passage of time are environment actions.
* Ghost components (never read by the non-ghost part): `Fut.bySet`, `Fut.orphan`, `State.jobAt`.
Core Lean only.
-/
namespace Got.Model.Cache
open Got.Model.CacheCore

abbrev Key := Nat
abbrev FutId := Nat
abbrev Cid := Nat
abbrev Wid := Nat

def upd {β : Type} (f : Nat → β) (i : Nat) (v : β) : Nat → β := fun j => if j = i then v else f j

@[simp] theorem upd_same {β : Type} (f : Nat → β) (i : Nat) (v : β) : upd f i v i = v := by simp [upd]
theorem upd_other {β : Type} {f : Nat → β} {i j : Nat} {v : β} (h : j ≠ i) : upd f i v j = f j := by
  simp [upd, h]
theorem upd_apply {β : Type} (f : Nat → β) (i j : Nat) (v : β) : upd f i v j = if j = i then v else f j := rfl

/-- the (value, error) pair of a loader / of Set; both may be nil -/
structure Res where
  val : Option Nat
  err : Option Nat
  deriving DecidableEq, Repr, Inhabited

structure Fut where
  key : Key
  res : Option Res          -- `some` once setValue has published value, err and updateTime
  upd : Nat                 -- updateTime (meaningful when res is some)
  pred : Option FutId       -- predecessor
  done : Bool               -- wg.Done() executed
  bySet : Bool              -- ghost: created by Set
  orphan : Bool             -- ghost: displaced from the map by Set while unresolved
  deriving DecidableEq, Repr, Inhabited

structure Job where
  key : Key
  fut : FutId
  ld : Nat                  -- which loader function (id of the Load call that supplied it)
  deriving DecidableEq, Repr, Inhabited

/-- ghost: where the job of a load-future currently is -/
inductive Loc
  | nowhere | creator (c : Cid) | chan | worker (w : Wid) | finished
  deriving DecidableEq, Repr, Inhabited

/-- what Load does after it has (possibly) sent the job -/
inductive Plan
  | ret (f : FutId)         -- return f
  | fetch (f : FutId)       -- return fetchIfFutureStatusGood(f)
  deriving DecidableEq, Repr, Inhabited

inductive Out
  | fut (f : FutId)                               -- Load returned future f
  | pair (f : Option FutId) (r : Option Res)      -- Get2 / Future.Get2 returned r (read from future f); (none,none) = (nil,nil)
  | unit                                          -- Set returned
  deriving DecidableEq, Repr, Inhabited

inductive CPc
  | idle
  | ldStart (k : Key) (ld : Nat)                            -- Load: before futures.Lock()
  | ldUnlock (sh : Nat) (send : Option Job) (plan : Plan)   -- holds lock sh; next: futures.Unlock()
  | ldSend (j : Job) (plan : Plan) (locked : Option Nat)    -- sendJob (blocking); `some sh` = old variant, lock still held
  | fetch (f : FutId) (forGet : Bool)                       -- fetchIfFutureStatusGood: future.getPredecessor()
  | fetchSt (f : FutId) (p : Option FutId) (forGet : Bool)  -- … getFutureStatus(predecessor)
  | ldRet (f : FutId)                                       -- Load returns f
  | g2Start (k : Key)                                       -- Get2: Lock; lookup; Unlock
  | g2Status (f : Option FutId)                             -- Get2: getFutureStatus(future) and the switch
  | wait (f : FutId)                                        -- Future.Get2: wg.Wait(), then return (value, err)
  | retNil                                                  -- Get2 returns nil, nil
  | setStart (k : Key) (r : Res)                            -- Set: the whole critical section
  | setRet
  | done (o : Out)
  deriving DecidableEq, Repr, Inhabited

inductive WPc
  | idle                          -- in the select
  | got (j : Job)                 -- received a job, about to call job.loader(job.key)
  | running (j : Job)             -- inside the loader
  | publish (j : Job) (r : Res)   -- setValue: value, err, updateTime
  | clearPred (j : Job)           -- setValue: predecessor := nil
  | wgDone (j : Job)              -- setValue: wg.Done()
  | sweep (i : Nat)               -- removeRotted: about to lock shard i
  deriving DecidableEq, Repr, Inhabited

structure Cfg where
  P : Nat
  J : Nat
  S : Nat
  En : Nat
  Ee : Nat
  shardOf : Key → Nat
  old : Bool := false

structure State where
  now : Nat
  lock : Nat → Option Cid
  map : Key → Option FutId
  fut : FutId → Fut
  nfut : Nat
  chan : List Job
  tickPending : Bool
  cpc : Cid → CPc
  wpc : Wid → WPc
  jobAt : FutId → Loc

def emptyFut : Fut := { key := 0, res := none, upd := 0, pred := none, done := false, bySet := false, orphan := false }

def init : State :=
  { now := 0, lock := fun _ => none, map := fun _ => none, fut := fun _ => emptyFut, nfut := 0, chan := [],
    tickPending := false, cpc := fun _ => .idle, wpc := fun _ => .idle, jobAt := fun _ => .nowhere }

inductive Act
  | invLoad (c : Cid) (k : Key) (ld : Nat)
  | invGet2 (c : Cid) (k : Key)
  | invSet (c : Cid) (k : Key) (r : Res)
  | invFGet (c : Cid) (of : Cid)     -- Future.Get2 on the future that the (returned) Load call `of` handed out
  | cl (c : Cid)                  -- next step of client c
  | wTake (w : Wid)               -- worker: `case job := <-jobChan`
  | wTick (w : Wid)               -- worker: `case <-gcTicker.C`
  | wStart (w : Wid)              -- worker calls job.loader(job.key)
  | wEnd (w : Wid) (r : Res)      -- the loader returns r
  | wk (w : Wid)                  -- next step of worker w (setValue steps, sweep of one shard)
  | tick                          -- the ticker delivers a tick (dropped if one is pending)
  | delay (d : Nat)
  deriving DecidableEq, Repr

def view (f : Fut) : FutView :=
  { resolved := f.res.isSome, upd := f.upd, hasErr := (f.res.bind (·.err)).isSome }

/-- getFutureStatus(future) evaluated in state s -/
def statusAt (cfg : Cfg) (s : State) (o : Option FutId) : Status :=
  statusOf s.now cfg.En cfg.Ee (o.map (fun f => view (s.fut f)))

def planPc : Plan → CPc
  | .ret f => .ldRet f
  | .fetch f => .fetch f false

def newLoadFut (k : Key) (pred : Option FutId) : Fut :=
  { key := k, res := none, upd := 0, pred := pred, done := false, bySet := false, orphan := false }

/-- what the critical section of Load decides, as a function of the looked-up entry and its status -/
structure LoadOut where
  create : Bool               -- insert a new future (and send one job)
  pred : Option FutId         -- predecessor of the new future
  pc : CPc                    -- where the client continues
  deriving DecidableEq, Repr

def loadOut (old : Bool) (sh : Nat) (last : Option FutId) (st : Status) (nf : FutId) (k : Key) (ld : Nat) : LoadOut :=
  let d := loadDecide st
  let plan : Plan :=
    match last, d.ret with
    | some l, .last => .ret l
    | some l, .fetchLast => .fetch l
    | _, _ => .ret nf
  if d.create then
    let j : Job := { key := k, fut := nf, ld := ld }
    { create := true, pred := if d.predLast then last else none,
      pc := if old then .ldSend j plan (some sh) else .ldUnlock sh (some j) plan }
  else
    { create := false, pred := none, pc := .ldUnlock sh none plan }

/-- the state update of Load's critical section for a given decision -/
def applyLoad (sh : Nat) (s : State) (c : Cid) (k : Key) (o : LoadOut) : State :=
  let nf := s.nfut
  if o.create then
    { s with
      lock := upd s.lock sh (some c)
      fut := upd s.fut nf (newLoadFut k o.pred)
      map := upd s.map k (some nf)
      nfut := nf + 1
      jobAt := upd s.jobAt nf (.creator c)
      cpc := upd s.cpc c o.pc }
  else
    { s with
      lock := upd s.lock sh (some c)
      cpc := upd s.cpc c o.pc }

/-- the critical section of Load (cache_impl.go:127-140); the caller has checked that the lock is free -/
def loadCS (cfg : Cfg) (s : State) (c : Cid) (k : Key) (ld : Nat) : State :=
  let sh := cfg.shardOf k
  applyLoad sh s c k (loadOut cfg.old sh (s.map k) (statusAt cfg s (s.map k)) s.nfut k ld)

/-- ghost: Set marks the unresolved future it displaces as orphaned -/
def orphanMark (fut : FutId → Fut) : Option FutId → FutId → Fut
  | some l => if (fut l).res.isNone then upd fut l { fut l with orphan := true } else fut
  | none => fut

/-- the critical section of Set (cache_impl.go:76-82) -/
def setCS (s : State) (c : Cid) (k : Key) (r : Res) : State :=
  let nf := s.nfut
  { s with
    fut := upd (orphanMark s.fut (s.map k)) nf
      { key := k, res := some r, upd := s.now, pred := none, done := true, bySet := true, orphan := false }
    map := upd s.map k (some nf)
    nfut := nf + 1
    jobAt := upd s.jobAt nf .finished
    cpc := upd s.cpc c .setRet }

/-- removeRotted on shard i -/
def sweepShard (cfg : Cfg) (s : State) (i : Nat) : Key → Option FutId :=
  fun k => if cfg.shardOf k = i && sweepRemoves (statusAt cfg s (s.map k)) then none else s.map k

def setPc (s : State) (c : Cid) (pc : CPc) : State := { s with cpc := upd s.cpc c pc }
def setWpc (s : State) (w : Wid) (pc : WPc) : State := { s with wpc := upd s.wpc w pc }

/-- fetchIfFutureStatusGood(f) given the predecessor read from f and the predecessor's status -/
def fetchTarget (f : FutId) (p : Option FutId) (predStatus : Status) : FutId :=
  match p with
  | some q => if fetchChoosesPred predStatus then q else f
  | none => f

/-- where Get2 continues after getFutureStatus(future) -/
def g2Next (st : Status) (o : Option FutId) : CPc :=
  match get2Decide st, o with
  | .fetch, some f => .fetch f true
  | .wait, some f => .wait f
  | _, _ => .retNil

def clStep (cfg : Cfg) (s : State) (c : Cid) : Option State :=
  match s.cpc c with
  | .idle => none
  | .done _ => none
  | .ldStart k ld =>
    if (s.lock (cfg.shardOf k)).isNone then some (loadCS cfg s c k ld) else none
  | .ldUnlock sh send plan =>
    let s1 := { s with lock := upd s.lock sh none }
    match send with
    | some j => some (setPc s1 c (.ldSend j plan none))
    | none => some (setPc s1 c (planPc plan))
  | .ldSend j plan lk =>
    if s.chan.length < cfg.J then
      let s1 := { s with chan := s.chan ++ [j], jobAt := upd s.jobAt j.fut .chan }
      match lk with
      | some sh => some (setPc s1 c (.ldUnlock sh none plan))
      | none => some (setPc s1 c (planPc plan))
    else none
  | .fetch f g => some (setPc s c (.fetchSt f (s.fut f).pred g))
  | .fetchSt f p g =>
    let tgt : FutId := fetchTarget f p (statusAt cfg s p)
    some (setPc s c (if g then .wait tgt else .ldRet tgt))
  | .ldRet f => some (setPc s c (.done (.fut f)))
  | .g2Start k =>
    if (s.lock (cfg.shardOf k)).isNone then some (setPc s c (.g2Status (s.map k))) else none
  | .g2Status o => some (setPc s c (g2Next (statusAt cfg s o) o))
  | .wait f =>
    if (s.fut f).done then some (setPc s c (.done (.pair (some f) (s.fut f).res))) else none
  | .retNil => some (setPc s c (.done (.pair none none)))
  | .setStart k r =>
    if (s.lock (cfg.shardOf k)).isNone then some (setCS s c k r) else none
  | .setRet => some (setPc s c (.done .unit))

def wkStep (cfg : Cfg) (s : State) (w : Wid) : Option State :=
  match s.wpc w with
  | .publish j r =>
    some (setWpc { s with fut := upd s.fut j.fut { s.fut j.fut with res := some r, upd := s.now } } w (.clearPred j))
  | .clearPred j =>
    some (setWpc { s with fut := upd s.fut j.fut { s.fut j.fut with pred := none } } w (.wgDone j))
  | .wgDone j =>
    some (setWpc { s with fut := upd s.fut j.fut { s.fut j.fut with done := true },
                          jobAt := upd s.jobAt j.fut .finished } w .idle)
  | .sweep i =>
    if (s.lock i).isNone then
      some (setWpc { s with map := sweepShard cfg s i } w (if i + 1 < cfg.S then .sweep (i + 1) else .idle))
    else none
  | _ => none

/-- `none` = the action is not enabled -/
def step? (cfg : Cfg) (s : State) : Act → Option State
  | .invLoad c k ld => match s.cpc c with | .idle => some (setPc s c (.ldStart k ld)) | _ => none
  | .invGet2 c k => match s.cpc c with | .idle => some (setPc s c (.g2Start k)) | _ => none
  | .invSet c k r => match s.cpc c with | .idle => some (setPc s c (.setStart k r)) | _ => none
  | .invFGet c o =>
    match s.cpc c, s.cpc o with
    | .idle, .done (.fut f) => some (setPc s c (.wait f))
    | _, _ => none
  | .cl c => clStep cfg s c
  | .wTake w =>
    if w < cfg.P then
      match s.wpc w, s.chan with
      | .idle, j :: rest => some (setWpc { s with chan := rest, jobAt := upd s.jobAt j.fut (.worker w) } w (.got j))
      | _, _ => none
    else none
  | .wTick w =>
    if w < cfg.P then
      match s.wpc w with
      | .idle => if s.tickPending then some (setWpc { s with tickPending := false } w (.sweep 0)) else none
      | _ => none
    else none
  | .wStart w => match s.wpc w with | .got j => some (setWpc s w (.running j)) | _ => none
  | .wEnd w r => match s.wpc w with | .running j => some (setWpc s w (.publish j r)) | _ => none
  | .wk w => wkStep cfg s w
  | .tick => some { s with tickPending := true }
  | .delay d => some { s with now := s.now + d }

/-- Contract violations of the public calls: Load(key, nil), Load/Get2/Set(nil, …), a key of an unsupported type.
    In the current code the assertion (`assert(key != nil)`, `assert(loader != nil)`, first statements of Load / Get2 /
    Set) or the panic of GetShardingIndex fires BEFORE the shard lock is taken and before any shared access. -/
inductive Contract
  | nilLoader | nilKey | badKeyType
  deriving DecidableEq, Repr

/-- the panicking call as a transition: it changes nothing (the caller may recover and go on using the cache) -/
def contractPanic (s : State) (_ : Contract) : State := s

/-- total step: an action that is not enabled is a no-op -/
def step (cfg : Cfg) (s : State) (a : Act) : State := (step? cfg s a).getD s

def run (cfg : Cfg) (s : State) (acts : List Act) : State := acts.foldl (step cfg) s

def Reachable (cfg : Cfg) (s : State) : Prop := ∃ acts, run cfg init acts = s

/-- client / worker / loader transitions (everything except invocations, ticks and the clock) -/
def Act.isProgress : Act → Bool
  | .cl _ | .wTake _ | .wTick _ | .wStart _ | .wEnd _ _ | .wk _ => true
  | _ => false

end Got.Model.Cache
